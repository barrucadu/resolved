/-
  C03 — The wire decoder.  For domain names it accepts exactly the declarative grammar `WireName` of
  Spec/Wire.lean (labels, pointers strictly backwards, at most 255 octets) and reads them as the
  grammar says; for questions, records, sections and messages the theorems say which reads at which
  positions a successful decode consists of (the counts and RDLENGTH exact), in terms of the decoders
  one level down, not of a grammar; every error carries the header ID of the message being decoded.
-/
import Resolved.Proofs.WireDecodeLemmas

namespace Resolved

open Gen

/-! ## 1. Error IDs -/

/-- A buffer shorter than the two ID octets is `CompletelyBusted`, the one error without an ID (the converse is
    `C03_no_id_iff_short`). -/
theorem C03_short_is_busted (buf : List UInt8) (h : buf.length < 2) :
    decodeMessage buf = .error .completelyBusted := by
  unfold decodeMessage
  have : nextU16 buf 0 = none := by
    unfold nextU16; rw [dif_neg (by omega)]
  rw [this]

/-- Every decoding error of a buffer of two octets or more carries the header ID, the big-endian value of
    the first two octets. -/
theorem C03_id_on_error (buf : List UInt8) (e : DErr) (h : decodeMessage buf = .error e)
    (h2 : 2 ≤ buf.length) :
    e.id = some ((buf[0]'(by omega)).toNat * 256 + (buf[1]'(by omega)).toNat) := by
  have hid : nextU16 buf 0 =
      some ((buf[0]'(by omega)).toNat * 256 + (buf[1]'(by omega)).toNat, 2) := by
    unfold nextU16; rw [dif_pos (by omega)]
  exact decodeMessage_err_id hid h

/-- Conversely an error without an ID can only come from a buffer of fewer than two octets. -/
theorem C03_no_id_iff_short (buf : List UInt8) (e : DErr) (h : decodeMessage buf = .error e) :
    e.id = none ↔ buf.length < 2 := by
  constructor
  · intro hnone
    apply Classical.byContradiction
    intro hlen
    have := C03_id_on_error buf e h (by omega)
    rw [hnone] at this
    cases this
  · intro hlen
    rw [C03_short_is_busted buf hlen] at h
    cases h
    rfl

/-- The component decoders only ever fail with the ID they were handed. -/
theorem C03_component_error_ids (id : Nat) (buf : List UInt8) (pos : Nat) (e : DErr) :
    (decodeName id buf pos = .error e → e.id = some id) ∧
    (decodeQuestion id buf pos = .error e → e.id = some id) ∧
    (decodeRR id buf pos = .error e → e.id = some id) :=
  ⟨decodeName_err_id, decodeQuestion_err_id, decodeRR_err_id⟩

/-- The name loop fails with the ID it was handed in any loop state (start offset, accumulated length and
    labels), not only when entered through `decodeName`. -/
theorem C03_nameLoop_error_id (id : Nat) (buf : List UInt8) (start pos len : Nat)
    (labels : List Label) (e : DErr)
    (h : decodeNameLoop id buf start pos len labels = .error e) : e.id = some id :=
  decodeNameLoop_err_id id buf start pos len labels e h

theorem C03_fields_error_id (id : Nat) (buf : List UInt8) (rdlength : Nat) (fs : List Field)
    (pos : Nat) (e : DErr) (h : decodeFields id buf rdlength fs pos = .error e) :
    e.id = some id :=
  decodeFields_err_id fs h

theorem C03_section_error_id (id : Nat) (buf : List UInt8) (k pos : Nat) (e : DErr) :
    (decodeMany (decodeQuestion id buf) k pos = .error e → e.id = some id) ∧
    (decodeMany (decodeRR id buf) k pos = .error e → e.id = some id) :=
  ⟨decodeMany_err_id (fun _ _ => decodeQuestion_err_id) k,
   decodeMany_err_id (fun _ _ => decodeRR_err_id) k⟩

/-! ## 2. Positions, section lengths, RDLENGTH -/

/-- A successfully decoded name, question or record consumes at least one octet and ends inside
    the buffer. -/
theorem C03_positions_advance (id : Nat) (buf : List UInt8) (pos e : Nat) :
    (∀ n, decodeName id buf pos = .ok (n, e) → pos < e ∧ e ≤ buf.length) ∧
    (∀ q, decodeQuestion id buf pos = .ok (q, e) → pos < e ∧ e ≤ buf.length) ∧
    (∀ rr, decodeRR id buf pos = .ok (rr, e) → pos < e ∧ e ≤ buf.length) :=
  ⟨fun _ => decodeName_bounds, fun _ => decodeQuestion_bounds, fun _ => decodeRR_bounds⟩

theorem C03_many_length {α : Type} (dec : Nat → Except DErr (α × Nat)) (k pos : Nat) (xs : List α)
    (e : Nat) (h : decodeMany dec k pos = .ok (xs, e)) : xs.length = k :=
  decodeMany_length k h

/-- A question section / record section of count `k` starting inside the buffer consumes at least
    `k` octets and ends inside the buffer. -/
theorem C03_section_positions (id : Nat) (buf : List UInt8) (k pos e : Nat) (hpos : pos ≤ buf.length) :
    (∀ qs, decodeMany (decodeQuestion id buf) k pos = .ok (qs, e) → pos + k ≤ e ∧ e ≤ buf.length) ∧
    (∀ rs, decodeMany (decodeRR id buf) k pos = .ok (rs, e) → pos + k ≤ e ∧ e ≤ buf.length) := by
  constructor
  · intro qs h
    have := decodeMany_bounds (N := buf.length) (fun _ _ _ => decodeQuestion_bounds) k h
    exact ⟨this.1, this.2 (.inl hpos)⟩
  · intro rs h
    have := decodeMany_bounds (N := buf.length) (fun _ _ _ => decodeRR_bounds) k h
    exact ⟨this.1, this.2 (.inl hpos)⟩

/-- In a decoded message the four sections are exactly as long as the big-endian counts at
    offsets 4, 6, 8 and 10 of the header say, the header ID is the first two octets, and the
    buffer holds at least the 12 header octets. -/
theorem C03_section_counts (buf : List UInt8) (m : Message) (h : decodeMessage buf = .ok m) :
    12 ≤ buf.length ∧
    nextU16 buf 0 = some (m.header.id, 2) ∧
    nextU16 buf 4 = some (m.questions.length, 6) ∧
    nextU16 buf 6 = some (m.answers.length, 8) ∧
    nextU16 buf 8 = some (m.authority.length, 10) ∧
    nextU16 buf 10 = some (m.additional.length, 12) :=
  let ⟨h12, hid, _, hcounts⟩ := decodeMessage_header h
  ⟨h12, hid, hcounts⟩

/-- A successfully decoded record is NAME, TYPE, CLASS, TTL, RDLENGTH (big-endian, in that order)
    followed by RDATA fields laid out as the type's layout says, and the RDATA fields consumed
    exactly RDLENGTH octets: the record ends at `RDLENGTH-offset + 2 + RDLENGTH`. -/
theorem C03_rdlength_exact (id : Nat) (buf : List UInt8) (pos : Nat) (rr : RR) (e : Nat)
    (h : decodeRR id buf pos = .ok (rr, e)) :
    ∃ p1 rdlength,
      decodeName id buf pos = .ok (rr.name, p1) ∧
      nextU16 buf p1 = some (rr.rtype, p1 + 2) ∧
      nextU16 buf (p1 + 2) = some (rr.rclass, p1 + 4) ∧
      nextU32 buf (p1 + 4) = some (rr.ttl, p1 + 8) ∧
      nextU16 buf (p1 + 8) = some (rdlength, p1 + 8 + 2) ∧
      decodeFields id buf rdlength (decodeLayoutOf rr.rtype) (p1 + 8 + 2) = .ok (rr.fields, e) ∧
      e = p1 + 8 + 2 + rdlength ∧ e ≤ buf.length := by
  obtain ⟨p1, rdlength, h1, h2, h3, h4, h5, h6, h7⟩ := (decodeRR_ok_iff id buf pos rr e).mp h
  exact ⟨p1, rdlength, h1, h2, h3, h4, h5, h6, h7, (decodeRR_bounds h).2⟩

/-- A successfully decoded question is NAME, QTYPE, QCLASS and nothing more. -/
theorem C03_question_layout (id : Nat) (buf : List UInt8) (pos : Nat) (q : Question) (e : Nat)
    (h : decodeQuestion id buf pos = .ok (q, e)) :
    ∃ p1, decodeName id buf pos = .ok (q.name, p1) ∧
      nextU16 buf p1 = some (q.qtype, p1 + 2) ∧
      nextU16 buf (p1 + 2) = some (q.qclass, p1 + 4) ∧ e = p1 + 4 :=
  (decodeQuestion_ok_iff id buf pos q e).mp h

/-! ## 3. Soundness of the name decoder against the grammar -/

/-- Whatever the loop accepts is a grammatical name: the labels and length it adds to its
    accumulators are those of a `WireName` standing at `pos`, and the total is within 255. -/
theorem C03_name_sound (id : Nat) (buf : List UInt8) (start pos len : Nat) (labels : List Label)
    (n : Name) (e : Nat) (h : decodeNameLoop id buf start pos len labels = .ok (n, e)) :
    ∃ ls l, WireName buf start pos ls l e ∧ n.labels = labels ++ ls ∧ n.len = len + l ∧
      n.len ≤ 255 :=
  decodeNameLoop_sound id buf start pos len labels n e h

/-- `decodeName` returns the labels, the length and the end position the grammar assigns. -/
theorem C03_decodeName_sound (id : Nat) (buf : List UInt8) (pos : Nat) (n : Name) (e : Nat)
    (h : decodeName id buf pos = .ok (n, e)) :
    WireName buf pos pos n.labels n.len e ∧ n.len ≤ 255 :=
  decodeName_sound h

/-! ## 4. Decoded names are well-formed -/

/-- Every name of the grammar has the `from_labels` shape (non-empty, ends in the root label, no
    other empty label), lower-cased labels of at most 63 octets, and `len` = encoded length. -/
theorem C03_wirename_wf (buf : List UInt8) (s p : Nat) (ls : List Label) (l e : Nat)
    (h : WireName buf s p ls l e) :
    LabelsShape ls ∧ (∀ x ∈ ls, LabelOK x) ∧ l = ls.length + sumLen ls :=
  h.wf

theorem C03_name_wf (id : Nat) (buf : List UInt8) (pos : Nat) (n : Name) (e : Nat)
    (h : decodeName id buf pos = .ok (n, e)) : NameWF n :=
  decodeName_wf h

/-- Every name field inside decoded RDATA is well-formed too. -/
theorem C03_field_name_wf (id : Nat) (buf : List UInt8) (rdlength : Nat) (f : Field) (pos : Nat)
    (n : Name) (e : Nat) (h : decodeField id buf rdlength f pos = .ok (.name n, e)) : NameWF n := by
  have hi := decodeField_inv h
  -- only the name reader yields a `.name`
  cases f
  case name c => obtain ⟨n', hx, hv⟩ := hi; cases hv; exact decodeName_wf hx
  all_goals obtain ⟨_, _, hv⟩ := hi; cases hv

/-- All owner names of a decoded message (question names and record names of the three record
    sections) are well-formed. -/
theorem C03_message_names_wf (buf : List UInt8) (m : Message) (h : decodeMessage buf = .ok m) :
    (∀ q ∈ m.questions, NameWF q.name) ∧ (∀ r ∈ m.answers, NameWF r.name) ∧
    (∀ r ∈ m.authority, NameWF r.name) ∧ (∀ r ∈ m.additional, NameWF r.name) :=
  let ⟨_, hq, ha, hn, hr⟩ := decodeMessage_wf h
  ⟨fun q hm => (hq q hm).1, fun r hm => (ha r hm).1, fun r hm => (hn r hm).1, fun r hm => (hr r hm).1⟩

/-! ## 5. Completeness and "accepts exactly" for names; what a decoded question, record, message consists of -/

/-- Every `WireName` whose length keeps the accumulated total within 255 is accepted, with the
    labels, length and end position the grammar assigns. -/
theorem C03_name_complete (id : Nat) (buf : List UInt8) (start pos : Nat) (ls : List Label)
    (l e len : Nat) (labels : List Label) (h : WireName buf start pos ls l e)
    (hle : len + l ≤ 255) :
    decodeNameLoop id buf start pos len labels = .ok (⟨labels ++ ls, len + l⟩, e) :=
  decodeNameLoop_complete id h len labels hle

/-- "Accepts exactly": `decodeName` succeeds with `(n, e)` iff the grammar puts the name `n`
    (labels and length) at `pos`, ending at `e`, and the name is at most 255 octets long. -/
theorem C03_decodeName_iff (id : Nat) (buf : List UInt8) (pos : Nat) (n : Name) (e : Nat) :
    decodeName id buf pos = .ok (n, e) ↔ WireName buf pos pos n.labels n.len e ∧ n.len ≤ 255 :=
  ⟨decodeName_sound, fun ⟨hw, hle⟩ => decodeNameLoop_of_wireName id hw hle⟩

/-- A rejected name is not in the grammar (within the 255-octet limit): rejection is never
    spurious. -/
theorem C03_decodeName_rejects (id : Nat) (buf : List UInt8) (pos : Nat) (err : DErr)
    (h : decodeName id buf pos = .error err) :
    ¬ ∃ ls l e, WireName buf pos pos ls l e ∧ l ≤ 255 := by
  intro ⟨ls, l, e, hw, hle⟩
  have := decodeNameLoop_of_wireName id (n := ⟨ls, l⟩) hw hle
  unfold decodeName at h
  rw [this] at h
  cases h

/-- Whether and what a name decodes to does not depend on the header ID (the ID only labels
    errors). -/
theorem C03_decodeName_id_irrelevant (id id' : Nat) (buf : List UInt8) (pos : Nat) (n : Name)
    (e : Nat) (h : decodeName id buf pos = .ok (n, e)) : decodeName id' buf pos = .ok (n, e) :=
  (C03_decodeName_iff id' buf pos n e).mpr ((C03_decodeName_iff id buf pos n e).mp h)

/-- A question decodes to `(q, e)` iff a name decodes at `pos`, QTYPE and QCLASS are read big-endian
    behind it, and `e` is the offset after QCLASS (the right side speaks of `decodeName`; with
    `C03_decodeName_iff` the name is one of the grammar). -/
theorem C03_question_iff (id : Nat) (buf : List UInt8) (pos : Nat) (q : Question) (e : Nat) :
    decodeQuestion id buf pos = .ok (q, e) ↔
      ∃ p1, decodeName id buf pos = .ok (q.name, p1) ∧
        nextU16 buf p1 = some (q.qtype, p1 + 2) ∧
        nextU16 buf (p1 + 2) = some (q.qclass, p1 + 4) ∧ e = p1 + 4 :=
  decodeQuestion_ok_iff id buf pos q e

/-- A record decodes to `(rr, e)` iff NAME TYPE CLASS TTL RDLENGTH are read at `pos` in that order, the
    RDATA fields of the type's layout decode from there (`decodeFields`, the model's own loop), and they
    end exactly RDLENGTH octets after the RDLENGTH field. -/
theorem C03_rr_iff (id : Nat) (buf : List UInt8) (pos : Nat) (rr : RR) (e : Nat) :
    decodeRR id buf pos = .ok (rr, e) ↔
      ∃ p1 rdlength,
        decodeName id buf pos = .ok (rr.name, p1) ∧
        nextU16 buf p1 = some (rr.rtype, p1 + 2) ∧
        nextU16 buf (p1 + 2) = some (rr.rclass, p1 + 4) ∧
        nextU32 buf (p1 + 4) = some (rr.ttl, p1 + 8) ∧
        nextU16 buf (p1 + 8) = some (rdlength, p1 + 10) ∧
        decodeFields id buf rdlength (decodeLayoutOf rr.rtype) (p1 + 10) = .ok (rr.fields, e) ∧
        e = p1 + 10 + rdlength :=
  decodeRR_ok_iff id buf pos rr e

/-- A buffer decodes to `m` iff it starts with the 12-octet header (ID, two flag octets, four big-endian
    counts) and the four sections decode back to back, each with its count (`decodeMany`, the model's
    own loop, over the question and record decoders). -/
theorem C03_message_iff (buf : List UInt8) (m : Message) :
    decodeMessage buf = .ok m ↔
      ∃ id f1 f2 qd an ns ar p8 p9 p10 p11,
        nextU16 buf 0 = some (id, 2) ∧ nextU8 buf 2 = some (f1, 3) ∧ nextU8 buf 3 = some (f2, 4) ∧
        nextU16 buf 4 = some (qd, 6) ∧ nextU16 buf 6 = some (an, 8) ∧
        nextU16 buf 8 = some (ns, 10) ∧ nextU16 buf 10 = some (ar, 12) ∧
        m.header = decodeFlags id f1 f2 ∧
        decodeMany (decodeQuestion id buf) qd 12 = .ok (m.questions, p8) ∧
        decodeMany (decodeRR id buf) an p8 = .ok (m.answers, p9) ∧
        decodeMany (decodeRR id buf) ns p9 = .ok (m.authority, p10) ∧
        decodeMany (decodeRR id buf) ar p10 = .ok (m.additional, p11) :=
  decodeMessage_ok_iff buf m

/-! ## 6. Pointer nesting depth -/

/-- Each pointer target is strictly before the start of the name containing the pointer, so the
    nesting depth of pointer expansion is at most the start offset. -/
theorem C03_pointer_depth (buf : List UInt8) (start pos d : Nat)
    (h : WireNameDepth buf start pos d) : d ≤ start := by
  induction h with
  | root _ => exact Nat.zero_le _
  | label _ _ _ _ ih => exact ih
  | ptr _ _ _ hlt _ ih => exact Nat.lt_of_le_of_lt ih hlt

/-- A pointer target is a 14-bit offset, so with `C03_pointer_depth` no name nests pointers deeper than 16 383. -/
theorem C03_pointer_14bit (b lo : UInt8) : (b.toNat % 64) * 256 + lo.toNat < 16384 := by
  have := lo.toNat_lt
  omega

/-- Every successful run of the name decoder has a pointer-nesting depth (which by
    `C03_pointer_depth` is at most `start`). -/
theorem C03_decoder_depth (id : Nat) (buf : List UInt8) (start pos len : Nat) (labels : List Label)
    (n : Name) (e : Nat) (h : decodeNameLoop id buf start pos len labels = .ok (n, e)) :
    ∃ d, WireNameDepth buf start pos d ∧ d ≤ start := by
  obtain ⟨ls, l, hw, _⟩ := decodeNameLoop_sound id buf start pos len labels n e h
  obtain ⟨d, hd⟩ := hw.depth
  exact ⟨d, hd, C03_pointer_depth buf start pos d hd⟩

/-! ## 7. The grammar is deterministic -/

/-- At a given offset (and start bound) the grammar assigns at most one name, length and end
    position, so any decoder that follows RFC 1035 §4.1.4 must read what this one reads. -/
theorem C03_name_functional (buf : List UInt8) (s p : Nat) (ls ls' : List Label) (l l' e e' : Nat)
    (h : WireName buf s p ls l e) (h' : WireName buf s p ls' l' e') :
    ls = ls' ∧ l = l' ∧ e = e' :=
  h.functional h'

/-! ## Non-vacuity: concrete buffers

  `decodeNameLoop` is defined by well-founded recursion, which the kernel does not unfold, so the
  decoder examples are not closed by `decide`: successful decodes go through the `iff` theorems with
  the offsets as witnesses (names through the grammar; one name is read a second time by `simp`, to
  show that the defining equations suffice), error paths through `simp` with the defining equations;
  the grammar examples are explicit derivations. -/

/-- section 1: one octet is `CompletelyBusted` (no ID). -/
example : decodeMessage [(0x12 : UInt8)] = .error .completelyBusted :=
  C03_short_is_busted _ (by decide)

/-- section 1: a truncated header reports the ID 0x1234 = 4660. -/
example : decodeMessage [(0x12 : UInt8), 0x34, 0] = .error (.headerTooShort 4660) := by
  simp [decodeMessage, nextU16, nextU8]

/-- section 1: so does a name error deep inside the question section (label of 3 octets, 1 present). -/
example : decodeMessage [(0x12 : UInt8), 0x34, 1, 0, 0, 1, 0, 0, 0, 0, 0, 0, 3, 97] =
    .error (.domainTooShort 4660) := by
  simp [decodeMessage, nextU16, nextU8, decodeMany, decodeQuestion, decodeName, decodeNameLoop, LABEL_MAX_LEN_eq]

/-- section 1: the ID of that error is the right side of `C03_id_on_error` on these buffers, the
    big-endian value of the octets `0x12 0x34`. -/
example : (DErr.domainTooShort 4660).id = some ((0x12 : UInt8).toNat * 256 + (0x34 : UInt8).toNat) := by
  decide

/-- sections 3/5/7: "A." at offset 0 is the name `a.` (lower-cased), 3 octets, ending at 3. -/
example : WireName [(1 : UInt8), 65, 0, 1, 66, 192, 0] 0 0 [[97], []] 3 3 :=
  WireName.label (sz := 1) (by decide) (by decide) (by decide) (by decide) (WireName.root (by decide))

/-- sections 3/5/7: at offset 3 of the same buffer stands "B" followed by a pointer to offset 0: the name
    `b.a.`, 5 octets, whose in-place encoding ends at 7.  Named because the next two examples use it. -/
theorem C03ex.wireName_ba : WireName [(1 : UInt8), 65, 0, 1, 66, 192, 0] 3 3 [[98], [97], []] 5 7 :=
  WireName.label (sz := 1) (by decide) (by decide) (by decide) (by decide)
    (WireName.ptr (b := 192) (lo := 0) (by decide) (by decide) (by decide) (by decide)
      (WireName.label (sz := 1) (by decide) (by decide) (by decide) (by decide)
        (WireName.root (by decide))))

example : WireName [(1 : UInt8), 65, 0, 1, 66, 192, 0] 3 3 [[98], [97], []] 5 7 := C03ex.wireName_ba

/-- sections 3/5: the decoder reads exactly `C03ex.wireName_ba` (via the completeness theorem). -/
example : decodeName 7 [(1 : UInt8), 65, 0, 1, 66, 192, 0] 3 = .ok (⟨[[98], [97], []], 5⟩, 7) :=
  (C03_decodeName_iff 7 _ 3 ⟨[[98], [97], []], 5⟩ 7).mpr ⟨C03ex.wireName_ba, by decide⟩

/-- sections 3/5: the same decode directly from the defining equations. -/
example : decodeName 7 [(1 : UInt8), 65, 0, 1, 66, 192, 0] 3 = .ok (⟨[[98], [97], []], 5⟩, 7) := by
  simp [decodeName, decodeNameLoop, finishName, LABEL_MAX_LEN_eq, DOMAINNAME_MAX_LEN_eq, lowerByte]

/-- section 4: the decoded name is well-formed (instance of `C03_name_wf`, checked independently). -/
example : NameWF ⟨[[98], [97], []], 5⟩ := by unfold NameWF; decide

/-- section 6: that derivation has pointer depth 1 ≤ start = 3. -/
example : WireNameDepth [(1 : UInt8), 65, 0, 1, 66, 192, 0] 3 3 1 :=
  WireNameDepth.label (sz := 1) (by decide) (by decide) (by decide)
    (WireNameDepth.ptr (b := 192) (lo := 0) (by decide) (by decide) (by decide) (by decide)
      (WireNameDepth.label (sz := 1) (by decide) (by decide) (by decide)
        (WireNameDepth.root (by decide))))

/-- sections 3/6: a pointer to itself (or forwards) is rejected, not followed. -/
example : decodeName 7 [(192 : UInt8), 0] 0 = .error (.domainPointerInvalid 7) := by
  simp [decodeName, decodeNameLoop, LABEL_MAX_LEN_eq]

/-- section 3: octets 64..191 are not a label length. -/
example : decodeName 7 [(64 : UInt8), 0] 0 = .error (.domainLabelInvalid 7) := by
  simp [decodeName, decodeNameLoop, LABEL_MAX_LEN_eq]

/-- section 2: a whole response (ID 0x1234, QR RD RA, one question `A. IN A`, one answer whose name
    is a pointer to offset 12, TTL 60, RDLENGTH 4, address 10.0.0.1) decodes to one question and
    one answer, as the counts say. -/
example : decodeMessage
    [(0x12 : UInt8), 0x34, 0x81, 0x80, 0, 1, 0, 1, 0, 0, 0, 0,
     1, 65, 0, 0, 1, 0, 1,
     192, 12, 0, 1, 0, 1, 0, 0, 0, 60, 0, 4, 10, 0, 0, 1] =
    .ok { header := { id := 4660, isResponse := true, opcode := 0, isAuthoritative := false,
                      isTruncated := false, recursionDesired := true, recursionAvailable := true,
                      rcode := 0 }
          questions := [{ name := ⟨[[97], []], 3⟩, qtype := 1, qclass := 1 }]
          answers := [{ name := ⟨[[97], []], 3⟩, rtype := 1, fields := [.a 167772161],
                        rclass := 1, ttl := 60 }]
          authority := [], additional := [] } := by
  -- header 0..12, question 12..19 (its name ends at 15), answer 19..35 (its name, a pointer, ends at 21)
  refine (C03_message_iff _ _).mpr ⟨4660, 0x81, 0x80, 1, 1, 0, 0, 19, 35, 35, 35, by decide, by decide,
    by decide, by decide, by decide, by decide, by decide, by decide, ?_, ?_, rfl, rfl⟩
  · refine decodeMany_succ_ok_iff.mpr
      ⟨_, _, _, (C03_question_iff _ _ _ _ _).mpr ⟨15, ?_, by decide, by decide, rfl⟩, rfl, rfl⟩
    exact (C03_decodeName_iff _ _ _ _ _).mpr
      ⟨.label (sz := 1) (by decide) (by decide) (by decide) (by decide) (.root (by decide)), by decide⟩
  · refine decodeMany_succ_ok_iff.mpr ⟨_, _, _, (C03_rr_iff _ _ _ _ _).mpr
      ⟨21, 4, ?_, by decide, by decide, by decide, by decide, rfl, rfl⟩, rfl, rfl⟩
    exact (C03_decodeName_iff _ _ _ _ _).mpr
      ⟨.ptr (b := 192) (lo := 12) (by decide) (by decide) (by decide) (by decide)
        (.label (sz := 1) (by decide) (by decide) (by decide) (by decide) (.root (by decide))), by decide⟩

/-- section 2 (`C03_rdlength_exact`): the same record with RDLENGTH 5 (one octet more than an
    address occupies) is rejected even though the octet is there. -/
example : decodeRR 4660
    [(1 : UInt8), 65, 0, 0, 1, 0, 1, 0, 0, 0, 60, 0, 5, 10, 0, 0, 1, 0] 0 =
    .error (.resourceRecordInvalid 4660) :=
  -- the name ends at 3, RDLENGTH 5 is read at 11..13, the address field ends at 17 ≠ 13 + 5
  decodeRR_rdlength_mismatch (n := ⟨[[97], []], 3⟩) (p1 := 3) (rtype := 1) (rdlength := 5) (stop := 17)
    ((C03_decodeName_iff _ _ _ _ _).mpr
      ⟨.label (sz := 1) (by decide) (by decide) (by decide) (by decide) (.root (by decide)), by decide⟩)
    (by decide : _ = some (1, 5)) (by decide : _ = some (1, 7)) (by decide : _ = some (60, 11))
    (by decide : _ = some (5, 13)) rfl (by decide)

end Resolved
