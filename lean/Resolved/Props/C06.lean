/-
  C06 — Upstream replies are filtered: only records relevant to the question are used.
  Acceptance of a reply, what each kind of result of `validateNameserverResponse` may contain, the
  chain followed by `followCnames`, the capstone against `USpec.checkValidated` (its unconditional
  form refuted), concrete replies for every kind of result, the two transports of `queryNameserver`.
-/
import Resolved.Proofs.UpstreamSpecLemmas
import Resolved.Proofs.ResolverAttempt
import Resolved.Spec.Wire

namespace Resolved

/-- The checks of `response_matches_request` as TRANSLATED FROM THE SOURCE on this run
    (`Gen.responseMatchesChecks`, regenerated by bin/extract.py: every `if … { return false; }` in
    source order, then `true`) are these six, in this order: dropping, weakening or reordering a check
    in the Rust changes the generated list and breaks this.  That the model's `responseMatchesRequest`
    makes the same six checks is read off its definition (and `C06_mismatch_discarded`); this
    statement does not mention it. -/
theorem C06_reply_checks_from_source :
    Gen.responseMatchesChecks = ["id", "qr", "opcode", "tc", "rcode:NoError,NameError", "questions"] ∧
    Gen.responseMatchesEndsTrue = true := ⟨rfl, rfl⟩

/-- A reply is accepted only if ID, response flag, opcode and question match the request, it is not
    truncated, and its rcode is NoError or NameError — and it is accepted whenever all of that
    holds (exact characterisation, so any mismatch discards the reply as a whole). -/
theorem C06_mismatch_discarded (req resp : Message) :
    responseMatchesRequest req resp = true ↔
      (req.header.id = resp.header.id ∧ resp.header.isResponse = true ∧
       req.header.opcode = resp.header.opcode ∧ resp.header.isTruncated = false ∧
       (resp.header.rcode = 0 ∨ resp.header.rcode = 3) ∧ req.questions = resp.questions) :=
  responseMatchesRequest_iff req resp

/-- Whatever the filter returns as an answer or a CNAME step is a sub-list of the reply's answer
    section: nothing from the authority or additional sections, nothing invented. -/
theorem C06_answer_records_from_answer_section (q : Question) (resp : Message) (mc : Nat) :
    (∀ rrs soa, validateNameserverResponse q resp mc = some (.answer rrs soa) → ∀ rr ∈ rrs, rr ∈ resp.answers) ∧
    (∀ rrs c, validateNameserverResponse q resp mc = some (.cname rrs c) → ∀ rr ∈ rrs, rr ∈ resp.answers) := by
  constructor
  · intro rrs soa h rr hrr
    cases soa with
    | none =>
      obtain ⟨fin, cm, _, hr, _⟩ := validate_answer h
      rw [hr] at hrr
      exact (mem_keptRrs.mp hrr).1
    | some s =>
      rw [(validate_nodata h).1] at hrr
      cases hrr
  · intro rrs c h rr hrr
    obtain ⟨cm, _, hr, _⟩ := validate_cname h
    rw [hr] at hrr
    exact (mem_keptRrs.mp hrr).1

/-- A referral is used only if it is strictly closer to the question name than the delegation
    already in use: the chosen zone has more labels than `mc`, encloses the question name, and
    comes with at least one name-server host name. -/
theorem C06_delegation_closer (q : Question) (resp : Message) (mc : Nat) (rrs : List RR)
    (hs : List Name) (name : Name)
    (h : validateNameserverResponse q resp mc = some (.delegation rrs hs name)) :
    name.labels.length > mc ∧ q.name.isSubdomainOf name = true ∧ hs ≠ [] := by
  have sp := validate_delegation_spec h
  exact ⟨sp.closer, sp.sub, sp.ne⟩

/-- What `getBetterNsNames` returns: the deepest NS owner of `rrs` enclosing the target, deeper
    than `mc`, with exactly the NS targets at that depth as host names. -/
theorem C06_getBetterNsNames_spec (rrs : List RR) (target : Name) (mc : Nat) (mn : Name)
    (ns : List Name) (h : getBetterNsNames rrs target mc = some (mn, ns)) :
    mn.labels.length > mc ∧ target.isSubdomainOf mn = true ∧ ns ≠ [] ∧
    (∃ rr ∈ rrs, rr.name = mn ∧ (nsTarget rr).isSome = true) ∧
    (∀ rr ∈ rrs, (nsTarget rr).isSome = true → target.isSubdomainOf rr.name = true →
        rr.name.labels.length ≤ mn.labels.length) ∧
    (∀ n, n ∈ ns ↔ ∃ rr ∈ rrs, nsTarget rr = some n ∧ target.isSubdomainOf rr.name = true ∧
        rr.name.labels.length = mn.labels.length) := by
  have sp := getBetterNsNames_spec h
  exact ⟨sp.closer, sp.sub, sp.ne, sp.deepest_owner⟩

/-- The same for the zone and host names of a referral, over the answer and authority sections
    together. -/
theorem C06_delegation_zone (q : Question) (resp : Message) (mc : Nat) (rrs : List RR)
    (hs : List Name) (name : Name)
    (h : validateNameserverResponse q resp mc = some (.delegation rrs hs name)) :
    (∃ rr ∈ resp.answers ++ resp.authority, rr.name = name ∧ (nsTarget rr).isSome = true) ∧
    (∀ rr ∈ resp.answers ++ resp.authority, (nsTarget rr).isSome = true →
        q.name.isSubdomainOf rr.name = true → rr.name.labels.length ≤ name.labels.length) ∧
    (∀ n, n ∈ hs ↔ ∃ rr ∈ resp.answers ++ resp.authority, nsTarget rr = some n ∧
        q.name.isSubdomainOf rr.name = true ∧ rr.name.labels.length = name.labels.length) :=
  (validate_delegation_spec h).deepest_owner

/-- Every record passed on with a referral is an NS record of the chosen zone for one of the
    returned host names (answer or authority section) or an A/AAAA record of such a host (answer or
    additional section).  Nothing else of the reply is used. -/
theorem C06_delegation_records_allowed (q : Question) (resp : Message) (mc : Nat) (rrs : List RR)
    (hs : List Name) (name : Name)
    (h : validateNameserverResponse q resp mc = some (.delegation rrs hs name)) :
    ∀ rr ∈ rrs,
      (∃ t, nsTarget rr = some t ∧ rr.name = name ∧ t ∈ hs ∧ rr ∈ resp.answers ++ resp.authority) ∨
      ((rr.rtype = RT_A ∨ rr.rtype = RT_AAAA) ∧ rr.name ∈ hs ∧ rr ∈ resp.answers ++ resp.additional) := by
  obtain ⟨_, _, hr⟩ := validate_delegation h
  subst hr
  exact fun rr hrr => delegRrs_allowed hrr

/-- The fuel `|map| + 1` given to the CNAME-following loop always suffices: any larger fuel gives
    the same result (so the fuel is not observable and the model is faithful to the Rust `while`
    loop). -/
theorem C06_followLoop_fuel_suffices (cnameMap : NameMap) (start : Name) (k : Nat) :
    followLoop cnameMap (cnameMap.length + 1 + k) start [] [] =
      followLoop cnameMap (cnameMap.length + 1) start [] [] := by
  obtain ⟨path, hc, hok, ⟨_, hrun⟩ | ⟨_, hlast, hmem⟩⟩ := followLoop_run (SeenOk.nil cnameMap) start
  · have hlt : path.length < cnameMap.length + 1 := Nat.lt_succ_of_le hok.length_le
    rw [hrun _ [] hlt, hrun _ [] (Nat.lt_add_right k hlt)]
  · have hnone := followLoop_none_of_loop hc (fun _ _ => List.not_mem_nil) hok.1 hlast hmem
    rw [hnone, hnone]

/-- With enough fuel the loop gives up (`none`) exactly when a loop was really detected: there
    are pairwise distinct names `t₁ … t_k` with `start ↦ t₁ ↦ … ↦ t_k` in the map, and the
    successor of the last of them (of `start` when `k = 0` — impossible then) is one of the `tᵢ`
    again. -/
theorem C06_followLoop_none_iff_loop (cnameMap : NameMap) (start : Name) (fuel : Nat)
    (hf : cnameMap.length + 1 ≤ fuel) :
    followLoop cnameMap fuel start [] [] = none ↔
      ∃ (path : List Name) (t : Name), path.Nodup ∧
        (∀ p ∈ (start :: path).zip path, nmGet cnameMap p.1 = some p.2) ∧
        (∃ last, (start :: path).getLast? = some last ∧ nmGet cnameMap last = some t) ∧ t ∈ path := by
  constructor
  · intro h
    obtain ⟨path, h1, hok, ⟨_, hrun⟩ | ⟨t, h4, h5⟩⟩ := followLoop_run (SeenOk.nil cnameMap) start
    · rw [hrun fuel [] (Nat.lt_of_le_of_lt hok.length_le hf)] at h
      cases h
    · exact ⟨path, t, hok.1, chainFrom_iff_links.mp h1, ⟨_, lastOr_eq_getLast start path, h4⟩, h5⟩
  · rintro ⟨path, t, h1, h2, ⟨last, h3, h4⟩, h5⟩
    rw [lastOr_eq_getLast] at h3
    cases h3
    exact followLoop_none_of_loop (chainFrom_iff_links.mpr h2) (fun _ _ => List.not_mem_nil) h1 h4 h5 fuel []

/-- the chain `w. → c. → d.` is followed to its end: final name, `seen`, followed links. -/
example :
    followLoop [(⟨[[119],[]], 3⟩, ⟨[[99],[]], 3⟩), (⟨[[99],[]], 3⟩, ⟨[[100],[]], 3⟩)] 3 ⟨[[119],[]], 3⟩ [] []
      = some (⟨[[100],[]], 3⟩, [⟨[[99],[]], 3⟩, ⟨[[100],[]], 3⟩],
          [(⟨[[119],[]], 3⟩, ⟨[[99],[]], 3⟩), (⟨[[99],[]], 3⟩, ⟨[[100],[]], 3⟩)]) := by decide +kernel

/-- the loop `w. → c. → w.` is detected. -/
example :
    followLoop [(⟨[[119],[]], 3⟩, ⟨[[99],[]], 3⟩), (⟨[[99],[]], 3⟩, ⟨[[119],[]], 3⟩)] 3 ⟨[[119],[]], 3⟩ [] []
      = none := by decide +kernel

/-- The result `(fin, followed)` of following CNAMEs is one duplicate-free chain
    `target = n₀, …, n_k = fin`: `followed` is the list of its links, each backed by a CNAME record
    of `rrs`; an empty chain needs a record of the asked type at `target`.  For a question type
    other than CNAME the chain was followed to its end (no CNAME record at `fin`); for the CNAME type
    nothing is followed: `follow_cnames` leaves its CNAME map empty, the alias record is the answer. -/
theorem C06_follow_path (rrs : List RR) (target : Name) (qtype : Nat) (fin : Name) (followed : NameMap)
    (h : followCnames rrs target qtype = some (fin, followed)) :
    ∃ names : List Name,
      names.head? = some target ∧ names.getLast? = some fin ∧ names.Nodup ∧
      followed = names.zip names.tail ∧
      (∀ a b, (a, b) ∈ followed ↔ nmGet followed a = some b) ∧
      (∀ a b, (a, b) ∈ followed → ∃ rr ∈ rrs, rr.name = a ∧ cnameTarget rr = some b) ∧
      (qtype ≠ RT_CNAME → ∀ rr ∈ rrs, rr.name = fin → cnameTarget rr = none) ∧
      (names = [target] → ∃ rr ∈ rrs, rr.name = target ∧ rtypeMatches rr.rtype qtype = true) ∧
      (qtype = RT_CNAME → names = [target]) := by
  obtain ⟨path, F, rfl, rfl⟩ := followCnames_some h
  refine ⟨target :: path, rfl, lastOr_eq_getLast target path, F.nodup, rfl, ?_, ?_, ?_, ?_, ?_⟩
  · intro a b
    rw [nmGet_eq_al]
    exact AL.mem_iff_get (linksOf_keys_nodup F.nodup)
  · exact fun a b hab => nmGet_followMap_some (chainFrom_iff_links.mp F.chain (a, b) hab)
  · exact fun hq => nmGet_buildMap_none (followMap_of_ne hq rrs ▸ F.stop)
  · intro hn
    obtain ⟨rr, hr, hk⟩ := List.any_eq_true.mp (F.hit (List.cons.inj hn).2)
    exact ⟨rr, hr, (Bool.and_eq_true_iff.mp hk).imp_left beq_iff_eq.mp⟩
  · rintro rfl
    rw [chainFrom_nil (path := path) (followMap_cname rrs ▸ F.chain)]

/-- A question for the CNAME type is answered by the alias record itself,
    which is not followed: `followCnames` returns the question name with no followed link exactly
    when the records hold a CNAME record owned by it, whatever other CNAME records (chains, loops)
    the reply contains. -/
theorem C06_cname_question_not_followed (rrs : List RR) (target : Name) :
    followCnames rrs target RT_CNAME =
      if rrs.any (fun rr => rr.name == target && rtypeMatches rr.rtype RT_CNAME)
      then some (target, []) else none :=
  followCnames_stop rfl

/-- `C06_follow_path` with the clause "no record of `rrs` is a CNAME owned by `fin`" for EVERY question
    type, i.e. what would hold if `follow_cnames` followed aliases for CNAME questions too.  It does
    not: for a CNAME question its CNAME map stays empty, `fin` is the question name, and the alias
    record that answers the question is a CNAME owned by `fin`.  So the clause fails (next theorem);
    `C06_follow_path` has it for the other question types only.  (`95d17ac` in the name is the commit
    of /repo that gave `follow_cnames` this rule.) -/
def C06_follow_path_statement_before_95d17ac : Prop :=
  ∀ (rrs : List RR) (target : Name) (qtype : Nat) (fin : Name) (followed : NameMap),
    followCnames rrs target qtype = some (fin, followed) →
    ∃ names : List Name,
      names.head? = some target ∧ names.getLast? = some fin ∧ names.Nodup ∧
      followed = names.zip names.tail ∧
      (∀ a b, (a, b) ∈ followed ↔ nmGet followed a = some b) ∧
      (∀ a b, (a, b) ∈ followed → ∃ rr ∈ rrs, rr.name = a ∧ cnameTarget rr = some b) ∧
      (∀ rr ∈ rrs, rr.name = fin → cnameTarget rr = none) ∧
      (names = [target] → ∃ rr ∈ rrs, rr.name = target ∧ rtypeMatches rr.rtype qtype = true)

/-- It fails on the reply `w. CNAME c.` for the question `(w., CNAME)`: the result is `(w., [])` and
    `w.` owns a CNAME record. -/
theorem C06_follow_path_statement_before_95d17ac_false :
    ¬ C06_follow_path_statement_before_95d17ac := by
  intro h
  have hf : followCnames [⟨⟨[[119],[]], 3⟩, 5, [.name ⟨[[99],[]], 3⟩], 1, 60⟩] ⟨[[119],[]], 3⟩ RT_CNAME
      = some (⟨[[119],[]], 3⟩, []) := by decide +kernel
  obtain ⟨_, _, _, _, _, _, _, h7, _⟩ := h _ _ _ _ _ hf
  have := h7 ⟨⟨[[119],[]], 3⟩, 5, [.name ⟨[[99],[]], 3⟩], 1, 60⟩ (by simp) rfl
  revert this
  decide +kernel

/-- The filter on a CNAME question, exactly: if the answer section holds a CNAME record owned by
    the question name, the result is the list of the CNAME records of known class owned by the
    question name, as an answer (nothing when that list is empty); the target of the alias is not
    looked at. -/
theorem C06_cname_question_result (q : Question) (resp : Message) (mc : Nat) (hq : q.qtype = RT_CNAME)
    (hany : resp.answers.any (fun rr => rr.name == q.name && rtypeMatches rr.rtype RT_CNAME) = true) :
    validateNameserverResponse q resp mc =
      if ((resp.answers.filter (fun an => !rrIsUnknown an)).filter
            (fun an => rtypeMatches an.rtype RT_CNAME && an.name == q.name)).isEmpty
      then none
      else some (.answer
        ((resp.answers.filter (fun an => !rrIsUnknown an)).filter
            (fun an => rtypeMatches an.rtype RT_CNAME && an.name == q.name)) none) := by
  -- with no followed link, the filter keeps the records of the asked type at the question name
  have hk : ansKeep q q.name [] = fun an => rtypeMatches an.rtype RT_CNAME && an.name == q.name := by
    funext an
    rw [ansKeep, hq]
    cases cnameTarget an <;> exact Bool.or_false _
  have hfol : followCnames resp.answers q.name q.qtype = some (q.name, []) := by
    rw [hq, C06_cname_question_not_followed, if_pos hany]
  rw [validate_of_follow_some mc hfol, keptRrs, hasFinal, knownOf, hk, hq]
  generalize resp.answers.filter (fun an => !rrIsUnknown an) = K
  by_cases hf : (K.filter (fun an => rtypeMatches an.rtype RT_CNAME && an.name == q.name)).isEmpty = true
  · rw [if_pos hf, if_pos hf, ite_self]
  · -- a kept record shows that `K` is not empty and holds a record of the asked type at the name
    obtain ⟨w, hw⟩ := List.exists_mem_of_ne_nil _ (mt List.isEmpty_iff.mpr hf)
    obtain ⟨hwK, hwp⟩ := List.mem_filter.mp hw
    rw [if_neg hf, if_neg hf, if_neg (mt List.isEmpty_iff.mp (List.ne_nil_of_mem hwK)),
      if_pos (List.any_eq_true.mpr ⟨w, hwK, hwp⟩)]

/-- For a question of type CNAME every record of an answer is a CNAME record of the answer section
    owned by the question name (never a record at the alias target), and the filter never returns a
    CNAME step: the resolver is never sent after the target of the alias. -/
theorem C06_cname_question_answer (q : Question) (resp : Message) (mc : Nat) (hq : q.qtype = RT_CNAME) :
    (∀ rrs soa, validateNameserverResponse q resp mc = some (.answer rrs soa) →
      (∀ rr ∈ rrs, rr ∈ resp.answers ∧ rr.name = q.name ∧ rr.rtype = RT_CNAME) ∧
      (soa = none → rrs ≠ [])) ∧
    (∀ rrs c, validateNameserverResponse q resp mc ≠ some (.cname rrs c)) := by
  -- nothing is followed: the chain ends at the question name and no link is kept
  have hfol : ∀ {fin cm}, followCnames resp.answers q.name q.qtype = some (fin, cm) → fin = q.name ∧ cm = [] := by
    intro fin cm hf
    rw [hq, C06_cname_question_not_followed] at hf
    split at hf <;> cases hf
    exact ⟨rfl, rfl⟩
  have hkept : ∀ {rr}, rr ∈ keptRrs q resp q.name [] →
      rr ∈ resp.answers ∧ rtypeMatches rr.rtype q.qtype = true ∧ rr.name = q.name := by
    intro rr h
    obtain ⟨ha, _, hk | ⟨t, _, hg⟩⟩ := mem_keptRrs.mp h
    · exact ⟨ha, hk⟩
    · cases hg
  constructor
  · intro rrs soa h
    cases validate_validated h with
    | answer hf hne _ =>
      obtain ⟨rfl, rfl⟩ := hfol hf
      refine ⟨fun rr hrr => ?_, fun _ => hne⟩
      obtain ⟨a, b, c⟩ := hkept hrr
      rw [hq] at b
      exact ⟨a, c, beq_iff_eq.mp b⟩
    | nodata => exact ⟨nofun, nofun⟩
  · intro rrs c h
    cases validate_validated h with
    | cname hf hne hfin =>
      -- a kept record would be of the asked type at the question name
      obtain ⟨rfl, rfl⟩ := hfol hf
      obtain ⟨w, hw⟩ := List.exists_mem_of_ne_nil _ hne
      have := (hasFinal_iff []).mpr ⟨w, hw, (hkept hw).2⟩
      rw [hfin] at this
      cases this

/-- Records returned as an answer or as a CNAME step: with `(fin, followed)` the result of following
    the CNAMEs of the answer section from the question name, every returned record is a known record
    of the answer section, of the asked type at `fin` or one of the followed links.  An answer
    contains at least one record of the asked type at `fin`; a CNAME step none, and its target is
    `fin`. -/
theorem C06_answer_records_allowed (q : Question) (resp : Message) (mc : Nat) (rrs : List RR) :
    (validateNameserverResponse q resp mc = some (.answer rrs none) →
      ∃ fin followed, followCnames resp.answers q.name q.qtype = some (fin, followed) ∧ rrs ≠ [] ∧
        (∃ rr ∈ rrs, rtypeMatches rr.rtype q.qtype = true ∧ rr.name = fin) ∧
        ∀ rr ∈ rrs, rr ∈ resp.answers ∧ rrIsUnknown rr = false ∧
          ((rtypeMatches rr.rtype q.qtype = true ∧ rr.name = fin) ∨
           (∃ t, cnameTarget rr = some t ∧ nmGet followed rr.name = some t))) ∧
    (∀ c, validateNameserverResponse q resp mc = some (.cname rrs c) →
      ∃ followed, followCnames resp.answers q.name q.qtype = some (c, followed) ∧ rrs ≠ [] ∧
        ∀ rr ∈ rrs, rr ∈ resp.answers ∧ rrIsUnknown rr = false ∧
          ¬ (rtypeMatches rr.rtype q.qtype = true ∧ rr.name = c) ∧
          (∃ t, cnameTarget rr = some t ∧ nmGet followed rr.name = some t)) := by
  constructor
  · intro h
    obtain ⟨fin, cm, hf, hr, hne, hany⟩ := validate_answer h
    subst hr
    exact ⟨fin, cm, hf, hne, (hasFinal_iff cm).mp hany, fun rr hrr => mem_keptRrs.mp hrr⟩
  · intro c h
    obtain ⟨cm, hf, hr, hne, hany⟩ := validate_cname h
    subst hr
    refine ⟨cm, hf, hne, ?_⟩
    intro rr hrr
    obtain ⟨h1, h2, hk⟩ := mem_keptRrs.mp hrr
    have hnot : ¬ (rtypeMatches rr.rtype q.qtype = true ∧ rr.name = c) := fun hc =>
      Bool.eq_false_iff.mp hany ((hasFinal_iff cm).mpr ⟨rr, hrr, hc⟩)
    exact ⟨h1, h2, hnot, hk.resolve_left hnot⟩

/-- `C06_answer_records_allowed` and `C06_follow_path` together: every returned record is of the
    asked type at the end of ONE duplicate-free chain from the question name, or a hop of it.  No
    CNAME off the path from the question name is ever returned. -/
theorem C06_returned_cnames_on_chain (q : Question) (resp : Message) (mc : Nat) (rrs : List RR)
    (h : validateNameserverResponse q resp mc = some (.answer rrs none) ∨
         ∃ c, validateNameserverResponse q resp mc = some (.cname rrs c)) :
    ∃ names : List Name,
      names.head? = some q.name ∧ names.Nodup ∧
      (∀ p ∈ names.zip names.tail, ∃ rr ∈ resp.answers, rr.name = p.1 ∧ cnameTarget rr = some p.2) ∧
      ∀ rr ∈ rrs,
        (rtypeMatches rr.rtype q.qtype = true ∧ names.getLast? = some rr.name) ∨
        (∃ t, cnameTarget rr = some t ∧ (rr.name, t) ∈ names.zip names.tail) := by
  have key : ∃ fin cm, followCnames resp.answers q.name q.qtype = some (fin, cm) ∧ rrs = keptRrs q resp fin cm := by
    rcases h with h | ⟨c, h⟩
    · obtain ⟨fin, cm, hf, hr, _⟩ := validate_answer h
      exact ⟨fin, cm, hf, hr⟩
    · obtain ⟨cm, hf, hr, _⟩ := validate_cname h
      exact ⟨c, cm, hf, hr⟩
  obtain ⟨_, _, hf, rfl⟩ := key
  obtain ⟨path, F, rfl, rfl⟩ := followCnames_some hf
  refine ⟨q.name :: path, rfl, F.nodup,
    fun p hp => nmGet_followMap_some (chainFrom_iff_links.mp F.chain p hp), fun rr hrr => ?_⟩
  exact (mem_keptRrs_followed hrr).2.imp_left fun ⟨h1, h2⟩ => ⟨h1, h2 ▸ lastOr_eq_getLast q.name path⟩

/-- A negative answer (`.answer [] (some soa)`) is accepted only when the reply has no answers, its
    rcode is NoError or NameError, `soa` is the one and only SOA record of the authority section,
    its owner encloses the question name and is not above the delegation already reached. -/
theorem C06_nodata_soa (q : Question) (resp : Message) (mc : Nat) (rrs : List RR) (soa : RR)
    (h : validateNameserverResponse q resp mc = some (.answer rrs (some soa))) :
    rrs = [] ∧ soa ∈ resp.authority ∧ soa.rtype = RT_SOA ∧ q.name.isSubdomainOf soa.name = true ∧
    soa.name.labels.length ≥ mc ∧ resp.answers = [] ∧
    (resp.header.rcode = 0 ∨ resp.header.rcode = 3) ∧
    resp.authority.filter (fun rr => rr.rtype == RT_SOA) = [soa] ∧
    (∀ rr ∈ resp.authority, rr.rtype = RT_SOA → rr = soa) := by
  obtain ⟨h0, _, _, hs⟩ := validate_nodata h
  obtain ⟨h1, h2, h3, h4, h5⟩ := getNxdomainNodataSoa_some hs
  have hm := getNxdomainNodataSoa_mem hs
  refine ⟨h0, hm.1, hm.2, h4, h5, h1, h2, h3, ?_⟩
  intro rr hrr hrt
  have : rr ∈ resp.authority.filter (fun rr => rr.rtype == RT_SOA) :=
    List.mem_filter.mpr ⟨hrr, beq_iff_eq.mpr hrt⟩
  rw [h3] at this
  exact List.mem_singleton.mp this

/-! ## The capstone: the filter only returns what the specification allows -/

/-- Whatever the filter returns passes the executable specification, under the hypothesis that the
    kind of result needs.  `NamesConsistent` (a name is determined by its labels, as in the Rust type)
    is used for referrals only: the host set is collected by label count, the records by owner
    equality.  `CnameLinksUnique` is used for answers and CNAME steps only: `USpec.onPath` wants all
    links to be records of ONE simple path, which has one record per hop.  A negative answer needs
    neither. -/
theorem C06_validate_only_allowed_of (q : Question) (mc : Nat) (resp : Message) {out : NameserverResponse}
    (h : validateNameserverResponse q resp mc = some out)
    (hyp : match out with
      | .answer _ (some _) => True
      | .delegation _ _ _ => NamesConsistent (resp.answers ++ resp.authority)
      | _ => CnameLinksUnique resp.answers) :
    USpec.checkValidated q mc resp (some out) = none := by
  cases validate_validated h with
  | answer hf _ hfin => exact check_answer hyp hf hfin
  | cname hf hne hfin => exact check_cname hyp hf hne hfin
  | delegation _ hc => exact check_delegation hyp (chooseNs_spec hc)
  | nodata _ _ hs => exact check_nodata hs

theorem C06_validate_only_allowed_answer (q : Question) (mc : Nat) (resp : Message)
    (huniq : CnameLinksUnique resp.answers) (rrs : List RR)
    (h : validateNameserverResponse q resp mc = some (.answer rrs none)) :
    USpec.checkValidated q mc resp (some (.answer rrs none)) = none :=
  C06_validate_only_allowed_of q mc resp h huniq

theorem C06_validate_only_allowed_cname (q : Question) (mc : Nat) (resp : Message)
    (huniq : CnameLinksUnique resp.answers) (rrs : List RR) (c : Name)
    (h : validateNameserverResponse q resp mc = some (.cname rrs c)) :
    USpec.checkValidated q mc resp (some (.cname rrs c)) = none :=
  C06_validate_only_allowed_of q mc resp h huniq

theorem C06_validate_only_allowed_delegation (q : Question) (mc : Nat) (resp : Message)
    (hwf : NamesConsistent (resp.answers ++ resp.authority)) (rrs : List RR) (hs : List Name) (name : Name)
    (h : validateNameserverResponse q resp mc = some (.delegation rrs hs name)) :
    USpec.checkValidated q mc resp (some (.delegation rrs hs name)) = none :=
  C06_validate_only_allowed_of q mc resp h hwf

theorem C06_validate_only_allowed_nodata (q : Question) (mc : Nat) (resp : Message) (rrs : List RR)
    (soa : RR) (h : validateNameserverResponse q resp mc = some (.answer rrs (some soa))) :
    USpec.checkValidated q mc resp (some (.answer rrs (some soa))) = none :=
  C06_validate_only_allowed_of q mc resp h trivial

/-- Whatever the filter returns passes the executable specification. -/
theorem C06_validate_only_allowed (q : Question) (mc : Nat) (resp : Message)
    (hwf : NamesConsistent (resp.answers ++ resp.authority))
    (huniq : CnameLinksUnique resp.answers) :
    USpec.checkValidated q mc resp (validateNameserverResponse q resp mc) = none := by
  cases h : validateNameserverResponse q resp mc with
  | none => rfl
  | some out =>
    refine C06_validate_only_allowed_of q mc resp h ?_
    split <;> first | trivial | exact hwf | exact huniq

/-- every decoder output (`WfMsg`) has consistent names. -/
theorem namesConsistent_of_wfMsg {m : Message} (h : WfMsg m) :
    NamesConsistent (m.answers ++ m.authority) := by
  obtain ⟨_, _, hans, hauth, _⟩ := h
  have hlen : ∀ r ∈ m.answers ++ m.authority, r.name.len = r.name.labels.length + sumLen r.name.labels := by
    intro r hr
    obtain ⟨⟨_, _, hl, _⟩, _⟩ : RRWF r := (List.mem_append.mp hr).elim (hans r) (hauth r)
    exact hl
  exact fun r hr r' hr' hl => Name.eq_of_labels (hlen r hr) (hlen r' hr') hl

/-- The capstone for decoder outputs: every message produced by the wire decoder satisfies `WfMsg`
    (C03/C04), which gives the well-formedness of names; only the "no repeated CNAME link"
    hypothesis remains. -/
theorem C06_validate_only_allowed_wf (q : Question) (mc : Nat) (resp : Message) (hwf : WfMsg resp)
    (huniq : CnameLinksUnique resp.answers) :
    USpec.checkValidated q mc resp (validateNameserverResponse q resp mc) = none :=
  C06_validate_only_allowed q mc resp (namesConsistent_of_wfMsg hwf) huniq

/-- The unconditional form of the capstone.  It is FALSE as stated (see
    `C06_unconditional_fails_duplicate_cname` and `C06_unconditional_fails_name_len`), which is why
    `C06_validate_only_allowed` carries the two hypotheses. -/
def C06_validate_only_allowed_unconditional_statement : Prop :=
  ∀ (q : Question) (mc : Nat) (resp : Message),
    USpec.checkValidated q mc resp (validateNameserverResponse q resp mc) = none

/-- Counterexample 1 (specification over-strict, not a defect of the filter): the answer section
    holds the same CNAME link `w.e. → n.` twice with different TTLs.  The filter returns both
    records as the CNAME step; `USpec.onPath` wants all links to be records of ONE simple path,
    which contains one record per hop, and rejects. -/
theorem C06_unconditional_fails_duplicate_cname :
    USpec.checkValidated ⟨⟨[[119],[101],[]], 5⟩, 1, 1⟩ 0
      ⟨⟨0, true, 0, false, false, false, false, 0⟩, [],
        [⟨⟨[[119],[101],[]], 5⟩, 5, [.name ⟨[[110],[]], 3⟩], 1, 10⟩,
         ⟨⟨[[119],[101],[]], 5⟩, 5, [.name ⟨[[110],[]], 3⟩], 1, 20⟩], [], []⟩
      (validateNameserverResponse ⟨⟨[[119],[101],[]], 5⟩, 1, 1⟩
        ⟨⟨0, true, 0, false, false, false, false, 0⟩, [],
          [⟨⟨[[119],[101],[]], 5⟩, 5, [.name ⟨[[110],[]], 3⟩], 1, 10⟩,
           ⟨⟨[[119],[101],[]], 5⟩, 5, [.name ⟨[[110],[]], 3⟩], 1, 20⟩], [], []⟩ 0)
      = some "cname-not-on-path-from-question" := by decide +kernel

/-- Counterexample 2 (artefact of the model's `Name`, which carries `len` as a free field): two
    NS records for `e.` whose owner names have the same labels but different `len`.  The filter
    collects both hosts (it compares label counts) but keeps only the NS record whose owner is
    equal to the chosen zone; the specification computes the host set from the records owned by
    the zone and rejects.  Impossible in Rust, where `len` is a function of the labels. -/
theorem C06_unconditional_fails_name_len :
    USpec.checkValidated ⟨⟨[[119],[101],[]], 5⟩, 1, 1⟩ 0
      ⟨⟨0, true, 0, false, false, false, false, 0⟩, [], [],
        [⟨⟨[[101],[]], 3⟩, 2, [.name ⟨[[110],[]], 3⟩], 1, 60⟩,
         ⟨⟨[[101],[]], 4⟩, 2, [.name ⟨[[109],[]], 3⟩], 1, 60⟩], []⟩
      (validateNameserverResponse ⟨⟨[[119],[101],[]], 5⟩, 1, 1⟩
        ⟨⟨0, true, 0, false, false, false, false, 0⟩, [], [],
          [⟨⟨[[101],[]], 3⟩, 2, [.name ⟨[[110],[]], 3⟩], 1, 60⟩,
           ⟨⟨[[101],[]], 4⟩, 2, [.name ⟨[[109],[]], 3⟩], 1, 60⟩], []⟩ 0)
      = some "referral-hosts-not-the-ns-set" := by decide +kernel

theorem C06_validate_only_allowed_unconditional_false :
    ¬ C06_validate_only_allowed_unconditional_statement := by
  intro h
  have h1 := C06_unconditional_fails_duplicate_cname
  rw [h] at h1
  cases h1

/-! ## Non-vacuity: concrete replies for each result constructor

  Names: `w.e.` = `⟨[[119],[101],[]], 5⟩` (the question name), `e.` = `⟨[[101],[]], 3⟩`,
  `n.` = `⟨[[110],[]], 3⟩`, `c.e.` = `⟨[[99],[101],[]], 5⟩`.  Types: A = 1, NS = 2, CNAME = 5,
  SOA = 6. -/

/-- a referral: NS `e. → n.` in the authority section, glue `n. A` in the additional section. -/
example :
    validateNameserverResponse ⟨⟨[[119],[101],[]], 5⟩, 1, 1⟩
      ⟨⟨0, true, 0, false, false, false, false, 0⟩, [], [],
        [⟨⟨[[101],[]], 3⟩, 2, [.name ⟨[[110],[]], 3⟩], 1, 60⟩],
        [⟨⟨[[110],[]], 3⟩, 1, [.a 7], 1, 60⟩, ⟨⟨[[109],[]], 3⟩, 1, [.a 8], 1, 60⟩]⟩ 0
      = some (.delegation
          [⟨⟨[[101],[]], 3⟩, 2, [.name ⟨[[110],[]], 3⟩], 1, 60⟩, ⟨⟨[[110],[]], 3⟩, 1, [.a 7], 1, 60⟩]
          [⟨[[110],[]], 3⟩] ⟨[[101],[]], 3⟩) := by decide +kernel

/-- the same referral is not used when the delegation in use is already that deep (`mc = 2`). -/
example :
    validateNameserverResponse ⟨⟨[[119],[101],[]], 5⟩, 1, 1⟩
      ⟨⟨0, true, 0, false, false, false, false, 0⟩, [], [],
        [⟨⟨[[101],[]], 3⟩, 2, [.name ⟨[[110],[]], 3⟩], 1, 60⟩],
        [⟨⟨[[110],[]], 3⟩, 1, [.a 7], 1, 60⟩]⟩ 2 = none := by decide +kernel

/-- an answer through a CNAME: `w.e. CNAME c.e.`, `c.e. A 7`; the unrelated `n. A 9` and the
    off-path `n. CNAME e.` are dropped. -/
example :
    validateNameserverResponse ⟨⟨[[119],[101],[]], 5⟩, 1, 1⟩
      ⟨⟨0, true, 0, false, false, false, false, 0⟩, [],
        [⟨⟨[[119],[101],[]], 5⟩, 5, [.name ⟨[[99],[101],[]], 5⟩], 1, 60⟩,
         ⟨⟨[[110],[]], 3⟩, 5, [.name ⟨[[101],[]], 3⟩], 1, 60⟩,
         ⟨⟨[[99],[101],[]], 5⟩, 1, [.a 7], 1, 60⟩,
         ⟨⟨[[110],[]], 3⟩, 1, [.a 9], 1, 60⟩], [], []⟩ 0
      = some (.answer
          [⟨⟨[[119],[101],[]], 5⟩, 5, [.name ⟨[[99],[101],[]], 5⟩], 1, 60⟩,
           ⟨⟨[[99],[101],[]], 5⟩, 1, [.a 7], 1, 60⟩] none) := by decide +kernel

/-- a CNAME step: only `w.e. CNAME c.e.`, no address for `c.e.`. -/
example :
    validateNameserverResponse ⟨⟨[[119],[101],[]], 5⟩, 1, 1⟩
      ⟨⟨0, true, 0, false, false, false, false, 0⟩, [],
        [⟨⟨[[119],[101],[]], 5⟩, 5, [.name ⟨[[99],[101],[]], 5⟩], 1, 60⟩,
         ⟨⟨[[110],[]], 3⟩, 1, [.a 9], 1, 60⟩], [], []⟩ 0
      = some (.cname [⟨⟨[[119],[101],[]], 5⟩, 5, [.name ⟨[[99],[101],[]], 5⟩], 1, 60⟩]
          ⟨[[99],[101],[]], 5⟩) := by decide +kernel

/-- a CNAME loop `w.e. → c.e. → w.e.` is detected: no answer and (no NS, no SOA) nothing at all. -/
example :
    validateNameserverResponse ⟨⟨[[119],[101],[]], 5⟩, 1, 1⟩
      ⟨⟨0, true, 0, false, false, false, false, 0⟩, [],
        [⟨⟨[[119],[101],[]], 5⟩, 5, [.name ⟨[[99],[101],[]], 5⟩], 1, 60⟩,
         ⟨⟨[[99],[101],[]], 5⟩, 5, [.name ⟨[[119],[101],[]], 5⟩], 1, 60⟩], [], []⟩ 0
      = none := by decide +kernel

/-- a negative answer: NXDOMAIN with the SOA of `e.` in the authority section. -/
example :
    validateNameserverResponse ⟨⟨[[119],[101],[]], 5⟩, 1, 1⟩
      ⟨⟨0, true, 0, false, false, false, false, 3⟩, [], [],
        [⟨⟨[[101],[]], 3⟩, 6, [], 1, 60⟩], []⟩ 0
      = some (.answer [] (some ⟨⟨[[101],[]], 3⟩, 6, [], 1, 60⟩)) := by decide +kernel

/-- the two hypotheses of the capstone are satisfiable (and decidable) on concrete sections. -/
example : NamesConsistent ([⟨⟨[[101],[]], 3⟩, 2, [.name ⟨[[110],[]], 3⟩], 1, 60⟩,
    ⟨⟨[[101],[]], 3⟩, 2, [.name ⟨[[109],[]], 3⟩], 1, 60⟩] : List RR) := by
  unfold NamesConsistent; decide

example : CnameLinksUnique ([⟨⟨[[119],[101],[]], 5⟩, 5, [.name ⟨[[99],[101],[]], 5⟩], 1, 60⟩,
    ⟨⟨[[99],[101],[]], 5⟩, 1, [.a 7], 1, 60⟩] : List RR) := by
  unfold CnameLinksUnique; decide

/-- a CNAME question (type 5): the alias record `w.e. CNAME c.e.` is the answer; the address of its
    target is not returned and the alias is not followed. -/
example :
    validateNameserverResponse ⟨⟨[[119],[101],[]], 5⟩, 5, 1⟩
      ⟨⟨0, true, 0, false, false, false, false, 0⟩, [],
        [⟨⟨[[119],[101],[]], 5⟩, 5, [.name ⟨[[99],[101],[]], 5⟩], 1, 60⟩,
         ⟨⟨[[99],[101],[]], 5⟩, 1, [.a 7], 1, 60⟩], [], []⟩ 0
      = some (.answer [⟨⟨[[119],[101],[]], 5⟩, 5, [.name ⟨[[99],[101],[]], 5⟩], 1, 60⟩] none) := by decide +kernel

/-- a CNAME question is answered even when the aliases of the reply form a loop
    `w.e. → c.e. → w.e.` (for an address question the same reply is rejected, see above). -/
example :
    validateNameserverResponse ⟨⟨[[119],[101],[]], 5⟩, 5, 1⟩
      ⟨⟨0, true, 0, false, false, false, false, 0⟩, [],
        [⟨⟨[[119],[101],[]], 5⟩, 5, [.name ⟨[[99],[101],[]], 5⟩], 1, 60⟩,
         ⟨⟨[[99],[101],[]], 5⟩, 5, [.name ⟨[[119],[101],[]], 5⟩], 1, 60⟩], [], []⟩ 0
      = some (.answer [⟨⟨[[119],[101],[]], 5⟩, 5, [.name ⟨[[99],[101],[]], 5⟩], 1, 60⟩] none) := by decide +kernel

/-- `hq` of `C06_cname_question_result` / `C06_cname_question_answer` for the question of the two
    examples above; their replies hold a CNAME record at `w.e.`, which is `hany`. -/
example : (⟨⟨[[119],[101],[]], 5⟩, 5, 1⟩ : Question).qtype = RT_CNAME := rfl

/-- the conclusion of the capstone, evaluated: for the reply made of the two records of the
    `CnameLinksUnique` example above, the specification accepts both as the answer. -/
example :
    USpec.checkValidated ⟨⟨[[119],[101],[]], 5⟩, 1, 1⟩ 0
      ⟨⟨0, true, 0, false, false, false, false, 0⟩, [],
        [⟨⟨[[119],[101],[]], 5⟩, 5, [.name ⟨[[99],[101],[]], 5⟩], 1, 60⟩,
         ⟨⟨[[99],[101],[]], 5⟩, 1, [.a 7], 1, 60⟩], [], []⟩
      (some (.answer
          [⟨⟨[[119],[101],[]], 5⟩, 5, [.name ⟨[[99],[101],[]], 5⟩], 1, 60⟩,
           ⟨⟨[[99],[101],[]], 5⟩, 1, [.a 7], 1, 60⟩] none)) = none := by decide +kernel

/-! ## `query_nameserver`: BOTH transports filter

`queryNameserver` (`util/nameserver.rs`) tries UDP when the request fits 512 octets (`mx_fitsUdp`) and
then TCP; the reply of EITHER transport goes through `response_matches_request`. -/

/-- Whichever transport delivered it, a reply that `queryNameserver` returns matches the request. -/
theorem C06_query_returns_only_matching_replies (oracle : Oracle) (run : Run) (addr : FieldVal)
    (port : Nat) (q : Question) (rd : Bool) (m : Message)
    (h : (queryNameserver oracle run addr port q rd).2 = some m) :
    responseMatchesRequest (requestFor q rd) m = true :=
  (queryNameserver_reply h).2

/-- … spelt out with `C06_mismatch_discarded`: it is not truncated, carries the request's ID (0 in the
    model: IDs are relative), is a response to a standard query for exactly the question asked, and
    its rcode is NOERROR or NXDOMAIN. -/
theorem C06_query_reply_fields (oracle : Oracle) (run : Run) (addr : FieldVal)
    (port : Nat) (q : Question) (rd : Bool) (m : Message)
    (h : (queryNameserver oracle run addr port q rd).2 = some m) :
    m.header.isTruncated = false ∧ m.header.id = 0 ∧ m.header.isResponse = true ∧
    m.header.opcode = 0 ∧ m.questions = [q] ∧ (m.header.rcode = 0 ∨ m.header.rcode = 3) := by
  have hm := (C06_mismatch_discarded _ _).mp
    (C06_query_returns_only_matching_replies oracle run addr port q rd m h)
  obtain ⟨h1, h2, h3, h4, h5, h6⟩ := hm
  exact ⟨h4, h1.symm, h2, h3.symm, h6.symm, h5⟩

theorem C06_query_reply_from_one_transport (oracle : Oracle) (run : Run) (addr : FieldVal)
    (port : Nat) (q : Question) (rd : Bool) (m : Message)
    (h : (queryNameserver oracle run addr port q rd).2 = some m) :
    (oracle (mx_udpEx addr port q rd)).reply = some m ∨ (oracle (mx_tcpEx addr port q rd)).reply = some m := by
  obtain ⟨⟨ex, rfl | rfl, _, ho⟩, _⟩ := queryNameserver_reply h
  · exact .inl ho
  · exact .inr ho

/-- A truncated reply is never used: if every reply the network gives for this query — over UDP
    and over TCP — has TC set, `queryNameserver` returns nothing. -/
theorem C06_truncated_reply_never_used (oracle : Oracle) (run : Run) (addr : FieldVal)
    (port : Nat) (q : Question) (rd : Bool)
    (htc : ∀ tcp m, (oracle { addr, port, tcp, question := q, recursionDesired := rd }).reply = some m →
      m.header.isTruncated = true) :
    (queryNameserver oracle run addr port q rd).2 = none := by
  cases hres : (queryNameserver oracle run addr port q rd).2 with
  | none => rfl
  | some m =>
    have hf := (C06_query_reply_fields oracle run addr port q rd m hres).1
    rcases C06_query_reply_from_one_transport oracle run addr port q rd m hres with h | h
    · have := htc false m h; rw [hf] at this; cases this
    · have := htc true m h; rw [hf] at this; cases this

/-- TCP only after UDP failed: the TCP exchange is among the exchanges this query appended to the
    log only if the UDP attempt was skipped (the request does not fit a datagram) or did not yield a
    matching reply (no reply within the time-outs, or one that `response_matches_request` rejects —
    e.g. a truncated one). -/
theorem C06_tcp_only_after_udp_failed (oracle : Oracle) (run : Run) (addr : FieldVal)
    (port : Nat) (q : Question) (rd : Bool) (l : List Exchange)
    (hlog : (queryNameserver oracle run addr port q rd).1.log = run.log ++ l)
    (htcp : mx_tcpEx addr port q rd ∈ l) :
    mx_fitsUdp q rd = false ∨
    ∀ m, (attempt oracle run (mx_udpEx addr port q rd)).2 = some m →
      responseMatchesRequest (requestFor q rd) m = false := by
  rcases queryNameserver_cases oracle run addr port q rd with
    ⟨_, m', hm', _, heq⟩ | ⟨_, hnone, _⟩ | ⟨hfit, _⟩
  · -- a matching UDP reply ends the query: the log grew by the UDP exchange alone
    rw [heq, (attempt_reply_logged hm').1] at hlog
    cases List.append_cancel_left hlog
    exact absurd (List.mem_singleton.mp htcp) (mx_udpEx_ne_tcpEx addr port q rd)
  · exact Or.inr (keepMatching_none hnone)
  · exact Or.inl hfit

/-- conversely, a matching UDP reply is returned as it is and ends the query: the log grows by the UDP
    exchange at most, TCP is not tried. -/
theorem C06_matching_udp_reply_ends_query (oracle : Oracle) (run : Run) (addr : FieldVal)
    (port : Nat) (q : Question) (rd : Bool) (m : Message) (hfit : mx_fitsUdp q rd = true)
    (hu : (attempt oracle run (mx_udpEx addr port q rd)).2 = some m)
    (hm : responseMatchesRequest (requestFor q rd) m = true) :
    queryNameserver oracle run addr port q rd = ((attempt oracle run (mx_udpEx addr port q rd)).1, some m) ∧
    (queryNameserver oracle run addr port q rd).1.log = run.log ++ [mx_udpEx addr port q rd] := by
  refine ⟨queryNameserver_udp hfit hu hm, ?_⟩
  rw [queryNameserver_udp hfit hu hm]
  exact (attempt_reply_logged hu).1

/-! ### non-vacuity: a truncated UDP reply, the full answer over TCP

Question `w.e. A IN`; over UDP the server answers with TC set, over TCP with the record. -/

def mx_tcOracle : Oracle := fun ex =>
  { delayMs := 10,
    reply := some ⟨⟨0, true, 0, false, !ex.tcp, false, false, 0⟩, [ex.question],
      if ex.tcp then [⟨ex.question.name, 1, [.a 7], 1, 60⟩] else [], [], []⟩ }

example : mx_fitsUdp ⟨⟨[[119],[101],[]], 5⟩, 1, 1⟩ false = true := by decide +kernel

/-- the truncated UDP reply is discarded, the TCP reply is returned, both exchanges are logged. -/
example :
    (queryNameserver mx_tcOracle Run.empty (.a 1) 53 ⟨⟨[[119],[101],[]], 5⟩, 1, 1⟩ false).1.log
      = [mx_udpEx (.a 1) 53 ⟨⟨[[119],[101],[]], 5⟩, 1, 1⟩ false,
         mx_tcpEx (.a 1) 53 ⟨⟨[[119],[101],[]], 5⟩, 1, 1⟩ false] ∧
    (queryNameserver mx_tcOracle Run.empty (.a 1) 53 ⟨⟨[[119],[101],[]], 5⟩, 1, 1⟩ false).1.elapsedMs = 20 ∧
    (queryNameserver mx_tcOracle Run.empty (.a 1) 53 ⟨⟨[[119],[101],[]], 5⟩, 1, 1⟩ false).2
      = some ⟨⟨0, true, 0, false, false, false, false, 0⟩, [⟨⟨[[119],[101],[]], 5⟩, 1, 1⟩],
           [⟨⟨[[119],[101],[]], 5⟩, 1, [.a 7], 1, 60⟩], [], []⟩ := by decide +kernel

/-- a server that truncates over TCP too satisfies the hypothesis of
    `C06_truncated_reply_never_used`: nothing is returned. -/
example :
    (queryNameserver
      (fun ex => ⟨10, some ⟨⟨0, true, 0, false, true, false, false, 0⟩, [ex.question], [], [], []⟩⟩)
      Run.empty (.a 1) 53 ⟨⟨[[119],[101],[]], 5⟩, 1, 1⟩ false).2 = none :=
  C06_truncated_reply_never_used _ _ _ _ _ _ (by intro tcp m h; cases h; rfl)

/-- a matching UDP reply: returned, one exchange logged, no TCP
    (hypotheses of `C06_matching_udp_reply_ends_query`). -/
example :
    (queryNameserver
      (fun ex => ⟨10, some ⟨⟨0, true, 0, false, false, false, false, 0⟩, [ex.question], [], [], []⟩⟩)
      Run.empty (.a 1) 53 ⟨⟨[[119],[101],[]], 5⟩, 1, 1⟩ false).1.log
      = [mx_udpEx (.a 1) 53 ⟨⟨[[119],[101],[]], 5⟩, 1, 1⟩ false] ∧
    (queryNameserver
      (fun ex => ⟨10, some ⟨⟨0, true, 0, false, false, false, false, 0⟩, [ex.question], [], [], []⟩⟩)
      Run.empty (.a 1) 53 ⟨⟨[[119],[101],[]], 5⟩, 1, 1⟩ false).2
      = some ⟨⟨0, true, 0, false, false, false, false, 0⟩, [⟨⟨[[119],[101],[]], 5⟩, 1, 1⟩], [], [], []⟩ := by
  decide +kernel

end Resolved
