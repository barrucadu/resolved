/-
  C07 — Recursive resolution finds the authoritative answer in any delegation tree.

  "Each referral it follows is strictly closer to the question name than the previous one", over the machine, for every
  oracle, zones, cache, question, mode and host order: the loop starts with the name servers of a zone that encloses the
  question name (`C07_candidates_enclose`); its iterations are `LoopNext` steps (`C07_candidateLoop_step`), of which only
  `referral` changes the delegation in use, to a zone that encloses the question name and has strictly more labels
  (`C07_referrals_strictly_closer`); so the depth never decreases and never exceeds the labels of the question name
  (`C07_match_count_increases`) — which bounds the referrals followed per question, though no theorem counts them.
  Correctness over consistent universes: `Props/C07Universe.lean` (cold cache, glue-complete referrals) and
  `Props/C07Universe2.lean` (warm cache, referrals without glue).
-/
import Resolved.Proofs.ResolverMachineLoop
import Resolved.Proofs.ResolverMachineExample

namespace Resolved

open Gen

set_option autoImplicit false

/-- `getRecord`, by which the glue short-cut (an A/AAAA question answered from a referral) picks its
    answer, only ever returns a record of the list given, owned by the name and of the type asked. -/
theorem C07_glue_shortcut_record (rrs : List RR) (target : Name) (rtype : Nat) (rr : RR)
    (h : getRecord rrs target rtype = some rr) : rr ∈ rrs ∧ rr.name = target ∧ rr.rtype = rtype :=
  getRecord_some h

/-- `candidate_nameservers` walks up from the given labels: the zone whose name servers it returns
    is an ancestor-or-self of the name (its labels are a suffix), and it comes with at least one
    host name. -/
theorem C07_candidates_enclose (st st' : St) (labels : List Label) (ns : Nameservers)
    (h : candidateNameservers st labels = (st', some ns)) :
    ns.name.labels <:+ labels ∧ ns.hostnames ≠ [] :=
  have ⟨_, _, _, hs, _, _, hne⟩ := (candidateNameservers_rel (R := fun _ _ => True) (fun _ => trivial) (fun _ _ => trivial)
    (fun _ _ => trivial) labels st).2 ns (congrArg Prod.snd h)
  ⟨hs, hne⟩

/-- … so the candidates `resolveRec` starts from (when local data holds no delegation) are for a
    zone enclosing the question name, at most as deep as the question name. -/
theorem C07_initial_candidates_enclose (st st' : St) (q : Question) (ns : Nameservers)
    (h : candidateNameservers st q.name.labels = (st', some ns)) :
    q.name.isSubdomainOf ns.name = true ∧ ns.matchCount ≤ q.name.labels.length := by
  obtain ⟨h1, _⟩ := C07_candidates_enclose st st' _ ns h
  exact ⟨Name.isSubdomainOf_iff.mpr h1, h1.length_le⟩

/-- The referral step of the loop: when the reply validates as a delegation (and the glue short-cut does
    not apply), the loop goes on with the referral's hosts and `match_count` = the label count of the
    referral's zone: STRICTLY larger than before, for a zone that encloses the question name. -/
theorem candidateLoop_referral_step (cfg : RecCfg) (fuel : Nat) (st1 : St) (q : Question) (combined : List RR)
    (mc : Nat) (addr : FieldVal) (rrs : List RR) (hosts : List Name) (zone : Name)
    (hlive : (queryNameserver cfg.oracle st1.run addr cfg.port q false).1.timedOut = false)
    (hresp : (queryNameserver cfg.oracle st1.run addr cfg.port q false).2.bind
        (fun res => validateNameserverResponse q res mc) = some (.delegation rrs hosts zone))
    (hglue : glueFor q rrs = none) :
    loopQuery cfg fuel st1 q combined mc addr =
      candidateLoop cfg fuel
        ⟨st1.ctx.cacheInsertAll rrs, (queryNameserver cfg.oracle st1.run addr cfg.port q false).1⟩
        q combined zone.labels.length (cfg.hostOrder hosts) [] true ∧
    zone.labels.length > mc ∧ q.name.isSubdomainOf zone = true ∧ hosts ≠ [] := by
  refine ⟨?_, query_validated_referral hresp⟩
  rw [loopQuery_live hlive, hresp, loopAfterReply_follow _ _ _ _ hosts zone hglue]

/-- Every iteration of the candidate loop either ends it (error, answer, or hand-over to
    `resolveCombined` for an alias) or goes on with loop variables related by `LoopNext`. -/
theorem C07_candidateLoop_step (cfg : RecCfg) (fuel : Nat) (q : Question) (combined : List RR) (a : LoopArgs) :
    LoopEnds cfg fuel q (candidateLoop cfg (fuel + 1) a.st q combined a.mc a.cands a.next a.locally) ∨
    ∃ a', LoopNext cfg q a a' ∧
      candidateLoop cfg (fuel + 1) a.st q combined a.mc a.cands a.next a.locally =
        candidateLoop cfg fuel a'.st q combined a'.mc a'.cands a'.next a'.locally :=
  candidateLoop_next cfg fuel q combined a

/-- Each referral followed is strictly closer to the question name than the delegation in use
    before it; every other step of the loop keeps the delegation.  (A reading of `LoopNext`; that the
    machine's iterations are `LoopNext` steps is `C07_candidateLoop_step`.) -/
theorem C07_referrals_strictly_closer (cfg : RecCfg) (q : Question) (a a' : LoopArgs)
    (h : LoopNext cfg q a a') :
    a'.mc = a.mc ∨
    (a.mc < a'.mc ∧ ∃ zone : Name, a'.mc = zone.labels.length ∧ q.name.isSubdomainOf zone = true) :=
  h.cases.imp (·.1) fun ⟨h1, _, _, _, hz⟩ => ⟨h1, hz⟩

/-- Over a whole run of the loop the depth of the delegation in use never decreases and, started at most
    as deep as the question name (`C07_initial_candidates_enclose`), never exceeds its depth.  (A referral
    raises the depth strictly, `C07_referrals_strictly_closer`; the count of referrals is not stated.) -/
theorem C07_match_count_increases (cfg : RecCfg) (q : Question) (a b : LoopArgs) (h : LoopSteps cfg q a b) :
    a.mc ≤ b.mc ∧ (a.mc ≤ q.name.labels.length → b.mc ≤ q.name.labels.length) := by
  induction h with
  | refl => exact ⟨Nat.le_refl _, id⟩
  | step _ hn ih => exact ⟨Nat.le_trans ih.1 hn.mc_mono.1, fun h => hn.mc_mono.2 (ih.2 h)⟩

/-- The loop's value IS the value of the last iteration of a chain of `LoopNext` steps from its
    arguments; that last iteration ends the loop unless the fuel is used up. -/
theorem C07_candidateLoop_run (cfg : RecCfg) (q : Question) (combined : List RR) (n : Nat) (a : LoopArgs) :
    ∃ (k : Nat) (a' : LoopArgs), k ≤ n ∧ LoopChain cfg q a k a' ∧
      candidateLoop cfg n a.st q combined a.mc a.cands a.next a.locally =
        candidateLoop cfg (n - k) a'.st q combined a'.mc a'.cands a'.next a'.locally ∧
      (n - k = 0 ∨ ∃ m, n - k = m + 1 ∧
        LoopEnds cfg m q (candidateLoop cfg (m + 1) a'.st q combined a'.mc a'.cands a'.next a'.locally)) :=
  candidateLoop_chain cfg q combined n a

/-- The loop cannot go on forever: with at most `H` hosts per referral, the natural number
    `(labels − match_count)·(2H+2) + width` strictly decreases at every iteration (`hmc` is not used). -/
theorem C07_loop_measure_decreases (cfg : RecCfg) (q : Question) (a a' : LoopArgs) (H : Nat)
    (hH : ∀ hs, (cfg.hostOrder hs).length ≤ H) (h : LoopNext cfg q a a') (hmc : a.mc ≤ q.name.labels.length) :
    a'.measure q.name.labels.length H < a.measure q.name.labels.length H :=
  h.measure_lt H hH

/-! ### Non-vacuity: the root hints of the example universe are found as candidates for `x.`,
    they enclose it, and the `referral` constructor of `LoopNext` has an instance. -/

example : ∃ st' ns, candidateNameservers ⟨exCtx, Run.empty⟩ exQ.name.labels = (st', some ns) ∧
    ns.name = Name.root ∧ ns.hostnames = [exRootNs] := by
  refine ⟨(candidateNameservers ⟨exCtx, Run.empty⟩ exQ.name.labels).1, ⟨[exRootNs], Name.root⟩, ?_, rfl, rfl⟩
  have h : (candidateNameservers ⟨exCtx, Run.empty⟩ exQ.name.labels).2 = some ⟨[exRootNs], Name.root⟩ := by
    decide +kernel
  rw [← h]

example : LoopNext exCfg exQ ⟨⟨exCtx, Run.empty⟩, 0, [exRootNs], [], true⟩
    ⟨⟨exCtx, Run.empty⟩, 2, exCfg.hostOrder [exRootNs], [], true⟩ :=
  LoopNext.referral _ _ exQName [exRootNs] (by decide) (by decide) (by decide)

end Resolved
