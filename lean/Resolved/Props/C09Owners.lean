/-
  C09, last clause — "…the answer and authority sections, AA and RCODE are those the resolver
  produced for the question: an answer section holds only records for the question name or its
  CNAME chain."

  `C09_aa_iff` (Props/C09.lean) proves the first half for EVERY resolver.  This file proves the
  second half for the server in AUTHORITATIVE-ONLY mode over any configuration `zones`
  (`authOnlyResolver zones`: `resolve_local` over the configuration, an empty cache, an empty
  question stack — `so_ctx zones`), by carrying the chain shape of C10 (`ChainShaped`,
  Proofs/ResolverLocalChain.lean) through `resolve_and_build_response` / `handle_raw_message`
  and, for replies that fit a datagram, through the wire.  The hypothesis "the local resolution is
  no referral" is spelt `(resolveLocal (RECURSION_LIMIT + 1) (so_ctx zones) q).2 ≠ .ok (.delegation …)`:
  `RECURSION_LIMIT + 1` is the fuel `resolveAuthoritativeOnly` hands to `resolve_local`.

  Hypothesis on the configuration: (H-zone) `ZoneAnswersTyped zones` — zone answers carry records of the asked type,
  alias verdicts a CNAME record, referrals NS records.  It holds of every `Zones.Configured` (C10), hence of what
  `loadConfiguration` produces from zones that are `so_built` (`C09_answer_owners_loaded`): parsed zone files are
  (`C13_parsed_zone_hypotheses`); of the zone made from the hosts files it is ASSUMED — Proofs/HostsZoneLemmas.lean
  declares a `NameOK` of its own and cannot be imported together with Proofs/ZoneRepr.lean, where `Zone.build`'s lives.

  What the model (and the Rust it mirrors) does that the prose does not say — open finding F10: beneath a delegation
  point of an authoritative zone the local resolver returns a referral, which `From<LocalResolutionResult> for
  ResolvedRecord` turns into an AUTHORITATIVE ANSWER: the NS records of the delegation point, owned by it and no alias
  chain, sit in the ANSWER section with AA set (`C09_referral_is_the_exception`).  So for a question type other than
  CNAME, ANY and NS the clause holds exactly when the local resolution is not a referral (`C09_answer_owners_iff`).
  CNAME questions: `C09_cname_question_owners`; for ANY nothing is claimed; for an NS question answered by a referral
  at the question name itself the chain shape is neither proved nor refuted.
-/
import Resolved.Props.C09
import Resolved.Proofs.ResolverLocalExamples
import Resolved.Proofs.ServerOwners

namespace Resolved

open Gen

/-! ## 1. Answer owners: the question name or its CNAME chain -/

/-- **Answer section = the question's alias chain and the records at its end.**
    All outcomes are covered: authoritative answer, authoritative name error (no answers),
    non-authoritative answer (SOA-less zone such as the hosts zone, or an unfinished alias walk),
    resolver errors (SERVFAIL, no answers).  The message need not be a standard query nor the
    question's type/class known: NOTIMP, REFUSED and SERVFAIL replies carry no answer record. -/
theorem C09_answer_owners_auth_only (zones : Zones) (hzone : ZoneAnswersTyped zones)
    (buf : List UInt8) (m r : Message) (q : Question)
    (hd : decodeMessage buf = .ok m) (hq : m.questions = [q])
    (h5 : q.qtype ≠ RT_CNAME) (h255 : q.qtype ≠ QTYPE_WILDCARD)
    (h : handleRawMessage true (authOnlyResolver zones) buf = some r)
    (hnd : ∀ rs s d, (resolveLocal (RECURSION_LIMIT + 1) (so_ctx zones) q).2 ≠ .ok (.delegation rs s d)) :
    ChainShaped q.name q.qtype r.answers := by
  rcases handleRawMessage_answers hd hq h with h0 | h1
  · rw [h0]; exact ChainShaped.nil _ _
  · rw [h1, authOnlyResolver_eq]
    exact resolveAuthoritativeOnly_answers_chain (so_ctx zones) q hzone (cacheTyped_new 512) h5 h255 hnd

/-- `C09_answer_owners_auth_only` in owner terms: every answer record is owned by the question
    name or by the target of an alias record of the section. -/
theorem C09_answer_owner_on_chain (zones : Zones) (hzone : ZoneAnswersTyped zones)
    (buf : List UInt8) (m r : Message) (q : Question)
    (hd : decodeMessage buf = .ok m) (hq : m.questions = [q])
    (h5 : q.qtype ≠ RT_CNAME) (h255 : q.qtype ≠ QTYPE_WILDCARD)
    (h : handleRawMessage true (authOnlyResolver zones) buf = some r)
    (hnd : ∀ rs s d, (resolveLocal (RECURSION_LIMIT + 1) (so_ctx zones) q).2 ≠ .ok (.delegation rs s d)) :
    ∀ rr ∈ r.answers, rr.name = q.name ∨ ∃ c ∈ r.answers, cnameTarget c = some rr.name :=
  ChainShaped.owner (C09_answer_owners_auth_only zones hzone buf m r q hd hq h5 h255 h hnd)

/-- The alias record whose target owns an answer record comes STRICTLY EARLIER in the section:
    the chain is sent in order. -/
theorem C09_answer_owner_earlier (zones : Zones) (hzone : ZoneAnswersTyped zones)
    (buf : List UInt8) (m r : Message) (q : Question)
    (hd : decodeMessage buf = .ok m) (hq : m.questions = [q])
    (h5 : q.qtype ≠ RT_CNAME) (h255 : q.qtype ≠ QTYPE_WILDCARD)
    (h : handleRawMessage true (authOnlyResolver zones) buf = some r)
    (hnd : ∀ rs s d, (resolveLocal (RECURSION_LIMIT + 1) (so_ctx zones) q).2 ≠ .ok (.delegation rs s d)) :
    ∀ (i : Nat) (rr : RR), r.answers[i]? = some rr →
      rr.name = q.name ∨ ∃ j c, j < i ∧ r.answers[j]? = some c ∧ cnameTarget c = some rr.name :=
  ChainShaped.earlier (C09_answer_owners_auth_only zones hzone buf m r q hd hq h5 h255 h hnd)

theorem C09_answer_types_on_chain (zones : Zones) (hzone : ZoneAnswersTyped zones)
    (buf : List UInt8) (m r : Message) (q : Question)
    (hd : decodeMessage buf = .ok m) (hq : m.questions = [q])
    (h5 : q.qtype ≠ RT_CNAME) (h255 : q.qtype ≠ QTYPE_WILDCARD)
    (h : handleRawMessage true (authOnlyResolver zones) buf = some r)
    (hnd : ∀ rs s d, (resolveLocal (RECURSION_LIMIT + 1) (so_ctx zones) q).2 ≠ .ok (.delegation rs s d)) :
    ∀ rr ∈ r.answers, (∃ t, cnameTarget rr = some t) ∨ (rr.rtype = q.qtype ∧ cnameTarget rr = none) :=
  ChainShaped.types (C09_answer_owners_auth_only zones hzone buf m r q hd hq h5 h255 h hnd)

/-- The reply outcome by outcome: the first half of the clause (`C09_aa_iff`) together with the
    second. -/
theorem C09_answer_owners_by_outcome (zones : Zones) (hzone : ZoneAnswersTyped zones)
    (buf : List UInt8) (m r : Message) (q : Question)
    (hd : decodeMessage buf = .ok m) (ho : m.header.opcode = OPCODE_STANDARD)
    (hq : m.questions = [q]) (hk : questionIsUnknown q = false)
    (h5 : q.qtype ≠ RT_CNAME) (h255 : q.qtype ≠ QTYPE_WILDCARD)
    (h : handleRawMessage true (authOnlyResolver zones) buf = some r)
    (hnd : ∀ rs s d, (resolveLocal (RECURSION_LIMIT + 1) (so_ctx zones) q).2 ≠ .ok (.delegation rs s d)) :
    ChainShaped q.name q.qtype r.answers ∧
    ((∃ e, (resolveAuthoritativeOnly (so_ctx zones) q).2 = .error e ∧
        r.answers = [] ∧ r.authority = [] ∧ r.header.isAuthoritative = false ∧
        r.header.rcode = RCODE_SERVFAIL) ∨
     (∃ soa, (resolveAuthoritativeOnly (so_ctx zones) q).2 = .ok (.authoritativeNameError soa) ∧
        r.answers = [] ∧ r.authority = [soa] ∧ r.header.isAuthoritative = true ∧
        r.header.rcode = RCODE_NAMEERROR) ∨
     (∃ rrs soa, (resolveAuthoritativeOnly (so_ctx zones) q).2 = .ok (.authoritative rrs soa) ∧
        r.answers = rrs ∧ r.authority = [soa] ∧ r.header.isAuthoritative = true ∧
        r.header.rcode = RCODE_NOERROR) ∨
     (∃ rrs s, (resolveAuthoritativeOnly (so_ctx zones) q).2 = .ok (.nonAuthoritative rrs s) ∧
        r.answers = rrs ∧ r.authority = s.toList ∧ r.header.isAuthoritative = false ∧
        (r.header.rcode = RCODE_NOERROR ∨ (r.header.rcode = RCODE_SERVFAIL ∧ rrs = [] ∧ s = none)))) := by
  refine ⟨C09_answer_owners_auth_only zones hzone buf m r q hd hq h5 h255 h hnd, ?_⟩
  have hr := handleRawMessage_question_reply hd ho hq hk h
  rw [authOnlyResolver_eq] at hr
  subst hr
  match hres : (resolveAuthoritativeOnly (so_ctx zones) q).2 with
  | .error e => exact .inl ⟨e, rfl, rfl, rfl, rfl, rfl⟩
  | .ok (.authoritativeNameError soa) => exact .inr (.inl ⟨soa, rfl, rfl, rfl, rfl, rfl⟩)
  | .ok (.authoritative rrs soa) => exact .inr (.inr (.inl ⟨rrs, soa, rfl, rfl, rfl, rfl, rfl⟩))
  | .ok (.nonAuthoritative rrs (some s)) =>
    exact .inr (.inr (.inr ⟨rrs, some s, rfl, rfl, rfl, rfl, .inl rfl⟩))
  | .ok (.nonAuthoritative [] none) =>
    exact .inr (.inr (.inr ⟨[], none, rfl, rfl, rfl, rfl, .inr ⟨rfl, rfl, rfl⟩⟩))
  | .ok (.nonAuthoritative (rr :: rrs) none) =>
    exact .inr (.inr (.inr ⟨rr :: rrs, none, rfl, rfl, rfl, rfl, .inl rfl⟩))

/-! ## 2. (H-zone) for configurations the loader builds from `so_built` zones -/

/-- (H-zone) holds of every `Zones.Configured` (C10); `load_zone_configuration` makes such a
    configuration when the zone files and the hosts zone are `so_built` (`Zone::new` and
    insertions: a hypothesis here); the empty cache satisfies the cache invariant C10 needs. -/
theorem C09_owner_hypotheses_established :
    (∀ zs : Zones, Zones.Configured zs → ZoneAnswersTyped zs) ∧
    (∀ zoneFiles hosts cfg, (∀ z, some z ∈ zoneFiles → so_built z) → (∀ z, hosts = some z → so_built z) →
      loadConfiguration zoneFiles hosts = some cfg → Zones.Configured cfg) ∧
    (∀ zones, CacheTyped (so_ctx zones).cache) ∧
    (∀ zones q b, authOnlyResolver zones q b = (resolveAuthoritativeOnly (so_ctx zones) q).2) :=
  ⟨fun _ h => h.answersTyped, fun _ _ _ h1 h2 h => loadConfiguration_configured h1 h2 h,
   fun _ => cacheTyped_new 512, fun _ _ _ => rfl⟩

/-- `C09_answer_owners_auth_only` and its owner form for a `Zones.Configured` (merges included). -/
theorem C09_answer_owners_configured (zones : Zones) (hcfg : Zones.Configured zones)
    (buf : List UInt8) (m r : Message) (q : Question)
    (hd : decodeMessage buf = .ok m) (hq : m.questions = [q])
    (h5 : q.qtype ≠ RT_CNAME) (h255 : q.qtype ≠ QTYPE_WILDCARD)
    (h : handleRawMessage true (authOnlyResolver zones) buf = some r)
    (hnd : ∀ rs s d, (resolveLocal (RECURSION_LIMIT + 1) (so_ctx zones) q).2 ≠ .ok (.delegation rs s d)) :
    ChainShaped q.name q.qtype r.answers ∧
    ∀ rr ∈ r.answers, rr.name = q.name ∨ ∃ c ∈ r.answers, cnameTarget c = some rr.name :=
  ⟨C09_answer_owners_auth_only zones hcfg.answersTyped buf m r q hd hq h5 h255 h hnd,
   C09_answer_owner_on_chain zones hcfg.answersTyped buf m r q hd hq h5 h255 h hnd⟩

/-- `C09_answer_owners_auth_only` and its owner form for what `load_zone_configuration` hands to the
    server, the files and the hosts zone being `so_built`. -/
theorem C09_answer_owners_loaded (zoneFiles : List (Option Zone)) (hosts : Option Zone) (zones : Zones)
    (hfiles : ∀ z, some z ∈ zoneFiles → so_built z) (hhosts : ∀ z, hosts = some z → so_built z)
    (hload : loadConfiguration zoneFiles hosts = some zones)
    (buf : List UInt8) (m r : Message) (q : Question)
    (hd : decodeMessage buf = .ok m) (hq : m.questions = [q])
    (h5 : q.qtype ≠ RT_CNAME) (h255 : q.qtype ≠ QTYPE_WILDCARD)
    (h : handleRawMessage true (authOnlyResolver zones) buf = some r)
    (hnd : ∀ rs s d, (resolveLocal (RECURSION_LIMIT + 1) (so_ctx zones) q).2 ≠ .ok (.delegation rs s d)) :
    ChainShaped q.name q.qtype r.answers ∧
    ∀ rr ∈ r.answers, rr.name = q.name ∨ ∃ c ∈ r.answers, cnameTarget c = some rr.name :=
  C09_answer_owners_configured zones (loadConfiguration_configured hfiles hhosts hload) buf m r q hd hq h5 h255 h hnd

/-! ## 3. The referral is the exception (open finding F10) -/

/-- **What the model returns beneath a delegation point.**  Standard query, one known question, the
    local resolution a referral `.delegation rs s d`: `rs` is the non-empty NS set of a delegation
    point of an authoritative zone (`s` = that zone's SOA), and the reply carries `rs` in its
    ANSWER section with AA set, RCODE NOERROR and the SOA as authority.  Every answer record is
    owned by the delegation point `d.name`; under (H-zone) they all are NS records, none an alias. -/
theorem C09_referral_is_the_exception (zones : Zones)
    (buf : List UInt8) (m r : Message) (q : Question)
    (hd : decodeMessage buf = .ok m) (ho : m.header.opcode = OPCODE_STANDARD)
    (hq : m.questions = [q]) (hk : questionIsUnknown q = false)
    (h : handleRawMessage true (authOnlyResolver zones) buf = some r)
    (rs : List RR) (s : Option RR) (d : Nameservers)
    (hdel : (resolveLocal (RECURSION_LIMIT + 1) (so_ctx zones) q).2 = .ok (.delegation rs s d)) :
    ∃ z soa first rest, s = some soa ∧ rs = first :: rest ∧
      zones.resolve q.name q.qtype = some (z, some (.delegation rs)) ∧ z.soaRR = some soa ∧
      d.name = first.name ∧
      r.answers = rs ∧ r.authority = [soa] ∧ r.additional = [] ∧
      r.header.isAuthoritative = true ∧ r.header.rcode = RCODE_NOERROR ∧
      (∀ rr ∈ r.answers, rr.name = d.name) ∧
      (ZoneAnswersTyped zones → ∀ rr ∈ r.answers, rr.rtype = RT_NS ∧ cnameTarget rr = none) := by
  obtain ⟨z, soa, first, rest, h1, h2, h3, h4, h5, h6, h7⟩ := (resolveLocal_walk hdel).delegation_inv
  have hr := handleRawMessage_question_reply hd ho hq hk h
  have hres : authOnlyResolver zones q (m.header.recursionDesired && !true) = .ok (.authoritative rs soa) := by
    rw [authOnlyResolver_of_local _ hdel, h1]; rfl
  rw [hres] at hr
  subst hr
  exact ⟨z, soa, first, rest, h1, h2, h3, h4, by rw [h5], rfl, rfl, rfl, rfl, rfl, h6, fun hz rr hrr =>
    ⟨h7 hz rr hrr, cnameTarget_none_of_rtype (by rw [h7 hz rr hrr]; decide)⟩⟩

/-- Such an answer section is NOT the question's chain, unless the question asks for NS records of
    the delegation point itself (a case `zone_result_helper` excludes at the node it looks at —
    an NS question there is answered, not referred; not needed and not proved here for the whole
    tree): under (H-zone), with a type other than NS or a delegation point other than the
    question name, `ChainShaped` fails. -/
theorem C09_referral_breaks_chain (zones : Zones) (hzone : ZoneAnswersTyped zones)
    (buf : List UInt8) (m r : Message) (q : Question)
    (hd : decodeMessage buf = .ok m) (ho : m.header.opcode = OPCODE_STANDARD)
    (hq : m.questions = [q]) (hk : questionIsUnknown q = false)
    (h : handleRawMessage true (authOnlyResolver zones) buf = some r)
    (rs : List RR) (s : Option RR) (d : Nameservers)
    (hdel : (resolveLocal (RECURSION_LIMIT + 1) (so_ctx zones) q).2 = .ok (.delegation rs s d))
    (hoff : q.qtype ≠ RT_NS ∨ d.name ≠ q.name) :
    ¬ ChainShaped q.name q.qtype r.answers := by
  obtain ⟨z, soa, first, rest, _, h2, _, _, h5, h6, _, _, _, _, h11, h12⟩ :=
    C09_referral_is_the_exception zones buf m r q hd ho hq hk h rs s d hdel
  intro hc
  rw [h6, h2] at hc
  have hmem : first ∈ r.answers := by rw [h6, h2]; simp
  obtain ⟨hn, ht⟩ := ChainShaped.head (h12 hzone first hmem).2 hc
  rcases hoff with hoff | hoff
  · exact hoff (ht.symm.trans (h12 hzone first hmem).1)
  · exact hoff (h5.trans hn)

/-- In owner terms. -/
theorem C09_referral_owner_off_chain (zones : Zones) (hzone : ZoneAnswersTyped zones)
    (buf : List UInt8) (m r : Message) (q : Question)
    (hd : decodeMessage buf = .ok m) (ho : m.header.opcode = OPCODE_STANDARD)
    (hq : m.questions = [q]) (hk : questionIsUnknown q = false)
    (h : handleRawMessage true (authOnlyResolver zones) buf = some r)
    (rs : List RR) (s : Option RR) (d : Nameservers)
    (hdel : (resolveLocal (RECURSION_LIMIT + 1) (so_ctx zones) q).2 = .ok (.delegation rs s d))
    (hoff : d.name ≠ q.name) :
    r.answers ≠ [] ∧
    ∀ rr ∈ r.answers, ¬ (rr.name = q.name ∨ ∃ c ∈ r.answers, cnameTarget c = some rr.name) := by
  obtain ⟨z, soa, first, rest, _, h2, _, _, _, h6, _, _, _, _, h11, h12⟩ :=
    C09_referral_is_the_exception zones buf m r q hd ho hq hk h rs s d hdel
  refine ⟨by rw [h6, h2]; simp, ?_⟩
  intro rr hrr hor
  rcases hor with hn | ⟨c, hc, hct⟩
  · exact hoff ((h11 rr hrr).symm.trans hn)
  · rw [(h12 hzone c hc).2] at hct; cases hct

/-- **The hypothesis of `C09_answer_owners_auth_only` is exactly the gap** — for question types
    other than CNAME and ANY (as there) and other than NS (`C09_referral_breaks_chain` needs a
    type other than NS or a delegation point other than the question name). -/
theorem C09_answer_owners_iff (zones : Zones) (hzone : ZoneAnswersTyped zones)
    (buf : List UInt8) (m r : Message) (q : Question)
    (hd : decodeMessage buf = .ok m) (ho : m.header.opcode = OPCODE_STANDARD)
    (hq : m.questions = [q]) (hk : questionIsUnknown q = false)
    (h5 : q.qtype ≠ RT_CNAME) (h255 : q.qtype ≠ QTYPE_WILDCARD) (h2 : q.qtype ≠ RT_NS)
    (h : handleRawMessage true (authOnlyResolver zones) buf = some r) :
    ChainShaped q.name q.qtype r.answers ↔
      ∀ rs s d, (resolveLocal (RECURSION_LIMIT + 1) (so_ctx zones) q).2 ≠ .ok (.delegation rs s d) := by
  constructor
  · intro hc rs s d hdel
    exact C09_referral_breaks_chain zones hzone buf m r q hd ho hq hk h rs s d hdel (.inl h2) hc
  · exact C09_answer_owners_auth_only zones hzone buf m r q hd hq h5 h255 h

/-! ## 4. On the wire -/

/-- **The datagram's answer section is the question's chain.**  The resolver's records need to be
    serialisable (`srvResultWF`, as in `C09_udp_reply_decodes`) for the one question only; the flag
    `false` in `hwf` is arbitrary, `authOnlyResolver` ignores it. -/
theorem C09_answer_owners_on_the_wire (zones : Zones) (hzone : ZoneAnswersTyped zones)
    (buf : List UInt8) (m r : Message) (q : Question) (bs : List UInt8)
    (hd : decodeMessage buf = .ok m) (hq : m.questions = [q])
    (h5 : q.qtype ≠ RT_CNAME) (h255 : q.qtype ≠ QTYPE_WILDCARD)
    (h : handleRawMessage true (authOnlyResolver zones) buf = some r)
    (hnd : ∀ rs s d, (resolveLocal (RECURSION_LIMIT + 1) (so_ctx zones) q).2 ≠ .ok (.delegation rs s d))
    (hwf : srvResultWF (authOnlyResolver zones q false))
    (he : encodeMessage r = .ok bs) (hle : bs.length ≤ 512) :
    serveUdp true (authOnlyResolver zones) buf = some bs ∧
    ∃ m', decodeMessage bs = .ok m' ∧ ChainShaped q.name q.qtype m'.answers ∧
      ∀ rr ∈ m'.answers, rr.name = q.name ∨ ∃ c ∈ m'.answers, cnameTarget c = some rr.name := by
  refine ⟨(C09_frames_of_fitting_reply true _ buf r bs h he).1 hle, r,
    C04_roundtrip r bs (srv_reply_wf ?_ h) he,
    C09_answer_owners_auth_only zones hzone buf m r q hd hq h5 h255 h hnd,
    C09_answer_owner_on_chain zones hzone buf m r q hd hq h5 h255 h hnd⟩
  -- the server consults the resolver for the one question only
  intro m0 hd0 q0 hq0
  cases hd.symm.trans hd0
  rw [hq] at hq0
  cases List.mem_singleton.mp hq0
  exact hwf

/-! ## 5. CNAME questions -/

/-- A CNAME question is answered with records owned by the question name only (the alias is
    reported, not followed) — again outside a referral; no hypothesis on the configuration. -/
theorem C09_cname_question_owners (zones : Zones)
    (buf : List UInt8) (m r : Message) (q : Question)
    (hd : decodeMessage buf = .ok m) (hq : m.questions = [q]) (h5 : q.qtype = RT_CNAME)
    (h : handleRawMessage true (authOnlyResolver zones) buf = some r)
    (hnd : ∀ rs s d, (resolveLocal (RECURSION_LIMIT + 1) (so_ctx zones) q).2 ≠ .ok (.delegation rs s d)) :
    ∀ rr ∈ r.answers, rr.name = q.name := by
  rcases handleRawMessage_answers hd hq h with h0 | h1
  · rw [h0]; intro rr hrr; cases hrr
  · rw [h1, authOnlyResolver_eq]
    exact resolveAuthoritativeOnly_cname_owners (so_ctx zones) q h5 hnd

/-! ## 6. Non-vacuity and the concrete gap (fixtures: Proofs/ResolverLocalExamples.lean)

  `Ex.zones`: authoritative zone `e.` (`w.e. A 1`, `c.e. CNAME w.e.`, `s.e. NS n.o.`, …) and a
  SOA-less root zone. -/

namespace C09ex

/-- `c.e. A IN`, ID 0x1234, RD -/
def ceQueryBytes : List UInt8 :=
  [0x12, 0x34, 1, 0, 0, 1, 0, 0, 0, 0, 0, 0, 1, 99, 1, 101, 0, 0, 1, 0, 1]
def ceQuery : Message :=
  { header := ⟨0x1234, false, 0, false, false, true, false, 0⟩
    questions := [Ex.qA Ex.nCE], answers := [], authority := [], additional := [] }

/-- `x.s.e. A IN` — beneath the delegation point `s.e.` -/
def xseQueryBytes : List UInt8 :=
  [0x12, 0x34, 1, 0, 0, 1, 0, 0, 0, 0, 0, 0, 1, 120, 1, 115, 1, 101, 0, 0, 1, 0, 1]
def xseQuery : Message :=
  { header := ⟨0x1234, false, 0, false, false, true, false, 0⟩
    questions := [Ex.qA Ex.nXSE], answers := [], authority := [], additional := [] }

theorem ceQuery_decodes : decodeMessage ceQueryBytes = .ok ceQuery :=
  C04_roundtrip _ _ (by decide +kernel) (by decide +kernel)
theorem xseQuery_decodes : decodeMessage xseQueryBytes = .ok xseQuery :=
  C04_roundtrip _ _ (by decide +kernel) (by decide +kernel)

theorem ce_local : (resolveLocal (RECURSION_LIMIT + 1) (so_ctx Ex.zones) (Ex.qA Ex.nCE)).2 =
    .ok (.done (.authoritative [Ex.rrC, Ex.rrW] Ex.soaRRE)) :=
  Ex.run_c (so_ctx Ex.zones) rfl rfl

theorem xse_local : (resolveLocal (RECURSION_LIMIT + 1) (so_ctx Ex.zones) (Ex.qA Ex.nXSE)).2 =
    .ok (.delegation [Ex.rrS] (some Ex.soaRRE) { hostnames := [Ex.nNO], name := Ex.nSE }) :=
  congrArg Prod.snd (resolveLocal_zone_auth 32 (ctx := so_ctx Ex.zones) (q := Ex.qA Ex.nXSE) (zr := .delegation [Ex.rrS])
    (soa := Ex.soaRRE) (by decide) (by decide) Ex.resolve_xs rfl nofun nofun)

theorem ce_reply : handleRawMessage true (authOnlyResolver Ex.zones) ceQueryBytes =
    some (srvReplyOf true ceQuery (.ok (.authoritative [Ex.rrC, Ex.rrW] Ex.soaRRE))) := by
  rw [handleRawMessage_question ceQuery_decodes rfl rfl rfl (by decide), authOnlyResolver_of_local _ ce_local]
  rfl

theorem xse_reply : handleRawMessage true (authOnlyResolver Ex.zones) xseQueryBytes =
    some (srvReplyOf true xseQuery (.ok (.authoritative [Ex.rrS] Ex.soaRRE))) := by
  rw [handleRawMessage_question xseQuery_decodes rfl rfl rfl (by decide), authOnlyResolver_of_local _ xse_local]
  rfl

theorem xse_breaks_chain : ¬ ChainShaped Ex.nXSE RT_A
    (srvReplyOf true xseQuery (.ok (.authoritative [Ex.rrS] Ex.soaRRE))).answers :=
  C09_referral_breaks_chain Ex.zones Ex.zones_answers_typed _ _ _ (Ex.qA Ex.nXSE)
    xseQuery_decodes rfl rfl (by decide) xse_reply _ _ _ xse_local (.inl (by decide))

theorem ce_not_referral : ∀ rs s d,
    (resolveLocal (RECURSION_LIMIT + 1) (so_ctx Ex.zones) (Ex.qA Ex.nCE)).2 ≠ .ok (.delegation rs s d) := by
  intro rs s d hc; rw [ce_local] at hc; cases hc

theorem ce_result : authOnlyResolver Ex.zones (Ex.qA Ex.nCE) false =
    .ok (.authoritative [Ex.rrC, Ex.rrW] Ex.soaRRE) :=
  authOnlyResolver_of_local _ ce_local

/-- the 93-octet reply to `c.e. A`: `85 00` = QR AA RD, RA clear, NOERROR; 1 question, 2 answers
    (`c.e. CNAME w.e.`, `w.e. A 0.0.0.1`, owners compressed), 1 authority record (the SOA of `e.`) -/
def ceReplyBytes : List UInt8 :=
  [18, 52, 133, 0, 0, 1, 0, 2, 0, 1, 0, 0, 1, 99, 1, 101, 0, 0, 1, 0, 1, 192, 12, 0, 5, 0, 1, 0, 0, 1, 44,
   0, 5, 1, 119, 1, 101, 0, 192, 33, 0, 1, 0, 1, 0, 0, 1, 44, 0, 4, 0, 0, 0, 1, 1, 101, 0, 0, 6, 0, 1, 0,
   0, 0, 5, 0, 26, 1, 101, 0, 1, 101, 0, 0, 0, 0, 1, 0, 0, 0, 2, 0, 0, 0, 3, 0, 0, 0, 4, 0, 0, 0, 5]

/-- the 82-octet reply to `x.s.e. A`: AA set, ONE ANSWER `s.e. NS n.o.`, the SOA of `e.` as authority -/
def xseReplyBytes : List UInt8 :=
  [18, 52, 133, 0, 0, 1, 0, 1, 0, 1, 0, 0, 1, 120, 1, 115, 1, 101, 0, 0, 1, 0, 1, 1, 115, 1, 101, 0, 0, 2,
   0, 1, 0, 0, 1, 44, 0, 5, 1, 110, 1, 111, 0, 1, 101, 0, 0, 6, 0, 1, 0, 0, 0, 5, 0, 26, 1, 101, 0, 1, 101,
   0, 0, 0, 0, 1, 0, 0, 0, 2, 0, 0, 0, 3, 0, 0, 0, 4, 0, 0, 0, 5]

end C09ex

/-- the hypotheses of `C09_answer_owners_auth_only` hold for `c.e. A` over `Ex.zones` -/
example : ∃ r, handleRawMessage true (authOnlyResolver Ex.zones) C09ex.ceQueryBytes = some r ∧
    r.answers = [Ex.rrC, Ex.rrW] ∧ ChainShaped Ex.nCE RT_A r.answers ∧
    ∀ rr ∈ r.answers, rr.name = Ex.nCE ∨ ∃ c ∈ r.answers, cnameTarget c = some rr.name := by
  have hnd := C09ex.ce_not_referral
  exact ⟨_, C09ex.ce_reply, rfl,
    C09_answer_owners_auth_only Ex.zones Ex.zones_answers_typed _ _ _ (Ex.qA Ex.nCE)
      C09ex.ceQuery_decodes rfl (by decide) (by decide) C09ex.ce_reply hnd,
    C09_answer_owner_on_chain Ex.zones Ex.zones_answers_typed _ _ _ (Ex.qA Ex.nCE)
      C09ex.ceQuery_decodes rfl (by decide) (by decide) C09ex.ce_reply hnd⟩

/-- `c.e. A` on the wire (`C09_answer_owners_on_the_wire`, all hypotheses discharged) -/
example : serveUdp true (authOnlyResolver Ex.zones) C09ex.ceQueryBytes = some C09ex.ceReplyBytes ∧
    ∃ m', decodeMessage C09ex.ceReplyBytes = .ok m' ∧ ChainShaped Ex.nCE RT_A m'.answers ∧
      ∀ rr ∈ m'.answers, rr.name = Ex.nCE ∨ ∃ c ∈ m'.answers, cnameTarget c = some rr.name :=
  C09_answer_owners_on_the_wire Ex.zones Ex.zones_answers_typed _ _ _ (Ex.qA Ex.nCE) _
    C09ex.ceQuery_decodes rfl (by decide) (by decide) C09ex.ce_reply C09ex.ce_not_referral
    (by rw [C09ex.ce_result]; unfold srvResultWF; decide +kernel) (by decide +kernel) (by decide)

/-- **The referral in the answer section, concretely.**  `x.s.e. A` to the authoritative-only server over `Ex.zones`: the local
    resolution is a referral, and the reply says AA with `s.e. NS n.o.` in the ANSWER section —
    a record owned neither by the question name `x.s.e.` nor by the target of any alias record
    (there is none), and not of the asked type. -/
example : ∃ r, handleRawMessage true (authOnlyResolver Ex.zones) C09ex.xseQueryBytes = some r ∧
    r.answers = [Ex.rrS] ∧ r.authority = [Ex.soaRRE] ∧ r.header.isAuthoritative = true ∧
    r.header.rcode = RCODE_NOERROR ∧
    Ex.rrS.name ≠ Ex.nXSE ∧ (∀ c ∈ r.answers, cnameTarget c = none) ∧ Ex.rrS.rtype ≠ RT_A ∧
    ¬ ChainShaped Ex.nXSE RT_A r.answers :=
  ⟨_, C09ex.xse_reply, rfl, rfl, rfl, rfl, by decide, by decide, by decide, C09ex.xse_breaks_chain⟩

/-- … on the wire: the datagram sent for `x.s.e. A` reads back as that reply — AA, and the
    delegation's NS record as the one ANSWER. -/
example : serveUdp true (authOnlyResolver Ex.zones) C09ex.xseQueryBytes = some C09ex.xseReplyBytes ∧
    ∃ m', decodeMessage C09ex.xseReplyBytes = .ok m' ∧ m'.answers = [Ex.rrS] ∧
      m'.header.isAuthoritative = true ∧ ¬ ChainShaped Ex.nXSE RT_A m'.answers := by
  have he : encodeMessage (srvReplyOf true C09ex.xseQuery (.ok (.authoritative [Ex.rrS] Ex.soaRRE))) =
      .ok C09ex.xseReplyBytes := by decide +kernel
  exact ⟨(C09_frames_of_fitting_reply true _ _ _ _ C09ex.xse_reply he).1 (by decide), _,
    C04_roundtrip _ _ (by decide +kernel) he, rfl, rfl, C09ex.xse_breaks_chain⟩

/-- the hypotheses of `C09_referral_is_the_exception` / `C09_referral_owner_off_chain` are
    satisfiable: the delegation point `s.e.` is not the question name. -/
example : ∃ r, handleRawMessage true (authOnlyResolver Ex.zones) C09ex.xseQueryBytes = some r ∧
    r.answers ≠ [] ∧
    ∀ rr ∈ r.answers, ¬ (rr.name = Ex.nXSE ∨ ∃ c ∈ r.answers, cnameTarget c = some rr.name) :=
  ⟨_, C09ex.xse_reply,
   C09_referral_owner_off_chain Ex.zones Ex.zones_answers_typed _ _ _ (Ex.qA Ex.nXSE)
     C09ex.xseQuery_decodes rfl rfl (by decide) C09ex.xse_reply _ _ _ C09ex.xse_local (by decide)⟩

namespace C09ex

/-- `c.e. CNAME IN` -/
def ceCnameQueryBytes : List UInt8 :=
  [0x12, 0x34, 1, 0, 0, 1, 0, 0, 0, 0, 0, 0, 1, 99, 1, 101, 0, 0, 5, 0, 1]
def ceCnameQuery : Message :=
  { header := ⟨0x1234, false, 0, false, false, true, false, 0⟩
    questions := [⟨Ex.nCE, RT_CNAME, 1⟩], answers := [], authority := [], additional := [] }
/-- `h. A IN` — a name of the SOA-less (hosts-like) root zone -/
def hQueryBytes : List UInt8 := [0x12, 0x34, 1, 0, 0, 1, 0, 0, 0, 0, 0, 0, 1, 104, 0, 0, 1, 0, 1]
def hQuery : Message :=
  { header := ⟨0x1234, false, 0, false, false, true, false, 0⟩
    questions := [Ex.qA Ex.nH], answers := [], authority := [], additional := [] }

theorem ceCnameQuery_decodes : decodeMessage ceCnameQueryBytes = .ok ceCnameQuery :=
  C04_roundtrip _ _ (by decide +kernel) (by decide +kernel)
theorem hQuery_decodes : decodeMessage hQueryBytes = .ok hQuery :=
  C04_roundtrip _ _ (by decide +kernel) (by decide +kernel)

theorem ceCname_local : (resolveLocal (RECURSION_LIMIT + 1) (so_ctx Ex.zones) ⟨Ex.nCE, RT_CNAME, 1⟩).2 =
    .ok (.done (.authoritative [Ex.rrC] Ex.soaRRE)) :=
  congrArg Prod.snd (resolveLocal_zone_auth 32 (ctx := so_ctx Ex.zones) (q := ⟨Ex.nCE, RT_CNAME, 1⟩)
    (zr := .answer [Ex.rrC]) (soa := Ex.soaRRE) (by decide) (by decide) Ex.resolve_c_cname rfl nofun nofun)

theorem h_local : (resolveLocal (RECURSION_LIMIT + 1) (so_ctx Ex.zones) (Ex.qA Ex.nH)).2 =
    .ok (.done (.nonAuthoritative [Ex.rrH] none)) :=
  congrArg Prod.snd (resolveLocal_zone_answer_nonauth 32 (ctx := so_ctx Ex.zones) (q := Ex.qA Ex.nH) (by decide)
    (by decide) Ex.resolve_h rfl (by decide) (List.cons_ne_nil _ _))

theorem emptyZone_built : so_built (Zone.new Ex.nE none) := ⟨Ex.nE, none, [], by decide, rfl⟩

theorem ceCname_reply : handleRawMessage true (authOnlyResolver Ex.zones) ceCnameQueryBytes =
    some (srvReplyOf true ceCnameQuery (.ok (.authoritative [Ex.rrC] Ex.soaRRE))) := by
  rw [handleRawMessage_question ceCnameQuery_decodes rfl rfl rfl (by decide), authOnlyResolver_of_local _ ceCname_local]
  rfl

theorem h_reply : handleRawMessage true (authOnlyResolver Ex.zones) hQueryBytes =
    some (srvReplyOf true hQuery (.ok (.nonAuthoritative [Ex.rrH] none))) := by
  rw [handleRawMessage_question hQuery_decodes rfl rfl rfl (by decide), authOnlyResolver_of_local _ h_local]
  rfl

end C09ex

/-- `C09_cname_question_owners` on `c.e. CNAME`: the alias record itself, owned by the question
    name, and nothing of its target. -/
example : ∃ r, handleRawMessage true (authOnlyResolver Ex.zones) C09ex.ceCnameQueryBytes = some r ∧
    r.answers = [Ex.rrC] ∧ ∀ rr ∈ r.answers, rr.name = Ex.nCE :=
  ⟨_, C09ex.ceCname_reply, rfl,
   C09_cname_question_owners Ex.zones _ _ _ ⟨Ex.nCE, RT_CNAME, 1⟩ C09ex.ceCnameQuery_decodes rfl rfl
     C09ex.ceCname_reply (by intro rs s d hc; rw [C09ex.ceCname_local] at hc; cases hc)⟩

/-- the NON-authoritative outcome does occur in authoritative-only mode (a name of the SOA-less
    zone: AA clear, no authority record), and `C09_answer_owners_by_outcome` covers it. -/
example : ∃ r, handleRawMessage true (authOnlyResolver Ex.zones) C09ex.hQueryBytes = some r ∧
    r.answers = [Ex.rrH] ∧ r.authority = [] ∧ r.header.isAuthoritative = false ∧
    r.header.rcode = RCODE_NOERROR ∧ ChainShaped Ex.nH RT_A r.answers :=
  ⟨_, C09ex.h_reply, rfl, rfl, rfl, rfl,
   (C09_answer_owners_by_outcome Ex.zones Ex.zones_answers_typed _ _ _ (Ex.qA Ex.nH)
     C09ex.hQuery_decodes rfl rfl (by decide) (by decide) (by decide) C09ex.h_reply
     (by intro rs s d hc; rw [C09ex.h_local] at hc; cases hc)).1⟩

/-- `so_built` / `Zones.Configured` are inhabited: an empty zone `e.` loaded as the hosts zone. -/
example : so_built (Zone.new Ex.nE none) := C09ex.emptyZone_built
example : ∃ cfg, loadConfiguration [] (some (Zone.new Ex.nE none)) = some cfg ∧ Zones.Configured cfg :=
  ⟨_, rfl, loadConfiguration_configured (zoneFiles := []) (hosts := some (Zone.new Ex.nE none))
    (by intro z hz; cases hz) (by intro z hz; cases hz; exact C09ex.emptyZone_built) rfl⟩

end Resolved
