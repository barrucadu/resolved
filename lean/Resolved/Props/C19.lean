/-
  C19 — Reload swaps the whole configuration or none of it.
  The reload state machine (pure part of `load_zone_configuration` + `reload_task`), over
  arbitrary histories of reload attempts.  Signal delivery, the tokio RwLock and the file system
  are observed on the real binary by the reload stream, not modelled.
  Histories: `C19_history_last_good` and what follows from it; loading (`loadConfiguration`):
  section 4, where `C19_load_merges_succeed` shows that the loader's `insert_merge`s cannot fail
  (the single step is C12's, `C12_insertMerge_never_panics`).
-/
import Resolved.Proofs.ServerOwners
import Resolved.Proofs.ResolverLocalExamples
import Resolved.Props.C04
import Resolved.Props.C12

namespace Resolved

/-! ## 1. One bad file fails the load; a reload swaps everything or nothing -/

/-- One unreadable or invalid file (zone or hosts) makes the whole load fail. -/
theorem C19_one_bad_file_fails_load (zoneFiles : List (Option Zone)) (hosts : Option Zone)
    (h : none ∈ zoneFiles ∨ hosts = none) : loadConfiguration zoneFiles hosts = none :=
  loadConfiguration_missing h

/-- A failed load leaves the live configuration exactly as it was; a successful one replaces it
    as a whole. -/
theorem C19_all_or_nothing (live : Zones) (loaded : Option Zones) :
    (loaded = none → reload live loaded = (live, false)) ∧
    (∀ z, loaded = some z → reload live loaded = (z, true)) := by
  constructor
  · intro h; subst h; rfl
  · intro z h; subst h; rfl

/-! ## 2. Histories of reload attempts -/

/-- **Last good configuration.**  After any history of reload attempts (`some z` = every file
    loaded and gave `z`; `none` = some file failed) the live configuration is what the last
    successful attempt loaded, or the initial one if none succeeded.  An instance of
    `foldl_last_wins`: with `look := some` and `g := id` the Option-valued lemma speaks of the whole
    state; the `rw` turns `getLast? ∘ filterMap id` into its `reverse.findSome? id`. -/
theorem C19_history_last_good (init : Zones) (hist : List (Option Zones)) :
    reloadHistory init hist = ((hist.filterMap id).getLast?).getD init := by
  have := foldl_last_wins some (fun live l => (reload live l).1) id
    (fun live l => by cases l <;> rfl) hist init
  rw [List.getLast?_eq_head?_reverse, ← List.filterMap_reverse, List.head?_filterMap]
  exact Option.some.inj (this.trans (by cases hist.reverse.findSome? id <;> rfl))

/-- A history in which every attempt failed leaves the initial configuration. -/
theorem C19_all_failed (init : Zones) (hist : List (Option Zones)) (hfail : ∀ l ∈ hist, l = none) :
    reloadHistory init hist = init := by
  rw [C19_history_last_good, (List.filterMap_eq_nil_iff (f := id)).mpr hfail]; rfl

/-- One more attempt at the end of a history is one `reload` of the live configuration. -/
theorem C19_history_step (init : Zones) (hist : List (Option Zones)) (l : Option Zones) :
    reloadHistory init (hist ++ [l]) = (reload (reloadHistory init hist) l).1 := by
  rw [srv_reloadHistory_append]; rfl

/-- **Nothing of the old lingers.**  The configuration after a successful reload does not depend
    on the one before it (`reload` returns its second argument's value; all three by `rfl`). -/
theorem C19_nothing_lingers (live1 live2 z : Zones) :
    (reload live1 (some z)).1 = (reload live2 (some z)).1 ∧ (reload live1 (some z)).1 = z ∧
    (reload live1 (some z)).2 = true :=
  ⟨rfl, rfl, rfl⟩

/-- After any history whose last attempt succeeded the live configuration is what that attempt
    loaded, whatever came before. -/
theorem C19_nothing_lingers_history (init1 init2 : Zones) (hist1 hist2 : List (Option Zones))
    (z : Zones) :
    reloadHistory init1 (hist1 ++ [some z]) = z ∧
    reloadHistory init1 (hist1 ++ [some z]) = reloadHistory init2 (hist2 ++ [some z]) := by
  rw [C19_history_step, C19_history_step]; exact ⟨rfl, rfl⟩

/-- After a successful attempt followed by failed ones only, the live configuration is what the
    successful one loaded. -/
theorem C19_last_success_wins (init : Zones) (before after : List (Option Zones)) (z : Zones)
    (hfail : ∀ l ∈ after, l = none) :
    reloadHistory init (before ++ some z :: after) = z := by
  rw [srv_reloadHistory_append, srv_reloadHistory_cons, srv_reload_some, C19_all_failed _ _ hfail]

/-! ## 3. Failed reloads are invisible -/

/-- `reload live none` is `(live, false)`, by computation; so the two `serve…` equations compare a
    term with itself. -/
theorem C19_failed_reload_invisible (live : Zones) (buf : List UInt8) (n : Nat) :
    (reload live none).1 = live ∧ (reload live none).2 = false ∧
    serveUdp true (authOnlyResolver (reload live none).1) buf = serveUdp true (authOnlyResolver live) buf ∧
    serveTcp true (authOnlyResolver (reload live none).1) n buf
      = serveTcp true (authOnlyResolver live) n buf :=
  ⟨rfl, rfl, rfl, rfl⟩

/-- A whole run of failed reloads after any history leaves the live configuration, hence every
    answer, as it was. -/
theorem C19_failed_suffix_invisible (init : Zones) (hist failed : List (Option Zones))
    (hfail : ∀ l ∈ failed, l = none) (buf : List UInt8) (n : Nat) :
    reloadHistory init (hist ++ failed) = reloadHistory init hist ∧
    serveUdp true (authOnlyResolver (reloadHistory init (hist ++ failed))) buf
      = serveUdp true (authOnlyResolver (reloadHistory init hist)) buf ∧
    serveTcp true (authOnlyResolver (reloadHistory init (hist ++ failed))) n buf
      = serveTcp true (authOnlyResolver (reloadHistory init hist)) n buf := by
  have h : reloadHistory init (hist ++ failed) = reloadHistory init hist := by
    rw [srv_reloadHistory_append, C19_all_failed _ _ hfail]
  rw [h]; exact ⟨rfl, rfl, rfl⟩

/-! ## 4. Loading is all or nothing -/

/-- A load succeeds only if every zone file and the hosts files loaded. -/
theorem C19_load_all_files (zoneFiles : List (Option Zone)) (hosts : Option Zone) (zs : Zones)
    (h : loadConfiguration zoneFiles hosts = some zs) :
    (∀ f ∈ zoneFiles, f.isSome = true) ∧ hosts.isSome = true := by
  rcases loadConfiguration_cases zoneFiles hosts with ⟨_, hn⟩ | ⟨l, hz, rfl, rfl, _⟩
  · rw [hn] at h; cases h
  · refine ⟨fun f hf => ?_, rfl⟩
    obtain ⟨z, _, rfl⟩ := List.mem_map.mp hf
    rfl

/-- When every file loaded, the value is the chain of `insert_merge`s; the `unwrap` on `merge` in
    there (`none` in the model) is not reached: `C19_load_merges_succeed`. -/
theorem C19_load_success_value (zs : List Zone) (h : Zone) :
    loadConfiguration (zs.map some) (some h) =
      (zs.foldl (fun acc z => acc.bind (·.insertMerge z)) (some Zones.empty)).bind
        (·.insertMerge h) :=
  loadConfiguration_all_some zs h

/-- A failing file at ANY position makes the whole load fail; so does a failing hosts file. -/
theorem C19_load_failure_positions (pre suf : List (Option Zone)) (hosts : Option Zone)
    (zoneFiles : List (Option Zone)) :
    loadConfiguration (pre ++ none :: suf) hosts = none ∧
    loadConfiguration zoneFiles none = none :=
  ⟨C19_one_bad_file_fails_load _ hosts (.inl (List.mem_append_right pre List.mem_cons_self)),
    C19_one_bad_file_fails_load zoneFiles none (.inr rfl)⟩

/-- The loader's `insert_merge`s cannot fail: it starts from the empty set, every set it passes
    through is keyed by apex, and there `Zone::merge` is never handed two different apices
    (`C12_insertMerge_never_panics`). -/
theorem C19_load_merges_succeed (zs : List Zone) : ∀ acc : Zones, Zones.KeyedByApex acc →
    ∃ cfg, zs.foldl (fun acc z => acc.bind (·.insertMerge z)) (some acc) = some cfg ∧
      Zones.KeyedByApex cfg :=
  fun acc h =>
    List.foldlRecOn (motive := fun o => ∃ cfg, o = some cfg ∧ Zones.KeyedByApex cfg) zs _ ⟨acc, rfl, h⟩
      fun _ ⟨a, e, h⟩ z _ =>
        let ⟨acc', h1, h2, _⟩ := C12_insertMerge_never_panics a z h
        ⟨acc', e ▸ h1, h2⟩

/-- **A load fails exactly when a file failed.** -/
theorem C19_load_fails_iff_file_missing (zoneFiles : List (Option Zone)) (hosts : Option Zone) :
    loadConfiguration zoneFiles hosts = none ↔ (none ∈ zoneFiles ∨ hosts = none) := by
  refine ⟨fun hn => ?_, C19_one_bad_file_fails_load zoneFiles hosts⟩
  rcases loadConfiguration_cases zoneFiles hosts with ⟨hm, _⟩ | ⟨zs, h, _, _, he⟩
  · exact hm
  · obtain ⟨cfg, hf, _⟩ := C19_load_merges_succeed (zs ++ [h]) Zones.empty C12_empty_zones_keyed
    rw [he, hf] at hn
    cases hn

/-- the same with the rejected merge spelt out as a third way to fail; by
    `C19_load_fails_iff_file_missing` that disjunct never holds -/
theorem C19_load_none_iff (zoneFiles : List (Option Zone)) (hosts : Option Zone) :
    loadConfiguration zoneFiles hosts = none ↔
      (none ∈ zoneFiles ∨ hosts = none ∨
       ∃ (zs : List Zone) (h : Zone), zoneFiles = zs.map some ∧ hosts = some h ∧
         (zs.foldl (fun acc z => acc.bind (·.insertMerge z)) (some Zones.empty)).bind
           (·.insertMerge h) = none) := by
  constructor
  · intro hn
    exact ((C19_load_fails_iff_file_missing zoneFiles hosts).mp hn).elim .inl (.inr ∘ .inl)
  · rintro (h | h | ⟨zs, h, h1, h2, h3⟩)
    · exact C19_one_bad_file_fails_load zoneFiles hosts (.inl h)
    · exact C19_one_bad_file_fails_load zoneFiles hosts (.inr h)
    · rw [h1, h2, loadConfiguration_all_some]; exact h3

/-- `C19_all_or_nothing` for what `loadConfiguration` returns. -/
theorem C19_reload_load (live : Zones) (zoneFiles : List (Option Zone)) (hosts : Option Zone) :
    (∀ zs, loadConfiguration zoneFiles hosts = some zs →
      reload live (loadConfiguration zoneFiles hosts) = (zs, true)) ∧
    (loadConfiguration zoneFiles hosts = none →
      reload live (loadConfiguration zoneFiles hosts) = (live, false)) :=
  ⟨(C19_all_or_nothing live _).2, (C19_all_or_nothing live _).1⟩

theorem C19_bad_file_reload_invisible (live : Zones) (pre suf : List (Option Zone))
    (hosts : Option Zone) (buf : List UInt8) :
    reload live (loadConfiguration (pre ++ none :: suf) hosts) = (live, false) ∧
    serveUdp true (authOnlyResolver (reload live (loadConfiguration (pre ++ none :: suf) hosts)).1) buf
      = serveUdp true (authOnlyResolver live) buf := by
  rw [C19_one_bad_file_fails_load _ hosts (.inl (List.mem_append_right pre List.mem_cons_self))]
  exact ⟨rfl, rfl⟩

/-! ## 5. One query, one configuration -/

/-- If the configuration a query reads is the old one or what `reload` makes of it (`swapped` says
    which), its answer is the answer under the one or under the other: `f (if b then x else y)` is
    `f y` or `f x`.  No interleaving is modelled; `_new` does not occur. -/
theorem C19_snapshot (old _new : Zones) (loaded : Option Zones) (buf : List UInt8) (swapped : Bool) :
    let live := if swapped then (reload old loaded).1 else old
    serveUdp true (authOnlyResolver live) buf = serveUdp true (authOnlyResolver old) buf ∨
    serveUdp true (authOnlyResolver live) buf = serveUdp true (authOnlyResolver (reload old loaded).1) buf := by
  cases swapped <;> simp

/-- `C19_snapshot` for TCP. -/
theorem C19_snapshot_tcp (old : Zones) (loaded : Option Zones) (buf : List UInt8) (n : Nat)
    (swapped : Bool) :
    let live := if swapped then (reload old loaded).1 else old
    serveTcp true (authOnlyResolver live) n buf = serveTcp true (authOnlyResolver old) n buf ∨
    serveTcp true (authOnlyResolver live) n buf
      = serveTcp true (authOnlyResolver (reload old loaded).1) n buf := by
  cases swapped <;> simp

/-- **Whole configurations only.**  At every point `k` of a history the live configuration is the
    initial one or one of the successfully loaded ones (first two conjuncts; the two `serve…`
    equations then hold by `rfl`, the witness being the live configuration itself). -/
theorem C19_snapshot_history (init : Zones) (hist : List (Option Zones)) (k : Nat)
    (buf : List UInt8) (n : Nat) :
    ∃ z, (z = init ∨ some z ∈ hist) ∧ reloadHistory init (hist.take k) = z ∧
      serveUdp true (authOnlyResolver (reloadHistory init (hist.take k))) buf
        = serveUdp true (authOnlyResolver z) buf ∧
      serveTcp true (authOnlyResolver (reloadHistory init (hist.take k))) n buf
        = serveTcp true (authOnlyResolver z) n buf := by
  refine ⟨reloadHistory init (hist.take k), ?_, rfl, rfl, rfl⟩
  rw [C19_history_last_good]
  cases h : ((hist.take k).filterMap id).getLast? with
  | none => exact .inl rfl
  | some z =>
    obtain ⟨o, ho, rfl⟩ := List.mem_filterMap.mp (List.mem_of_getLast? h)
    exact .inr (List.mem_of_mem_take ho)

/-- `C19_history_last_good` at the first `k` attempts of a history. -/
theorem C19_snapshot_is_last_good (init : Zones) (hist : List (Option Zones)) (k : Nat) :
    reloadHistory init (hist.take k) = (((hist.take k).filterMap id).getLast?).getD init :=
  C19_history_last_good init (hist.take k)

/-- Equal configurations give equal answers (congruence; nothing else of the state enters
    `serveUdp`/`serveTcp`, which take the configuration as their only argument besides the query). -/
theorem C19_answers_from_configuration (z1 z2 : Zones) (h : z1 = z2) (buf : List UInt8) (n : Nat) :
    serveUdp true (authOnlyResolver z1) buf = serveUdp true (authOnlyResolver z2) buf ∧
    serveTcp true (authOnlyResolver z1) n buf = serveTcp true (authOnlyResolver z2) n buf := by
  subst h; exact ⟨rfl, rfl⟩

/-! ## 6. Non-vacuity -/

namespace C19ex
/-- a zone for the root apex with no records, and a configuration holding it -/
def rootZone : Zone := Zone.new Name.root none
def cfg1 : Zones := Zones.empty.insert rootZone
theorem load_rootZone : loadConfiguration [] (some rootZone) = some cfg1 := rfl
end C19ex

example : reloadHistory Zones.empty [none, some C19ex.cfg1, none, none] = C19ex.cfg1 := rfl
example : reloadHistory C19ex.cfg1 [none, none] = C19ex.cfg1 := rfl
example : reloadHistory C19ex.cfg1 [some Zones.empty, none, some C19ex.cfg1, some Zones.empty]
    = Zones.empty := rfl
example : reloadHistory C19ex.cfg1 ([none, some Zones.empty] ++ [some C19ex.cfg1]) = C19ex.cfg1 :=
  (C19_nothing_lingers_history C19ex.cfg1 Zones.empty [none, some Zones.empty] [] C19ex.cfg1).1
/-- a load that succeeds (no zone files, an empty hosts zone) and loads that fail -/
example : ∃ zs, loadConfiguration [] (some C19ex.rootZone) = some zs := ⟨_, C19ex.load_rootZone⟩
example : ∃ zs, loadConfiguration [some C19ex.rootZone] (some C19ex.rootZone) = some zs := by
  rw [show [some C19ex.rootZone] = [C19ex.rootZone].map some from rfl, C19_load_success_value]
  exact ⟨_, rfl⟩
example : loadConfiguration [some C19ex.rootZone, none] (some C19ex.rootZone) = none :=
  C19_one_bad_file_fails_load _ _ (.inl (List.mem_cons_of_mem _ List.mem_cons_self))
example : loadConfiguration [some C19ex.rootZone] none = none :=
  C19_one_bad_file_fails_load _ _ (.inr rfl)
/-- a reload from files on a live configuration: success swaps, failure keeps -/
example : (reload C19ex.cfg1 (loadConfiguration [] (some C19ex.rootZone))).2 = true :=
  congrArg (fun l => (reload C19ex.cfg1 l).2) C19ex.load_rootZone
example : reload C19ex.cfg1 (loadConfiguration [none] (some C19ex.rootZone)) = (C19ex.cfg1, false) :=
  (C19_bad_file_reload_invisible C19ex.cfg1 [] [] _ []).1

/-- `C19_last_success_wins` with a satisfiable "all failed afterwards" hypothesis -/
example : reloadHistory Zones.empty ([none] ++ some C19ex.cfg1 :: [none, none]) = C19ex.cfg1 :=
  C19_last_success_wins Zones.empty [none] [none, none] C19ex.cfg1 (by simp)
example : C19ex.cfg1.zones.length = 1 ∧ Zones.empty.zones.length = 0 := ⟨rfl, rfl⟩

/-! A reload that succeeds IS visible (the theorems above are not about indistinguishable
    configurations): the query `w.e. A` gets SERVFAIL from the empty configuration, before and
    after a failed reload, and the authoritative answer `w.e. A 0.0.0.1` + SOA of `e.` once the
    configuration `Ex.zones` (Proofs/ResolverLocalExamples.lean) has been loaded. -/

namespace C19ex
def wQuery : Message :=
  { header := ⟨7, false, 0, false, false, false, false, 0⟩
    questions := [Ex.qA Ex.nWE], answers := [], authority := [], additional := [] }
def wQueryBytes : List UInt8 := [0, 7, 0, 0, 0, 1, 0, 0, 0, 0, 0, 0, 1, 119, 1, 101, 0, 0, 1, 0, 1]
theorem wQuery_decodes : decodeMessage wQueryBytes = .ok wQuery :=
  C04_roundtrip _ _ (by decide +kernel) (by decide +kernel)
theorem handle_w (zs : Zones) : handleRawMessage true (authOnlyResolver zs) wQueryBytes =
    some (srvReplyOf true wQuery (authOnlyResolver zs (Ex.qA Ex.nWE) false)) :=
  handleRawMessage_question wQuery_decodes rfl rfl rfl (by decide)
theorem resolver_empty :
    authOnlyResolver Zones.empty (Ex.qA Ex.nWE) false = .error (.deadEnd (Ex.qA Ex.nWE)) := by
  decide +kernel
theorem resolver_loaded :
    authOnlyResolver Ex.zones (Ex.qA Ex.nWE) false = .ok (.authoritative [Ex.rrW] Ex.soaRRE) :=
  authOnlyResolver_of_local false (congrArg Prod.snd (resolveLocal_zone_auth Gen.RECURSION_LIMIT
    (ctx := so_ctx Ex.zones) (q := Ex.qA Ex.nWE) (zr := .answer [Ex.rrW]) (soa := Ex.soaRRE)
    (by decide) (by decide) Ex.resolve_w rfl nofun nofun))
end C19ex

example : serveUdp true (authOnlyResolver (reloadHistory Zones.empty [none])) C19ex.wQueryBytes =
    some [0, 7, 128, 2, 0, 1, 0, 0, 0, 0, 0, 0, 1, 119, 1, 101, 0, 0, 1, 0, 1] := by
  rw [show reloadHistory Zones.empty [none] = Zones.empty from rfl, srv_serveUdp_eq,
    C19ex.handle_w, C19ex.resolver_empty]
  decide +kernel

example : serveUdp true (authOnlyResolver (reloadHistory Zones.empty [none, some Ex.zones, none]))
      C19ex.wQueryBytes =
    some [0, 7, 132, 0, 0, 1, 0, 1, 0, 1, 0, 0, 1, 119, 1, 101, 0, 0, 1, 0, 1, 192, 12, 0, 1, 0, 1,
      0, 0, 1, 44, 0, 4, 0, 0, 0, 1, 1, 101, 0, 0, 6, 0, 1, 0, 0, 0, 5, 0, 26, 1, 101, 0, 1, 101, 0,
      0, 0, 0, 1, 0, 0, 0, 2, 0, 0, 0, 3, 0, 0, 0, 4, 0, 0, 0, 5] := by
  rw [show reloadHistory Zones.empty [none, some Ex.zones, none] = Ex.zones from rfl,
    srv_serveUdp_eq, C19ex.handle_w, C19ex.resolver_loaded]
  decide +kernel

end Resolved
