/-
  C14 — Hosts files are read as hosts(5) describes and convert losslessly
  (and the hosts part of C17 — the reader never panics).

  Model: Model/Hosts.lean (`parse_line`, `Hosts::deserialise`, `serialise`, `merge`,
  `From<Hosts> for Zone`, `TryFrom<Zone> for Hosts`, std `IpAddr::from_str` / `Display`).
  Specification: Spec/HostsSpec.lean (`HSpec.parseLine`, `HSpec.parse`: cut at `#`, split on blanks).
-/
import Resolved.Proofs.HostsZoneLemmas
import Resolved.Proofs.HostsTextLemmas

/-
  Where the property text is silent the specification follows the implementation (D-H1..D-H3 are set out
  in Spec/HostsSpec.lean, D-H4 belongs to `serialise` and is named only here): D-H1 a lone malformed field
  followed by a blank is an error; D-H2 `%` after the first character of the first field skips the line
  unexamined; D-H3 one character behind the `#`s is examined for ASCII; D-H4 `serialise` is faithful only
  for names representable in a hosts file (`HostsWF`).
-/

namespace Resolved

open HostsM

/-! ## `#` starts a comment wherever it appears -/

/-- Appending `#…` to ANY line `pre` leaves the meaning of the line unchanged: same mappings, same
    error.  Side condition `HSpec.afterHash rest = none`: the first character behind the run of `#`s
    is ASCII or absent (D-H3: the implementation examines that one character).
    A `#` directly behind a name ends the name, which still counts (the `(ReadingName, '#')` arm of
    `parse_line`): in `1.2.3.4 foo#bar` the name `foo` is mapped. -/
theorem C14_comment_anywhere (pre rest : List Char) (c : Char) (hc : isHash c = true)
    (hr : HSpec.afterHash rest = none) : parseLine (pre ++ c :: rest) = parseLine pre := by
  rw [parseLine_refines_spec, parseLine_refines_spec]
  unfold HSpec.parseLine
  rw [body_append_comment pre rest c hc, commentCheck_append_comment pre rest c hc hr]

/-- the side condition is satisfiable (`bar` behind the `#`) … -/
example : HSpec.afterHash [Char.ofNat 98, Char.ofNat 97, Char.ofNat 114] = none := by decide

/-- … and `1.2.3.4 foo#bar` maps `foo.` to 1.2.3.4 (without the `(ReadingName, '#')` arm the line
    would yield no mapping). -/
example : parseLine ([49, 46, 50, 46, 51, 46, 52, 32, 102, 111, 111, 35, 98, 97, 114].map Char.ofNat) =
    .ok (some (.v4 16909060, [⟨[[102, 111, 111], []], 5⟩])) := by rfl

/-- The side condition cannot be dropped: `1.2.3.4 a#é` is an error (D-H3), `1.2.3.4 a` is not. -/
example : parseLine ([49, 46, 50, 46, 51, 46, 52, 32, 97, 35, 233].map Char.ofNat) =
    .error (.expectedAscii (Char.ofNat 233)) := by rfl

/-! ## the state machine IS the split-based reading of hosts(5) -/

/-- For every line — ASCII or not — `parse_line` returns exactly what the specification says:
    the same mappings, or the same error with the same payload. -/
theorem C14_parse_refines_spec (l : List Char) : parseLine l = HSpec.parseLine l :=
  parseLine_refines_spec l

/-- For every text, `Hosts::deserialise` returns the specification's reading of the file: the error
    of the first bad line, or the same hosts data (as maps). -/
theorem C14_deserialise_refines_spec (s : List Char) :
    match HSpec.parse s with
    | .error e => Hosts.deserialise s = .error e
    | .ok h' => ∃ h, Hosts.deserialise s = .ok h ∧ Hosts.Equiv h h' :=
  deserialise_refines_spec s

/-- `str::lines` as modelled = the specification's notion of a line. -/
theorem C14_lines (s : List Char) : strLines s = HSpec.lines s := strLines_eq_spec s

/-! ### the clauses of the property text, read off the refinement -/

/-- blank lines (any mix of space, tab, VT, FF, CR) are ignored. -/
theorem C14_blank_ignored (l : List Char) (h : ∀ c ∈ l, isWs c = true) : parseLine l = .ok none := by
  rw [parseLine_refines_spec]
  induction l with
  | nil => exact parseLine_nil
  | cons c cs ih =>
    rw [parseLine_ws_cons c cs (h c (by simp))]
    exact ih (fun d hd => h d (by simp [hd]))

/-- an address-only line — one field (ASCII, no blank, no `#`, no `%` behind its first character)
    and nothing else — is ignored, whatever the field is. -/
theorem C14_address_only_ignored (f : List Char) (h : FieldOK f) (hne : f ≠ [])
    (hp : NoPct (f.drop 1)) : parseLine f = .ok none := by
  rw [parseLine_refines_spec]; exact parseLine_addr_end f h hne hp

/-- a line whose first field carries an interface suffix `%…` is skipped, whatever follows the `%`
    (names, malformed text, non-ASCII text). -/
theorem C14_iface_line_skipped (f rest : List Char) (c : Char) (h : FieldOK f) (hne : f ≠ [])
    (hp : NoPct (f.drop 1)) (hc : isPercent c = true) : parseLine (f ++ c :: rest) = .ok none := by
  rw [parseLine_refines_spec]; exact parseLine_addr_percent f rest c h hne hp hc

/-- a line that maps names (white space follows the first field) must have an address in its first
    field: otherwise `CouldNotParseAddress` with that field, whatever follows. -/
theorem C14_bad_address_is_error (f rest : List Char) (w : Char) (h : FieldOK f) (hne : f ≠ [])
    (hp : NoPct (f.drop 1)) (hw : isWs w = true) (hbad : Ip.parseIpAddr (utf8Encode f) = none) :
    parseLine (f ++ w :: rest) = .error (.couldNotParseAddress f) := by
  rw [parseLine_refines_spec, parseLine_addr_ws f rest w h hne hp hw, hbad]

/-! ## a later mapping for the same name and family replaces an earlier one -/

/-- The `for line in data.lines()` loop yields, for every name and family, the address of the LAST
    mapping (in file order) for that name and family, and nothing for names never mapped.
    `HSpec.mappings` lists the mappings of all lines in file order. -/
theorem C14_last_wins (ls : List (List Char)) (h : Hosts)
    (hd : Hosts.deserialiseLines Hosts.new ls = .ok h) :
    ∃ ms, HSpec.mappings ls = .ok ms ∧
      (∀ n, h.v4.get n = v4Of (HSpec.lastMapping ms n true)) ∧
      (∀ n, h.v6.get n = v6Of (HSpec.lastMapping ms n false)) := by
  obtain ⟨ms, hm, rfl⟩ := deserialiseLines_ok hd
  exact ⟨ms, hm, fun n => (foldl_applyMapping_new ms n).1, fun n => (foldl_applyMapping_new ms n).2⟩

/-- … and an error of the loop is the error of the first bad line. -/
theorem C14_first_error (ls : List (List Char)) (e : HErr)
    (hd : Hosts.deserialiseLines Hosts.new ls = .error e) : HSpec.mappings ls = .error e :=
  deserialiseLines_error hd

/-- `Hosts::merge` (several hosts files, C12): the entry of the file merged in later wins per
    (name, family), every other entry stays. -/
theorem C14_merge_later_wins (h o : Hosts) (n4 : o.v4.KeysNodup) (n6 : o.v6.KeysNodup) (n : Name) :
    (h.merge o).v4.get n = (o.v4.get n).or (h.v4.get n) ∧
    (h.merge o).v6.get n = (o.v6.get n).or (h.v6.get n) :=
  ⟨(foldl_insert_get o.v4 h.v4 n).trans (by rw [AddrMap.get_reverse n4]),
    (foldl_insert_get o.v6 h.v6 n).trans (by rw [AddrMap.get_reverse n6])⟩

/-! ## C17: the hosts reader never panics -/

/-- No `&line[a..b]` of `parse_line` can panic: every slice the loop takes lies in the ASCII-checked
    prefix of the line (the model's explicit `panic` result is unreachable), for every line. -/
theorem C17_parse_line_total (l : List Char) : parseLine l ≠ .error .panic := by
  rw [parseLine_refines_spec]
  exact spec_parseLine_ne_panic l

/-- … hence `Hosts::deserialise` never panics either, on any text. -/
theorem C17_hosts_deserialise_total (s : List Char) : Hosts.deserialise s ≠ .error .panic :=
  fun hp => mappings_ne_panic _ (deserialiseLines_error hp)

/-! ## hosts data ⇄ zone -/

/-- Converting hosts data with well-formed names never panics (`from_labels(..).unwrap()` inside
    `ZoneRecords::insert` always succeeds). -/
theorem C14_toZone_total (h : Hosts) (wf : HostsNamesWF h) : ∃ z, h.toZone = some z :=
  toZone_isSome h wf

/-- The zone of hosts data (well-formed names, no key twice — the `HashMap` invariant) holds exactly
    one record per mapping — `|v4| + |v6|` records, no wildcard records — each an A / AAAA record with
    TTL `HOSTS_TTL` carrying the mapped address of its owner. -/
theorem C14_zone_records (h : Hosts) (wf : HostsNamesWF h) (n4 : h.v4.KeysNodup) (n6 : h.v6.KeysNodup)
    (z : Zone) (hz : h.toZone = some z) :
    (Hosts.flattenRecords z.allRecords).length = h.v4.length + h.v6.length ∧
    z.allWildcardRecords = [] ∧
    ∀ nz ∈ Hosts.flattenRecords z.allRecords, nz.2.ttl = Gen.HOSTS_TTL ∧
      ((nz.2.rtype = RT_A ∧ ∃ a, nz.2.fields = [.a a] ∧ h.v4.get nz.1 = some a) ∨
       (nz.2.rtype = RT_AAAA ∧ ∃ g, nz.2.fields = [.aaaa g] ∧ h.v6.get nz.1 = some g)) := by
  have hinv := toZone_inv h wf n4 n6 hz
  refine ⟨?_, allWildcardRecords_nil _ hinv.ok, ?_⟩
  · unfold Zone.allRecords
    rw [flatten_length, hinv.count]
  · intro nz hnz
    rcases hinv.listed wf.1 wf.2 nz hnz with ⟨a, e, hget⟩ | ⟨g, e, hget⟩
    · rw [e]
      exact ⟨rfl, Or.inl ⟨rfl, a, rfl, hget⟩⟩
    · rw [e]
      exact ⟨rfl, Or.inr ⟨rfl, g, rfl, hget⟩⟩

/-- … which converts back to the same hosts data (same lookup for every name) … -/
theorem C14_zone_roundtrip (h : Hosts) (wf : HostsNamesWF h) (n4 : h.v4.KeysNodup) (n6 : h.v6.KeysNodup)
    (z : Zone) (hz : h.toZone = some z) :
    ∃ h', Hosts.tryFromZone z = .ok h' ∧ Hosts.Equiv h' h :=
  zone_roundtrip h wf n4 n6 z hz

/-- … and resolves every mapping to its address: the hosts zone has neither NS nor CNAME records, so
    the answer is the single A (AAAA) record, TTL 5, class IN — also for the root name. -/
theorem C14_resolves (h : Hosts) (wf : HostsNamesWF h) (n4 : h.v4.KeysNodup) (n6 : h.v6.KeysNodup)
    (z : Zone) (hz : h.toZone = some z) (n : Name) :
    (∀ a, h.v4.get n = some a →
      z.resolve n RT_A = some (.answer [⟨n, RT_A, [.a a], CLASS_IN, Gen.HOSTS_TTL⟩])) ∧
    (∀ g, h.v6.get n = some g →
      z.resolve n RT_AAAA = some (.answer [⟨n, RT_AAAA, [.aaaa g], CLASS_IN, Gen.HOSTS_TTL⟩])) :=
  ⟨fun a hm => toZone_resolves_v4 h wf n4 n6 z hz n a hm, fun g hm => toZone_resolves_v6 h wf n4 n6 z hz n g hm⟩

/-- The hypotheses of the zone theorems hold for EVERYTHING `Hosts::deserialise` returns: names
    come out of `from_relative_dotted_string` (C16) and `HashMap::insert` keeps keys distinct.  So every
    hosts file that is read converts to a zone, back, and resolves. -/
theorem C14_read_data_converts (s : List Char) (h : Hosts) (hd : Hosts.deserialise s = .ok h) :
    HostsNamesWF h ∧ h.v4.KeysNodup ∧ h.v6.KeysNodup ∧
    ∃ z, h.toZone = some z ∧ (∃ h', Hosts.tryFromZone z = .ok h' ∧ Hosts.Equiv h' h) := by
  obtain ⟨wf, n4, n6⟩ := deserialise_good s h hd
  obtain ⟨z, hz⟩ := toZone_isSome h wf
  exact ⟨wf, n4, n6, z, hz, zone_roundtrip h wf n4 n6 z hz⟩

/-! ## writing hosts data out and reading it back -/

instance (n : Name) : Decidable (WFName n) := by unfold WFName; infer_instance
instance (n : Name) : Decidable (NameTextOK n) := by unfold NameTextOK; infer_instance
/-- `HostsWF` (Proofs/HostsTextLemmas.lean) is decidable: names well formed with labels made of
    ASCII octets other than white space, `#`, `.` (and upper case, by `WFName`); IPv4 values below
    2^32; IPv6 values eight groups below 2^16. -/
instance (h : Hosts) : Decidable (HostsWF h) := by unfold HostsWF; infer_instance

/-- `Hosts::deserialise(&hosts.serialise()) == Ok(hosts)` for all hosts data satisfying `HostsWF`:
    `serialise` does not panic, the text it writes is read without error, and the data read has the
    same lookup as `h` for every name in both families. -/
theorem C14_text_roundtrip (h : Hosts) (wf : HostsWF h) :
    ∃ text h', h.serialise = some text ∧ Hosts.deserialise text = .ok h' ∧ Hosts.Equiv h' h := by
  obtain ⟨text, hser, hm⟩ := serialise_mappings h wf
  exact ⟨text, _, hser, deserialise_of_mappings hm, (Lists.sortedDomains_entries h).foldl_equiv⟩

/-- `HostsWF` is satisfiable (two names, the root among them; IPv4, `::1`, `fe80::1`). -/
example : HostsWF ⟨[(⟨[[97], [98], []], 5⟩, 16909060)],
    [(⟨[[97], [98], []], 5⟩, [0, 0, 0, 0, 0, 0, 0, 1]), (Name.root, [65152, 0, 0, 0, 0, 0, 0, 1])]⟩ := by
  decide

/-- The precondition is needed — D-H4: hosts data whose labels hold white space, `#`, `.` or octets
    ≥ 0x80 (such names can come from a zone file through the repository's `ztoh` binary, which
    converts a zone file to a hosts file, never from a hosts file) are written by `serialise` as
    text that reads back differently or not at all.  Here the label
    `a b` (one label) is read back as the two names `a.` and `b.` (`serialiseLoop` over the single
    domain = `serialise`, whose sort is a well-founded definition the kernel does not unfold). -/
example : ∃ text,
    Hosts.serialiseLoop ⟨[(⟨[[97, 32, 98], []], 5⟩, 1)], []⟩ [⟨[[97, 32, 98], []], 5⟩] = some text ∧
    Hosts.deserialise text = .ok ⟨[(⟨[[97], []], 3⟩, 1), (⟨[[98], []], 3⟩, 1)], []⟩ := by
  refine ⟨_, rfl, ?_⟩
  rfl

/-! ## print-then-parse of addresses (std model) -/

/-- `Ipv4Addr`: `from_str (to_string a) = a` for every address. -/
theorem C14_ipv4_print_parse (a : Nat) (h : a < 4294967296) :
    Ip.parseIpAddr (Ip.showIpv4 a) = some (.v4 a) := ipv4_print_parse a h

/-- `Ipv6Addr`: `from_str (to_string a) = a` for every address (all zero-group patterns, the
    `::ffff:a.b.c.d` form, `::`, …). -/
theorem C14_ipv6_print_parse (gs : List Nat) (hl : gs.length = 8) (hg : ∀ g ∈ gs, g < 65536) :
    Ip.parseIpAddr (Ip.showIpv6 gs) = some (.v6 gs) := ipv6_print_parse gs hl hg

/-- what `Display` writes for an address is a hosts-file field: digits, `a`–`f`, `:` and `.` only
    (ASCII, no blank, no `#`, no `%`), and not empty. -/
theorem C14_address_text_is_a_field (x : IpAddr) (h : Ip.WF x) :
    (∀ b ∈ Ip.showIpAddr x, Ip.isAddrByte b = true) ∧ Ip.showIpAddr x ≠ [] := showIpAddr_bytes x h

end Resolved
