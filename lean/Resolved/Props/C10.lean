/-
  C10 — CNAME chains are returned whole, in order, and loops end safely, for the LOCAL resolver
  `resolve_local`: the two guards that stop every alias walk, the depth and fuel bounds, and the
  chain shape of every `ok` outcome (`C10_local_chain`), for any zones / cache / question.
-/
import Resolved.Proofs.ResolverLocalChain
import Resolved.Proofs.ResolverLocalTyped
import Resolved.Proofs.ResolverLocalExamples

namespace Resolved

open Gen

/-- With the question stack at the recursion limit no further alias is followed. -/
theorem C10_limit_stops (fuel : Nat) (ctx : Ctx) (q : Question) (h : ctx.stack.length = RECURSION_LIMIT) :
    (resolveLocal (fuel + 1) ctx q).2 = .error .recursionLimit :=
  congrArg Prod.snd (resolveLocal_at_limit fuel h)

/-- A question already on the stack (an alias loop) is refused instead of being followed again. -/
theorem C10_no_alias_twice (fuel : Nat) (ctx : Ctx) (q : Question)
    (hl : ctx.stack.length ≠ RECURSION_LIMIT) (h : q ∈ ctx.stack) :
    (resolveLocal (fuel + 1) ctx q).2 = .error (.duplicateQuestion q) :=
  congrArg Prod.snd (resolveLocal_duplicate fuel hl h)

/-! ## Loops end safely: depth and fuel of the local resolver

  `resolveLocal (fuel + 1) = localStep (resolveLocal fuel)` (`resolveLocal_succ`, by `rfl`): one
  unit of fuel per native recursion level.  `localStep rec ctx q` is `resolve_local`'s body with
  the recursive call abstracted as `rec`. -/

/-- With at least one unit of fuel local resolution ends in a result or in one of five errors —
    never in `outOfFuel`, whatever the recursive calls did (their failures are absorbed into a
    partial chain). -/
theorem C10_local_errors (fuel : Nat) (ctx : Ctx) (q : Question) (e : ResolutionError)
    (h : (resolveLocal (fuel + 1) ctx q).2 = .error e) :
    e = .recursionLimit ∨ e = .duplicateQuestion q ∨ e = .localDelegationMissingNS ∨
    e = .cacheTypeMismatch ∨ e = .deadEnd q := by
  rw [resolveLocal_succ] at h; exact localStep_error h

/-- Depth bound.  A level calls itself only with the question pushed on the stack, the stack staying
    within `RECURSION_LIMIT`, never with a question already on it (`IsSubcall`): its outcome is a function
    of the recursive function at such arguments alone. -/
theorem C10_depth_bound (ctx : Ctx) (q : Question) (hlen : ctx.stack.length ≤ RECURSION_LIMIT)
    (r1 r2 : Ctx → Question → LocalOut)
    (h : ∀ c' q', IsSubcall ctx q c' q' → r1 c' q' = r2 c' q') :
    localStep r1 ctx q = localStep r2 ctx q :=
  localStep_congr hlen h

/-- … so the native recursion is at most `RECURSION_LIMIT + 1 - stack length` levels deep: that
    much fuel never runs out (`outOfFuel` is not returned) and any larger amount gives the very
    same context and result. -/
theorem C10_local_fuel_suffices (fuel : Nat) (ctx : Ctx) (q : Question)
    (hlen : ctx.stack.length ≤ RECURSION_LIMIT)
    (hfuel : RECURSION_LIMIT + 1 - ctx.stack.length ≤ fuel) :
    (resolveLocal fuel ctx q).2 ≠ .error .outOfFuel ∧
    ∀ fuel', fuel ≤ fuel' → resolveLocal fuel' ctx q = resolveLocal fuel ctx q := by
  constructor
  · obtain ⟨n, rfl⟩ : ∃ n, fuel = n + 1 := ⟨fuel - 1, by omega⟩
    exact fun h => by rcases C10_local_errors n ctx q _ h with h | h | h | h | h <;> cases h
  · exact resolveLocal_fuel_irrelevant fuel ctx q hlen (by omega)

/-- the fuel the callers pass (`RECURSION_LIMIT + 1`) suffices for every stack within the limit. -/
theorem C10_local_fuel_default (ctx : Ctx) (q : Question) (hlen : ctx.stack.length ≤ RECURSION_LIMIT)
    (fuel : Nat) (hf : RECURSION_LIMIT + 1 ≤ fuel) :
    resolveLocal fuel ctx q = resolveLocal (RECURSION_LIMIT + 1) ctx q :=
  (C10_local_fuel_suffices (RECURSION_LIMIT + 1) ctx q hlen (by omega)).2 fuel hf

/-- The question stack is restored, zones and clock are untouched (only the cache's bookkeeping
    may change), however the walk ends. -/
theorem C10_stack_restored (fuel : Nat) (ctx : Ctx) (q : Question) :
    (resolveLocal fuel ctx q).1.stack = ctx.stack ∧ (resolveLocal fuel ctx q).1.zones = ctx.zones ∧
    (resolveLocal fuel ctx q).1.now = ctx.now := by
  obtain ⟨h1, h2, h3⟩ := resolveLocal_frame fuel ctx q
  exact ⟨h3, h1, h2⟩

/-- The questions on the stack stay pairwise distinct along a walk (the duplicate guard). -/
theorem C10_stack_distinct (ctx : Ctx) (q : Question) (c' : Ctx) (q' : Question)
    (h : IsSubcall ctx q c' q') (hn : ctx.stack.Nodup) : c'.stack.Nodup :=
  h.1 ▸ Ctx.push_nodup (c := ctx) h.2.2.1 hn

/-! ## CNAME chains are returned whole and in order (local resolver)

  `ChainShaped`, `IsChain` (index form: `IsChain.link`, `.last`, `.all_cname`): Proofs/ResolverLocalChain.lean.
  Hypotheses on the data sources:
  * (H-zone) `ZoneAnswersTyped ctx.zones`: zone answers carry records of the asked type, alias verdicts
    a CNAME record; it follows from `ZonesTyped` (`zoneAnswersTyped_of_typed`).  That zone records are
    owned by the query name needs no hypothesis (`Zones.resolve_owned`, read off `Zones.resolve_from`).
  * (H-cache) `CacheTyped ctx.cache`: cache invariant I6, kept by cache reads (`cacheGet_typed`).  That
    cached records are owned by the looked-up name needs no hypothesis (`cacheGet_owner`). -/

/-- For a question of a type other than CNAME and ANY, the records of every `ok`
    outcome are an alias chain from the question name, without repeated owner, followed only by
    records of the asked type owned by the final target; no link's owner is a question already on
    the stack. -/
theorem C10_local_chain (fuel : Nat) (ctx : Ctx) (q : Question)
    (hzone : ZoneAnswersTyped ctx.zones) (hcache : CacheTyped ctx.cache)
    (h5 : q.qtype ≠ RT_CNAME) (h255 : q.qtype ≠ QTYPE_WILDCARD)
    (r : LocalResult) (hr : (resolveLocal fuel ctx q).2 = .ok r) (rrs : List RR)
    (hrrs : r.answerRrs = some rrs) :
    ChainShaped q.name q.qtype rrs ∧ ChainShapedOff ctx.stack q rrs := by
  have h := (resolveLocal_chain fuel ctx q hzone hcache h5 h255 r hr).answers hrrs
  exact ⟨h.shaped, h⟩

/-- An unfinished walk (`.cname rrs cq`) hands over a non-empty pure alias chain from the question
    name, and the question to continue with asks the same type and class about the chain's end. -/
theorem C10_local_cname_continuation (fuel : Nat) (ctx : Ctx) (q : Question)
    (hzone : ZoneAnswersTyped ctx.zones) (hcache : CacheTyped ctx.cache)
    (h5 : q.qtype ≠ RT_CNAME) (h255 : q.qtype ≠ QTYPE_WILDCARD)
    (rrs : List RR) (cq : Question) (hr : (resolveLocal fuel ctx q).2 = .ok (.cname rrs cq)) :
    rrs ≠ [] ∧ IsChain q.name rrs cq.name ∧ (rrs.map (·.name)).Nodup ∧
      cq.qtype = q.qtype ∧ cq.qclass = q.qclass := by
  obtain ⟨e, hne, hd, hcq⟩ := resolveLocal_chain fuel ctx q hzone hcache h5 h255 _ hr
  subst hcq
  exact ⟨hne, hd.chain, hd.nodup, rfl, rfl⟩

/-- An authoritative reply of authoritative-only mode has the shape, unless the local result is a referral. -/
theorem C10_auth_only_chain (ctx : Ctx) (q : Question)
    (hzone : ZoneAnswersTyped ctx.zones) (hcache : CacheTyped ctx.cache)
    (h5 : q.qtype ≠ RT_CNAME) (h255 : q.qtype ≠ QTYPE_WILDCARD) (soa : RR) (rrs : List RR)
    (hr : (resolveAuthoritativeOnly ctx q).2 = .ok (.authoritative rrs soa))
    (hnd : ∀ rs s d, (resolveLocal (RECURSION_LIMIT + 1) ctx q).2 ≠ .ok (.delegation rs s d)) :
    ChainShaped q.name q.qtype rrs :=
  resolveAuthoritativeOnly_chain hzone hcache h5 h255 hr hnd

/-! ## The hypotheses are established by the constructors (Proofs/ResolverLocalTyped.lean, ResolverLocalSources.lean)

  (H-zone) holds of zones built by `Zone::new` and insertions, and of every `Zones.Configured` —
  `insert_merge` of built zones, merges included (through the C02/C12 representation invariant);
  (H-cache) of the empty cache, kept by `SharedCache::insert_all` and by cache reads. -/

theorem C10_hypotheses_established :
    (∀ apex soa ops z, Zone.Reachable apex soa ops z → z.records.Typed) ∧
    (∀ zs : Zones, (∀ k z, Zones.lookup zs.zones k = some z → z.records.Typed) → ZoneAnswersTyped zs) ∧
    (∀ zs : Zones, Zones.Configured zs → ZoneAnswersTyped zs ∧ ZonesKeyed zs) ∧
    (∀ n, CacheTyped (PCache.new n)) ∧
    (∀ c rrs now, CacheTyped c → CacheTyped (sharedInsertAll c rrs now)) ∧
    (∀ c name qtype now, CacheTyped c → CacheTyped (cacheGet c name qtype now).1) :=
  ⟨fun _ _ _ _ h => Zone.typed_of_reachable h,
   fun _ h => zoneAnswersTyped_of_typed (zonesTyped_of_all h),
   fun _ h => ⟨h.answersTyped, h.repr.1⟩,
   cacheTyped_new,
   fun _ rrs now h => sharedInsertAll_typed rrs now h,
   fun _ name qtype now h => (cacheGet_typed h name qtype now).1⟩

/-- `C10_local_chain` with its hypotheses discharged for the server's own data: zones as configured (merges included),
    any cache satisfying I6 (the empty cache, and whatever insertions and reads make of it). -/
theorem C10_local_chain_configured (fuel : Nat) (ctx : Ctx) (q : Question)
    (hzone : Zones.Configured ctx.zones) (hcache : CacheTyped ctx.cache)
    (h5 : q.qtype ≠ RT_CNAME) (h255 : q.qtype ≠ QTYPE_WILDCARD)
    (r : LocalResult) (hr : (resolveLocal fuel ctx q).2 = .ok r) (rrs : List RR)
    (hrrs : r.answerRrs = some rrs) : ChainShaped q.name q.qtype rrs :=
  (C10_local_chain fuel ctx q hzone.answersTyped hcache h5 h255 r hr rrs hrrs).1

/-! ## Non-vacuity (fixtures: Proofs/ResolverLocalExamples.lean) -/

/-- `Zones.Configured` is inhabited beyond the empty configuration. -/
example : Zones.Configured (Zones.empty.insert (Zone.new Ex.nE none)) :=
  .merge Zones.empty _ Ex.nE none [] _ .empty (by decide) rfl rfl

/-- the fixture satisfies (H-zone) and (H-cache). -/
example : ZoneAnswersTyped Ex.ctx1.zones ∧ CacheTyped Ex.ctx1.cache := ⟨Ex.zones_answers_typed, Ex.cache1_typed⟩

/-- `c.e. A`: alias and target from the zone — a chain of one link followed by the address. -/
example : (resolveLocal 33 Ex.ctx1 (Ex.qA Ex.nCE)).2 = .ok (.done (.authoritative [Ex.rrC, Ex.rrW] Ex.soaRRE)) ∧
    ChainShaped Ex.nCE RT_A [Ex.rrC, Ex.rrW] :=
  ⟨Ex.run_c Ex.ctx1 rfl rfl,
   (C10_local_chain 33 Ex.ctx1 (Ex.qA Ex.nCE) Ex.zones_answers_typed Ex.cache1_typed (by decide) (by decide) _
     (Ex.run_c Ex.ctx1 rfl rfl) _ rfl).1⟩

/-- `k. A`: both the alias `k. CNAME o.` and the address `o. A 7` come from the cache. -/
example : (resolveLocal 33 Ex.ctx1 (Ex.qA Ex.nK)).2 = .ok (.done (.nonAuthoritative [Ex.rrK, Ex.rrO] none)) ∧
    ChainShaped Ex.nK RT_A [Ex.rrK, Ex.rrO] :=
  ⟨Ex.run_k,
   (C10_local_chain 33 Ex.ctx1 (Ex.qA Ex.nK) Ex.zones_answers_typed Ex.cache1_typed (by decide) (by decide) _
     Ex.run_k _ rfl).1⟩

/-- `d.e. A`, cold cache: an unfinished walk handing over the chain and the question to go on with. -/
example : (resolveLocal 33 Ex.ctx0 (Ex.qA Ex.nDE)).2 = .ok (.cname [Ex.rrD] (Ex.qA Ex.nO)) ∧
    IsChain Ex.nDE [Ex.rrD] Ex.nO :=
  ⟨Ex.run_d_cold,
   (C10_local_cname_continuation 33 Ex.ctx0 (Ex.qA Ex.nDE) Ex.zones_answers_typed (cacheTyped_new _) (by decide)
     (by decide) _ _ Ex.run_d_cold).2.1⟩

/-- `p.e. A`: the alias loop `p.e. → q.e. → p.e.` ends in a partial chain in which each alias occurs
    once (owners pairwise distinct), never in a hang or a repeated record. -/
example : (resolveLocal 33 Ex.ctx1 (Ex.qA Ex.nPE)).2 = .ok (.cname [Ex.rrP, Ex.rrQ] (Ex.qA Ex.nPE)) ∧
    IsChain Ex.nPE [Ex.rrP, Ex.rrQ] Ex.nPE ∧ ([Ex.rrP, Ex.rrQ].map (·.name)).Nodup :=
  have h := C10_local_cname_continuation 33 Ex.ctx1 (Ex.qA Ex.nPE) Ex.zones_answers_typed Ex.cache1_typed
    (by decide) (by decide) _ _ Ex.run_p
  ⟨Ex.run_p, h.2.1, h.2.2.1⟩

/-- the two guards do fire: a question already on the stack, and a full stack. -/
example : (resolveLocal 5 { Ex.ctx0 with stack := [Ex.qA Ex.nCE] } (Ex.qA Ex.nCE)).2 =
    .error (.duplicateQuestion (Ex.qA Ex.nCE)) :=
  C10_no_alias_twice 4 _ _ (by decide) (by simp)

example : (resolveLocal 5 { Ex.ctx0 with stack := List.replicate 32 (Ex.qA Ex.nCE) } (Ex.qA Ex.nWE)).2 =
    .error .recursionLimit :=
  C10_limit_stops 4 _ _ (by simp [RECURSION_LIMIT])

end Resolved
