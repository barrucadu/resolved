/-
  C04 — A message that is serialised and then deserialised comes back unchanged (`C04_roundtrip`); the
  same for its parts, the compression-pointer table, and decoder outputs re-encode.
  `TableInv`/`NameInv` (pointer-table invariants), `EncReach`/`EncReachWF` (encoder states),
  `flagOctet1/2`, `PlainWireName`, `flatLabels` are defined in Proofs/WireEncode*.lean; `WireName`,
  `NameWF`, `RRWF`, `QuestionWF`, `HeaderWF`, `WfMsg` in Spec/Wire.lean.
-/
import Resolved.Proofs.WireEncodeReach
import Resolved.Proofs.WireEncodeReencode
import Resolved.Proofs.WireEncodeDec

namespace Resolved

open Gen

/-! ### 1. RDATA layouts -/

/-- The generated decode and encode RDATA layout tables are the same table, literally (`rfl`,
    checked again every time `Generated.lean` is regenerated from the Rust source: if the two
    tables of the source diverge this stops building). -/
theorem C04_layout_tables_equal : Gen.rdataDecodeLayout = Gen.rdataEncodeLayout := rdataLayouts_eq

theorem C04_layouts_agree (code : Nat) :
    decodeLayoutOf code = encodeLayoutOf code ∧
    (decodeLayoutOf code).length = (encodeLayoutOf code).length := by
  have h := decodeLayoutOf_eq code
  exact ⟨h, by rw [h]⟩

/-- An `.opaque` field swallows the whole RDATA on decode: it only occurs as the single field of
    its layout. -/
theorem C04_layout_opaque_alone (code : Nat) :
    encodeLayoutOf code = [.opaque] ∨ Field.opaque ∉ encodeLayoutOf code :=
  encodeLayoutOf_ok code

/-! ### 2. Header -/

/-- The four octets `Header::serialise` writes decode back to the header, for every header with a
    16-bit ID and 4-bit opcode/rcode. -/
theorem C04_header_roundtrip (h : Header) (hwf : HeaderWF h) :
    ∃ f1 f2,
      (encodeHeader WBuf.empty h).octets.length = 4 ∧
      nextU16 (encodeHeader WBuf.empty h).octets 0 = some (h.id, 2) ∧
      nextU8 (encodeHeader WBuf.empty h).octets 2 = some (f1, 3) ∧
      nextU8 (encodeHeader WBuf.empty h).octets 3 = some (f2, 4) ∧
      decodeFlags h.id f1 f2 = h := by
  obtain ⟨n1, n2, n3⟩ := headerBytes_reads h hwf []
  rw [List.append_nil] at n1 n2 n3
  rw [encodeHeader_eq]
  exact ⟨_, _, rfl, n1, n2, n3, decodeFlags_flagOctets h hwf⟩

theorem C04_flag_octets (qr aa tc rd ra : Bool) (opcode rcode : Nat) (ho : opcode < 16)
    (hr : rcode < 16) :
    decodeFlags 0 (flagOctet1 qr opcode aa tc rd) (flagOctet2 ra rcode)
      = ⟨0, qr, opcode, aa, tc, rd, ra, rcode⟩ :=
  decodeFlags_flagOctets ⟨0, qr, opcode, aa, tc, rd, ra, rcode⟩ ⟨Nat.zero_lt_succ _, ho, hr⟩

/-! ### 3. Big-endian integers -/

theorem C04_u16_roundtrip (pre post : List UInt8) (v : Nat) (h : v < 65536) :
    nextU16 (pre ++ u16Bytes v ++ post) pre.length = some (v, pre.length + 2) :=
  nextU16_at pre post v h

theorem C04_u32_roundtrip (pre post : List UInt8) (v : Nat) (h : v < 4294967296) :
    nextU32 (pre ++ u32Bytes v ++ post) pre.length = some (v, pre.length + 4) :=
  nextU32_at pre post v h

/-! ### 4. Compression-pointer table -/

/-- In every state the encoder can reach from the empty buffer (any sequence of `write_*`,
    `memoise_name`, serialisation steps, the RDLENGTH back-patch included) every table entry is
    `0xC000 + off` with `off` inside the 14 offset bits and not beyond the octets written so far. -/
theorem C04_pointer_table_inv (b : WBuf) (h : EncReach b) :
    ∀ n p, (n, p) ∈ b.namePointers → ∃ off, p = 0xC000 + off ∧ off < 16384 ∧ off ≤ b.octets.length :=
  h.tableInv

/-- Step-wise form of the same fact. -/
theorem C04_pointer_table_inv_steps :
    TableInv WBuf.empty ∧
    (∀ b o, TableInv b → TableInv (b.writeU8 o)) ∧
    (∀ b v, TableInv b → TableInv (b.writeU16 v)) ∧
    (∀ b v, TableInv b → TableInv (b.writeU32 v)) ∧
    (∀ b x, TableInv b → TableInv (b.writeOctets x)) ∧
    (∀ b n, TableInv b → TableInv (b.memoiseName n)) ∧
    (∀ b n c, TableInv b → TableInv (encodeName b n c)) ∧
    (∀ b f v, TableInv b → TableInv (encodeField b f v)) ∧
    (∀ b fs vs, TableInv b → TableInv (encodeFields b fs vs)) ∧
    (∀ b h, TableInv b → TableInv (encodeHeader b h)) ∧
    (∀ b q, TableInv b → TableInv (encodeQuestion b q)) ∧
    (∀ b rr b', TableInv b → encodeRR b rr = .ok b' → TableInv b') ∧
    (∀ b rrs b', TableInv b → encodeRRs b rrs = .ok b' → TableInv b') :=
  ⟨TableInv.empty, fun _ o h => h.writeU8 o, fun _ v h => h.writeU16 v, fun _ v h => h.writeU32 v,
    fun _ x h => h.writeOctets x, fun _ n h => h.memoiseName n, fun _ n c h => h.encodeName n c,
    fun _ f v h => h.encodeField f v, fun _ fs vs h => TableInv.encodeFields fs vs h,
    fun _ hd h => h.encodeHeader hd, fun _ q h => h.encodeQuestion q,
    fun _ rr _ h he => h.encodeRR rr he, fun _ rrs _ h he => TableInv.encodeRRs rrs h he⟩

/-- The two octets of `0xC000 + off` for a 14-bit offset, and the decoder's
    `(b % 64) * 256 + lo` recovering `off`. -/
theorem C04_pointer_arith (off : Nat) (h : off < 16384) :
    (0xC000 + off) / 256 % 256 = 0xC0 + off / 256 ∧ (0xC000 + off) % 256 = off % 256 ∧
    192 ≤ 0xC0 + off / 256 ∧ 0xC0 + off / 256 < 256 ∧
    ((0xC0 + off / 256) % 64) * 256 + off % 256 = off :=
  pointer_arith off h

/-- Every pointer `encodeName` writes fits: the two octets `0xC0 + off / 256, off % 256` for some
    `off < 2¹⁴` not beyond the octets written so far, and they decode to `off`. -/
theorem C04_pointers_fit (b : WBuf) (hb : EncReach b) (n : Name) (ptr : Nat)
    (hp : b.namePointer n = some ptr) :
    ∃ off, ptr = 0xC000 + off ∧ off < 16384 ∧ off ≤ b.octets.length ∧
      encodeName b n true = b.writeOctets [u8 (0xC0 + off / 256), u8 (off % 256)] ∧
      192 ≤ (u8 (0xC0 + off / 256)).toNat ∧
      ((u8 (0xC0 + off / 256)).toNat % 64) * 256 + (u8 (off % 256)).toNat = off := by
  obtain ⟨off, h1, h2, h3, h4⟩ := encodeName_pointer b n ptr hb.tableInv hp
  exact ⟨off, h1, h2, h3, h4, pointer_octets off h2⟩

/-! ### 5. Uncompressed names -/

/-- The octets `writeLabels` appends for a well-formed name form a pointer-free `WireName` of the
    RFC 1035 grammar, and `DomainName::deserialise` started there returns exactly `n` and stops
    right after them. -/
theorem C04_name_roundtrip_uncompressed (n : Name) (hwf : NameWF n) (b : WBuf)
    (post : List UInt8) (s id : Nat) :
    ∃ bytes, (writeLabels b n.labels).octets = b.octets ++ bytes ∧ bytes.length = n.len ∧
      WireName (b.octets ++ bytes ++ post) s b.octets.length n.labels n.len
        (b.octets.length + n.len) ∧
      decodeName id (b.octets ++ bytes ++ post) b.octets.length
        = .ok (n, b.octets.length + n.len) := by
  refine ⟨flatLabels n.labels, by rw [writeLabels_eq], hwf.len_eq, ?_, ?_⟩
  · exact (plainWireName_hasAt hwf ⟨b.octets, post, rfl, rfl⟩).toWireName s
  · exact decodeNameLoop_hasAt id _ _ _ n hwf ⟨b.octets, post, rfl, rfl⟩

/-! ### 6. Names with compression -/

/-- The strong table invariant holds initially and is preserved by serialising a well-formed
    name. -/
theorem C04_name_inv (b : WBuf) (n : Name) (c : Bool) (hinv : NameInv b) (hwf : NameWF n) :
    NameInv WBuf.empty ∧ NameInv (encodeName b n c) :=
  ⟨NameInv.empty, hinv.encodeName hwf c⟩

/-- Name round trip, compression included: what `DomainName::serialise` appends (labels, or a
    pointer to an earlier copy) is read back as the same name, on the buffer and on any
    extension. -/
theorem C04_name_roundtrip (b : WBuf) (n : Name) (c : Bool) (hinv : NameInv b) (hwf : NameWF n)
    (id : Nat) (post : List UInt8) :
    (∃ x, (encodeName b n c).octets = b.octets ++ x) ∧
    decodeName id ((encodeName b n c).octets ++ post) b.octets.length
      = .ok (n, (encodeName b n c).octets.length) :=
  ⟨Ext.encodeName b n c, encodeName_reads b n c hinv hwf id post⟩

/-- What `DomainName::serialise` appends is a `WireName` of the declarative grammar whose pointers all point
    strictly backwards. -/
theorem C04_name_wire (b : WBuf) (n : Name) (c : Bool) (hinv : NameInv b) (hwf : NameWF n)
    (post : List UInt8) :
    WireName ((encodeName b n c).octets ++ post) b.octets.length b.octets.length n.labels n.len
      (encodeName b n c).octets.length :=
  encodeName_wireName b n c hinv hwf post

/-! ### 7. Fields, records, questions, sections, message -/

/-- for `.opaque`, given that the RDLENGTH handed to the decoder is the number of octets written -/
theorem C04_field_roundtrip (b : WBuf) (f : Field) (v : FieldVal) (hinv : NameInv b)
    (hwf : FieldValWF f v) (id rdl : Nat)
    (hrdl : f = .opaque → rdl = (encodeField b f v).octets.length - b.octets.length)
    (post : List UInt8) :
    NameInv (encodeField b f v) ∧
    decodeField id ((encodeField b f v).octets ++ post) rdl f b.octets.length
      = .ok (v, (encodeField b f v).octets.length) :=
  ⟨(encodeField_roundtrip b f v hinv hwf).1, (encodeField_roundtrip b f v hinv hwf).2 id rdl hrdl post⟩

theorem C04_rdata_roundtrip (b : WBuf) (code : Nat) (vs : List FieldVal) (hinv : NameInv b)
    (hwf : FieldsWF (encodeLayoutOf code) vs) (id : Nat) (post : List UInt8) :
    decodeFields id ((encodeFields b (encodeLayoutOf code) vs).octets ++ post)
        ((encodeFields b (encodeLayoutOf code) vs).octets.length - b.octets.length)
        (decodeLayoutOf code) b.octets.length
      = .ok (vs, (encodeFields b (encodeLayoutOf code) vs).octets.length) := by
  rw [decodeLayoutOf_eq]
  exact encodeFields_reads _ vs b hinv hwf (encodeLayoutOf_ok code) id _ (fun _ => rfl) post

/-- The RDLENGTH back-patch is equivalent to writing the final RDLENGTH up front. -/
theorem C04_rdlength_backpatch (b : WBuf) (rr : RR) (b' : WBuf) (h : encodeRR b rr = .ok b') :
    ∃ rdl, rdl < 65536 ∧
      b' = encodeFields
        (((((encodeName b rr.name rrNameCompress).writeU16 rr.rtype).writeU16 rr.rclass).writeU32
          rr.ttl).writeU16 rdl) (encodeLayoutOf rr.rtype) rr.fields ∧
      rdl = b'.octets.length -
        (((((encodeName b rr.name rrNameCompress).writeU16 rr.rtype).writeU16 rr.rclass).writeU32
          rr.ttl).writeU16 rdl).octets.length :=
  encodeRR_eq_encodeFields b rr b' h

theorem C04_rr_roundtrip (b : WBuf) (rr : RR) (b' : WBuf) (hinv : NameInv b) (hwf : RRWF rr)
    (h : encodeRR b rr = .ok b') (id : Nat) (post : List UInt8) :
    NameInv b' ∧ decodeRR id (b'.octets ++ post) b.octets.length = .ok (rr, b'.octets.length) :=
  ⟨(encodeRR_roundtrip b rr b' hinv hwf h).1, (encodeRR_roundtrip b rr b' hinv hwf h).2 id post⟩

theorem C04_question_roundtrip (b : WBuf) (q : Question) (hinv : NameInv b) (hwf : QuestionWF q)
    (id : Nat) (post : List UInt8) :
    NameInv (encodeQuestion b q) ∧
    decodeQuestion id ((encodeQuestion b q).octets ++ post) b.octets.length
      = .ok (q, (encodeQuestion b q).octets.length) :=
  ⟨(encodeQuestion_roundtrip b q hinv hwf).1, (encodeQuestion_roundtrip b q hinv hwf).2 id post⟩

theorem C04_section_roundtrip (b b' : WBuf) (rrs : List RR) (hinv : NameInv b)
    (hwf : ∀ r ∈ rrs, RRWF r) (h : encodeRRs b rrs = .ok b') (id : Nat) (post : List UInt8) :
    NameInv b' ∧
    decodeMany (decodeRR id (b'.octets ++ post)) rrs.length b.octets.length
      = .ok (rrs, b'.octets.length) :=
  ⟨(encodeRRs_roundtrip rrs b b' hinv hwf h).1, (encodeRRs_roundtrip rrs b b' hinv hwf h).2 id post⟩

/-- Every well-formed message that `Message::to_octets` accepts is returned unchanged by
    `Message::from_octets` on the produced octets. -/
theorem C04_roundtrip (m : Message) (bs : List UInt8) (hwf : WfMsg m)
    (h : encodeMessage m = .ok bs) : decodeMessage bs = .ok m := by
  obtain ⟨hh, hq, han, hns, har⟩ := hwf
  obtain ⟨bA, bN, bR, cqd, can, cns, car, hbA, hbN, hbR, rfl⟩ := (encodeMessage_ok_iff m bs).mp h
  obtain ⟨y0, hbs⟩ := encodeMessage_header12 h
  rw [encodeHeader_counts] at hbA
  generalize hB0 : (⟨header12 m.header m.questions.length m.answers.length m.authority.length
          m.additional.length, []⟩ : WBuf) = b0 at hbA
  have hlen0 : b0.octets.length = 12 := by rw [← hB0]; exact header12_length _ _ _ _ _
  have hinv0 : NameInv b0 := NameInv.of_table_nil (by rw [← hB0])
  obtain ⟨invQ, readQ⟩ := encodeQuestions_roundtrip m.questions b0 hinv0 hq
  generalize m.questions.foldl encodeQuestion b0 = bQ at hbA invQ readQ
  obtain ⟨invA, readA⟩ := encodeRRs_roundtrip m.answers bQ bA invQ han hbA
  obtain ⟨invN, readN⟩ := encodeRRs_roundtrip m.authority bA bN invA hns hbN
  obtain ⟨invR, readR⟩ := encodeRRs_roundtrip m.additional bN bR invN har hbR
  have rQ := (readQ m.header.id).ext (((Ext.encodeRRs hbA).trans (Ext.encodeRRs hbN)).trans (Ext.encodeRRs hbR)) []
  have rA := (readA m.header.id).ext ((Ext.encodeRRs hbN).trans (Ext.encodeRRs hbR)) []
  have rN := (readN m.header.id).ext (Ext.encodeRRs hbR) []
  have rR := readR m.header.id []
  rw [List.append_nil] at rQ rA rN rR
  rw [hlen0] at rQ
  obtain ⟨n1, n2, n3, n4, n5, n6, n7⟩ :=
    header12_reads m.header hh _ _ _ _ cqd can cns car y0 bR.octets hbs
  exact (decodeMessage_ok_iff _ _).mpr ⟨_, _, _, _, _, _, _, _, _, _, _, n1, n2, n3, n4, n5, n6, n7,
    (decodeFlags_flagOctets m.header hh).symm, rQ, rA, rN, rR⟩

/-- A message with fewer than 65 536 questions and no record at all is always accepted (so
    `C04_roundtrip` is not vacuous for lack of successful encodings). -/
theorem C04_encode_questions_only_ok (m : Message) (hq : m.questions.length < 65536)
    (ha : m.answers = []) (hn : m.authority = []) (hr : m.additional = []) :
    ∃ bs, encodeMessage m = .ok bs :=
  encodeMessage_questions_only m hq ha hn hr

/-! ### 8. Decoder outputs re-encode -/

/-- Every decoder output is well-formed; in particular its field values match the *encoder's*
    layout of the record type. -/
theorem C04_decode_wf (bs : List UInt8) (m : Message) (h : decodeMessage bs = .ok m) : WfMsg m :=
  decodeMessage_wf h

/-- Every well-formed message whose four section counts fit 16 bits is accepted: the only other way
    `to_octets` can fail is an RDATA of 65 536 octets or more, which no well-formed record has
    (`encodeRR_total`). -/
theorem C04_encode_total (m : Message) (hwf : WfMsg m) (hq : m.questions.length < 65536)
    (ha : m.answers.length < 65536) (hn : m.authority.length < 65536)
    (hr : m.additional.length < 65536) : ∃ bs, encodeMessage m = .ok bs := by
  obtain ⟨_, _, hwa, hwn, hwr⟩ := hwf
  obtain ⟨bA, hA⟩ := encodeRRs_total m.answers _ hwa
  obtain ⟨bN, hN⟩ := encodeRRs_total m.authority bA hwn
  obtain ⟨bR, hR⟩ := encodeRRs_total m.additional bN hwr
  exact ⟨_, (encodeMessage_ok_iff m _).mpr ⟨bA, bN, bR, hq, ha, hn, hr, hA, hN, hR, rfl⟩⟩

theorem C04_encode_total_on_decoded (bs : List UInt8) (m : Message)
    (h : decodeMessage bs = .ok m) : ∃ bs', encodeMessage m = .ok bs' := by
  obtain ⟨hq, ha, hn, hr⟩ := decodeMessage_counts h
  exact C04_encode_total m (C04_decode_wf bs m h) hq ha hn hr

/-- the octets may differ (e.g. other compression choices), not the meaning -/
theorem C04_reencode (bs : List UInt8) (m : Message) (h : decodeMessage bs = .ok m) :
    ∃ bs', encodeMessage m = .ok bs' ∧ decodeMessage bs' = .ok m := by
  obtain ⟨bs', h'⟩ := C04_encode_total_on_decoded bs m h
  exact ⟨bs', h', C04_roundtrip m bs' (C04_decode_wf bs m h) h'⟩

/-! ### 9. Compression pointers address earlier full copies of the same name -/

/-- Whenever `DomainName::serialise(compress = true)` emits a pointer in a state reached by steps
    on well-formed arguments, the pointer addresses, strictly inside the octets already written,
    the uncompressed encoding of the *same* name, which the decoder reads as `n` on the buffer as
    it stands and on any extension of it. -/
theorem C04_pointer_targets_are_names (b : WBuf) (hb : EncReachWF b) (n : Name) (p : Nat)
    (hp : b.namePointer n = some p) :
    ∃ off, p = 0xC000 + off ∧ off < 16384 ∧ off < b.octets.length ∧
      off + n.len ≤ b.octets.length ∧ NameWF n ∧
      encodeName b n true = b.writeOctets [u8 (0xC0 + off / 256), u8 (off % 256)] ∧
      (b.octets.drop off).take n.len = flatLabels n.labels ∧
      (∀ post, PlainWireName (b.octets ++ post) off n.labels n.len (off + n.len)) ∧
      (∀ id start post,
        decodeNameLoop id (b.octets ++ post) start off 0 [] = .ok (n, off + n.len)) ∧
      (∀ id post, decodeName id (b.octets ++ post) off = .ok (n, off + n.len)) := by
  obtain ⟨off, hp, ho, hlt, hle, hwf, henc, hslice, hplain, hdec⟩ := pointer_target b n p hb.nameInv hp
  exact ⟨off, hp, ho, hlt, hle, hwf, henc, hslice, hplain, hdec, fun id post => hdec id off post⟩

/-- The same under the bare invariant `NameInv` (no reachability needed). -/
theorem C04_pointer_targets_of_inv (b : WBuf) (hinv : NameInv b) (n : Name) (p : Nat)
    (hp : b.namePointer n = some p) :
    ∃ off, p = 0xC000 + off ∧ off < 16384 ∧ off < b.octets.length ∧
      off + n.len ≤ b.octets.length ∧ NameWF n ∧
      (b.octets.drop off).take n.len = flatLabels n.labels ∧
      (∀ post, PlainWireName (b.octets ++ post) off n.labels n.len (off + n.len)) ∧
      (∀ id post, decodeName id (b.octets ++ post) off = .ok (n, off + n.len)) := by
  obtain ⟨off, hp, ho, hlt, hle, hwf, _, hslice, hplain, hdec⟩ := pointer_target b n p hinv hp
  exact ⟨off, hp, ho, hlt, hle, hwf, hslice, hplain, fun id post => hdec id off post⟩

theorem C04_plain_is_wirename (buf : List UInt8) (pos : Nat) (ls : List Label) (l e s : Nat)
    (h : PlainWireName buf pos ls l e) : WireName buf s pos ls l e ∧ e = pos + l :=
  ⟨h.toWireName s, h.end_eq⟩

/-- The strong invariant holds in every `EncReachWF` state. -/
theorem C04_name_inv_reachable (b : WBuf) (h : EncReachWF b) : NameInv b ∧ TableInv b :=
  ⟨h.nameInv, h.nameInv.tableInv⟩

/-- The states `Message::to_octets` passes through on a well-formed message are `EncReachWF`
    states: after the header and counts (`b0`), after the question section (`bQ`), after each
    record section (`bA`, `bN`, `bR`; the octets returned are those of `bR`). -/
theorem C04_to_octets_states (m : Message) (bs : List UInt8) (hwf : WfMsg m)
    (h : encodeMessage m = .ok bs) :
    ∃ b0 bQ bA bN bR : WBuf,
      b0 = ((((encodeHeader WBuf.empty m.header).writeU16 m.questions.length).writeU16
        m.answers.length).writeU16 m.authority.length).writeU16 m.additional.length ∧
      bQ = m.questions.foldl encodeQuestion b0 ∧
      encodeRRs bQ m.answers = .ok bA ∧ encodeRRs bA m.authority = .ok bN ∧
      encodeRRs bN m.additional = .ok bR ∧ bR.octets = bs ∧
      EncReachWF b0 ∧ EncReachWF bQ ∧ EncReachWF bA ∧ EncReachWF bN ∧ EncReachWF bR := by
  obtain ⟨_, hq, han, hns, har⟩ := hwf
  obtain ⟨bA, bN, bR, _, _, _, _, hbA, hbN, hbR, hbs⟩ := (encodeMessage_ok_iff m bs).mp h
  have r0 : EncReachWF (((((encodeHeader WBuf.empty m.header).writeU16
      m.questions.length).writeU16 m.answers.length).writeU16 m.authority.length).writeU16
      m.additional.length) :=
    .writeU16 _ (.writeU16 _ (.writeU16 _ (.writeU16 _ (.encodeHeader _ .empty))))
  have rQ := EncReachWF.foldl_encodeQuestion m.questions r0 hq
  have rA := EncReachWF.encodeRRs m.answers han rQ hbA
  have rN := EncReachWF.encodeRRs m.authority hns rA hbN
  have rR := EncReachWF.encodeRRs m.additional har rN hbR
  exact ⟨_, _, bA, bN, bR, rfl, rfl, hbA, hbN, hbR, hbs, r0, rQ, rA, rN, rR⟩

/-- Between those: the states in which each question, each record of a section and each RDATA
    field of a record is serialised.  Hence `C04_pointer_targets_are_names` applies to every
    `DomainName::serialise` call made by `Message::to_octets` on a well-formed message. -/
theorem C04_to_octets_inner_states (b : WBuf) (hb : EncReachWF b) :
    (∀ (qs qs1 qs2 : List Question) (q : Question), (∀ q ∈ qs, QuestionWF q) →
      qs = qs1 ++ q :: qs2 → EncReachWF (qs1.foldl encodeQuestion b)) ∧
    (∀ (rrs r1 r2 : List RR) (r : RR) (b' : WBuf), (∀ r ∈ rrs, RRWF r) → rrs = r1 ++ r :: r2 →
      encodeRRs b rrs = .ok b' →
      ∃ b1 b2, encodeRRs b r1 = .ok b1 ∧ EncReachWF b1 ∧ encodeRR b1 r = .ok b2 ∧
        encodeRRs b2 r2 = .ok b') ∧
    (∀ (rr : RR) (k : Nat), RRWF rr →
      EncReachWF (encodeFields
        (((((encodeName b rr.name rrNameCompress).writeU16 rr.rtype).writeU16 rr.rclass).writeU32
          rr.ttl).writeU16 0)
        ((encodeLayoutOf rr.rtype).take k) (rr.fields.take k)) ∧
      encodeFields
        (((((encodeName b rr.name rrNameCompress).writeU16 rr.rtype).writeU16 rr.rclass).writeU32
          rr.ttl).writeU16 0) (encodeLayoutOf rr.rtype) rr.fields
        = encodeFields (encodeFields
            (((((encodeName b rr.name rrNameCompress).writeU16 rr.rtype).writeU16
              rr.rclass).writeU32 rr.ttl).writeU16 0)
            ((encodeLayoutOf rr.rtype).take k) (rr.fields.take k))
          ((encodeLayoutOf rr.rtype).drop k) (rr.fields.drop k)) :=
  ⟨fun _ qs1 _ _ hwf hs =>
    EncReachWF.foldl_encodeQuestion qs1 hb fun x hx => hwf x (hs ▸ List.mem_append_left _ hx),
   fun _ _ _ _ _ hwf hs he => hb.rrs_prefix hwf hs he,
   fun _ k hwf => ⟨hb.rdata_prefix hwf k, encodeFields_take_drop _ _ k _⟩⟩

/-! ### Non-vacuity on concrete values

`C04ex.msg` (Proofs/WireEncodeDec.lean): a response with one question and two answers (A, MX) that
all share the owner name `a.bc.`; `C04ex.bytes`: its 58 octets, in which both answer owner names are
the compression pointer `C0 0C`. -/

/- The three facts about the concrete message are theorems because later examples use them again; the `example`
   after each shows it as one of the non-vacuity checks. -/
theorem C04ex.msg_wf : WfMsg C04ex.msg := by decide +kernel
theorem C04ex.msg_encodes : encodeMessage C04ex.msg = .ok C04ex.bytes := by decide +kernel

example : WfMsg C04ex.msg := C04ex.msg_wf
example : encodeMessage C04ex.msg = .ok C04ex.bytes := C04ex.msg_encodes
/-- the decoder (well-founded recursion, not evaluable by `decide`) is run by the theorem -/
theorem C04ex.bytes_decode : decodeMessage C04ex.bytes = .ok C04ex.msg :=
  C04_roundtrip _ _ C04ex.msg_wf C04ex.msg_encodes

example : decodeMessage C04ex.bytes = .ok C04ex.msg := C04ex.bytes_decode

example : (encodeHeader WBuf.empty ⟨0xBEEF, true, 2, false, true, true, false, 5⟩).octets
    = [190, 239, 147, 5] := by decide
example : decodeFlags 0xBEEF 147 5 = ⟨0xBEEF, true, 2, false, true, true, false, 5⟩ := by decide
example : HeaderWF ⟨0xBEEF, true, 2, false, true, true, false, 5⟩ := by decide
example : nextU16 [7, 1, 2, 9] 1 = some (258, 3) := by decide
example : u32Bytes 0x01020304 = [1, 2, 3, 4] := by decide
example : NameWF C04ex.name := by decide
/-- a table entry at offset 12 and the pointer written for it -/
example : (encodeName ⟨List.replicate 12 0 ++ [1, 97, 0], [(⟨[[97], []], 3⟩, 0xC00C)]⟩
    ⟨[[97], []], 3⟩ true).octets = List.replicate 12 0 ++ [1, 97, 0, 192, 12] := by decide +kernel
example : encodeLayoutOf 6 = [.name false, .name false, .u32, .u32, .u32, .u32, .u32] := by decide +kernel
example : encodeLayoutOf 4711 = [.opaque] := by decide +kernel
/-- decode ∘ encode ∘ decode on the concrete message, through `C04_reencode` -/
example : ∃ bs', encodeMessage C04ex.msg = .ok bs' ∧ decodeMessage bs' = .ok C04ex.msg :=
  C04_reencode C04ex.bytes _ C04ex.bytes_decode
/-- after serialising `a.` at offset 12, the table maps `a.` to `0xC00C` -/
example : (encodeName ⟨List.replicate 12 0, []⟩ ⟨[[97], []], 3⟩ true).namePointer ⟨[[97], []], 3⟩
    = some 0xC00C := by decide
example : layoutMaxLen (encodeLayoutOf 6) = 530 := by decide +kernel
/-- the hypotheses of `C04_pointer_targets_are_names` are satisfiable -/
example : EncReachWF (encodeName WBuf.empty ⟨[[97], []], 3⟩ true) :=
  .encodeName _ _ (by decide) .empty
example : (encodeName WBuf.empty ⟨[[97], []], 3⟩ true).namePointer ⟨[[97], []], 3⟩
    = some 0xC000 := by decide

end Resolved
