/-
  C08 — Every resolution terminates in bounded time whatever upstream servers do.

  The recursive and forwarding machines are total Lean functions over an ARBITRARY oracle (`Exchange → Attempt`):
  whatever upstream does — silence, lateness, garbage, mismatches, circular referrals, alias loops — they return a
  value (an answer or an error; there is no panic constructor in their result type).  Proved here for every oracle,
  zones, cache, question:
  * time: the virtual clock of a resolution never passes the 60 s budget, each logged transport attempt accounts
    for at most 5 s, the clock and the log only grow, nothing is sent after the deadline, a timed-out run yields
    `Timeout`, and an answer is only returned strictly before the deadline (`C08_time_budget`, `C08_exchange_cost`,
    `C08_log_monotone`, `C08_no_exchange_after_timeout`, `C08_timeout_result`, `C08_answer_before_deadline`);
  * provenance: every record of an `ok` result (answer records and the SOA alike) occurs in the oracle's reply to
    an exchange of the final log, or was returned by a local lookup (`resolveLocal`: zones + cache) on a state the
    machine reaches — whose zones are the initial ones and into whose cache only records of logged replies were
    inserted (`C08_provenance`, `C08_provenance_forwarding`);
  * fuel (the model's stand-in for the unbounded async recursion of the Rust): the plain fuel-monotonicity
    statement is FALSE for the model (`C08_fuel_monotone_naive_false`); what is proved is fuel-independence under
    the ghost condition `okRec` (`C08_fuel_monotone`, `C08_fuel_independent`) and, under explicit size bounds, that
    `FUEL_BOUND H L` units of fuel suffice (`C08_fuel_suffices_bounded`, `C08_resolve_fuel_suffices`); see the two
    sections on fuel below.
-/
import Resolved.Proofs.ResolverFuelBound
import Resolved.Proofs.ResolverMachineExampleRun

namespace Resolved

open Gen

set_option autoImplicit false

/-- One transport attempt costs at most its 5 s timeout and never pushes the clock past the 60 s
    budget; the exchange log grows by at most this one exchange. -/
theorem C08_attempt_time (oracle : Oracle) (run : Run) (ex : Exchange)
    (h : run.elapsedMs ≤ RESOLVE_TIMEOUT_MS) :
    (attempt oracle run ex).1.elapsedMs ≤ RESOLVE_TIMEOUT_MS ∧
    (attempt oracle run ex).1.elapsedMs ≤ run.elapsedMs + EXCHANGE_TIMEOUT_MS ∧
    run.elapsedMs ≤ (attempt oracle run ex).1.elapsedMs :=
  attempt_time oracle run ex h

/-- A reply that arrives at or after the 5 s timeout is never used. -/
theorem C08_late_reply_dropped (oracle : Oracle) (run : Run) (ex : Exchange)
    (h : (oracle ex).delayMs ≥ EXCHANGE_TIMEOUT_MS) : (attempt oracle run ex).2 = none := by
  rcases attempt_cases oracle run ex with ⟨_, he⟩ | ⟨_, _, he⟩ | ⟨_, _, he⟩ <;> rw [he]
  exact if_pos h

/-- The budgets are the ones the source states (re-extracted on every run). -/
theorem C08_budgets : RESOLVE_TIMEOUT_SECS = 60 ∧ EXCHANGE_TIMEOUT_SECS = 5 ∧ RECURSION_LIMIT = 32 := by decide

theorem C08_budgets_ms : RESOLVE_TIMEOUT_MS = 60000 ∧ EXCHANGE_TIMEOUT_MS = 5000 := by decide

/-- `query_nameserver` (UDP then TCP) started within the budget costs at most two exchange
    time-outs and stays within the budget. -/
theorem C08_query_time (oracle : Oracle) (run : Run) (addr : FieldVal) (port : Nat) (q : Question) (rd : Bool)
    (h : run.elapsedMs ≤ RESOLVE_TIMEOUT_MS) :
    (queryNameserver oracle run addr port q rd).1.elapsedMs ≤ RESOLVE_TIMEOUT_MS ∧
    (queryNameserver oracle run addr port q rd).1.elapsedMs ≤ run.elapsedMs + 2 * EXCHANGE_TIMEOUT_MS ∧
    run.elapsedMs ≤ (queryNameserver oracle run addr port q rd).1.elapsedMs := by
  obtain ⟨mid, h1, h2⟩ := queryNameserver_fst oracle run addr port q rd
  have hm : mid.elapsedMs ≤ RESOLVE_TIMEOUT_MS ∧ mid.elapsedMs ≤ run.elapsedMs + EXCHANGE_TIMEOUT_MS ∧
      run.elapsedMs ≤ mid.elapsedMs := by
    rcases h1 with h1 | h1 <;> rw [h1]
    · exact ⟨h, Nat.le_add_right _ _, Nat.le_refl _⟩
    · exact attempt_time oracle run _ h
  obtain ⟨a1, a2, a3⟩ := hm
  rw [Nat.two_mul, ← Nat.add_assoc]
  rcases h2 with h2 | h2 <;> rw [h2]
  · exact ⟨a1, Nat.le_trans a2 (Nat.le_add_right _ _), a3⟩
  · obtain ⟨b1, b2, b3⟩ := attempt_time oracle mid (mx_tcpEx addr port q rd) a1
    exact ⟨b1, Nat.le_trans b2 (Nat.add_le_add_right a2 _), Nat.le_trans a3 b3⟩

/-- **One attempt per transport in one exchange.**  `query_nameserver` adds to the exchange log at most
    one UDP attempt followed by at most one TCP attempt for the same address and question - never two
    attempts on one transport (a truncated UDP reply trying TCP twice would double the time one exchange
    may take on that transport). -/
theorem C08_one_attempt_per_transport (oracle : Oracle) (run : Run) (addr : FieldVal) (port : Nat)
    (q : Question) (rd : Bool) :
    ∃ l, (queryNameserver oracle run addr port q rd).1.log = run.log ++ l ∧
      (l = [] ∨ l = [mx_udpEx addr port q rd] ∨ l = [mx_tcpEx addr port q rd] ∨
       l = [mx_udpEx addr port q rd, mx_tcpEx addr port q rd]) := by
  rcases queryNameserver_cases oracle run addr port q rd with ⟨_, m, hu, _, h⟩ | ⟨_, _, h⟩ | ⟨_, h⟩
  · rw [h]
    exact ⟨[_], (attempt_reply_logged hu).1, Or.inr (Or.inl rfl)⟩
  · rw [h]
    rcases attempt_log oracle run (mx_udpEx addr port q rd) with h1 | h1 <;>
    rcases attempt_log oracle (attempt oracle run (mx_udpEx addr port q rd)).1 (mx_tcpEx addr port q rd) with h2 | h2
    · exact ⟨[], (h2.trans h1).trans (List.append_nil _).symm, Or.inl rfl⟩
    · exact ⟨[_], by rw [h2, h1], Or.inr (Or.inr (Or.inl rfl))⟩
    · exact ⟨[_], by rw [h2, h1], Or.inr (Or.inl rfl)⟩
    · exact ⟨[_, _], by rw [h2, h1, List.append_assoc]; rfl, Or.inr (Or.inr (Or.inr rfl))⟩
  · rw [h]
    rcases attempt_log oracle run (mx_tcpEx addr port q rd) with h1 | h1
    · exact ⟨[], h1.trans (List.append_nil _).symm, Or.inl rfl⟩
    · exact ⟨[_], h1, Or.inr (Or.inr (Or.inl rfl))⟩

/-- Every function of the recursive machine keeps the clock within the 60 s budget (any fuel, any
    arguments, any oracle). -/
theorem C08_machine_time_inv (cfg : RecCfg) (fuel : Nat) :
    (∀ st q, RunOK st.run → RunOK (resolveRec cfg fuel st q).1.run) ∧
    (∀ st q combined mc cands next locally, RunOK st.run →
      RunOK (candidateLoop cfg fuel st q combined mc cands next locally).1.run) ∧
    (∀ st rrs q, RunOK st.run → RunOK (resolveCombined cfg fuel st rrs q).1.run) ∧
    (∀ st locally host types, RunOK st.run → RunOK (tryTypes cfg fuel st locally host types).1.run) :=
  machine_good_imp cfg fuel (P := fun a b => RunOK a.run → RunOK b.run) fun h hr => (h.reach.runOK hr).1

/-- Each resolution finishes within its 60-second budget: the clock of the final run of a
    recursive or a forwarding resolution is at most 60 000 ms, whatever upstream does. -/
theorem C08_time_budget (cfg : RecCfg) (ctx : Ctx) (q : Question) :
    (resolveRecursive cfg ctx q).1.run.elapsedMs ≤ 60000 :=
  (resolveRecursive_wrapped cfg ctx q).budget

theorem C08_time_budget_forwarding (cfg : FwdCfg) (ctx : Ctx) (q : Question) :
    (resolveForwarding cfg ctx q).1.run.elapsedMs ≤ 60000 :=
  (resolveForwarding_wrapped cfg ctx q).budget

/-- Each upstream exchange takes at most 5 seconds per transport: the whole clock of a resolution
    is bounded by 5 s per logged transport attempt. -/
theorem C08_exchange_cost (cfg : RecCfg) (ctx : Ctx) (q : Question) :
    (resolveRecursive cfg ctx q).1.run.elapsedMs ≤ 5000 * (resolveRecursive cfg ctx q).1.run.log.length :=
  (resolveRecursive_wrapped cfg ctx q).cost

theorem C08_exchange_cost_forwarding (cfg : FwdCfg) (ctx : Ctx) (q : Question) :
    (resolveForwarding cfg ctx q).1.run.elapsedMs ≤ 5000 * (resolveForwarding cfg ctx q).1.run.log.length :=
  (resolveForwarding_wrapped cfg ctx q).cost

/-- If the final run is timed out the wrapper returns `Timeout` (and nothing else). -/
theorem C08_timeout_result (cfg : RecCfg) (ctx : Ctx) (q : Question)
    (h : (resolveRecursive cfg ctx q).1.run.timedOut = true) :
    (resolveRecursive cfg ctx q).2 = .error .timeout :=
  (resolveRecursive_wrapped cfg ctx q).timedOut h

theorem C08_timeout_result_forwarding (cfg : FwdCfg) (ctx : Ctx) (q : Question)
    (h : (resolveForwarding cfg ctx q).1.run.timedOut = true) :
    (resolveForwarding cfg ctx q).2 = .error .timeout :=
  (resolveForwarding_wrapped cfg ctx q).timedOut h

/-- The run is timed out exactly when its clock stands at the 60 s mark; so any result other than
    `Timeout` (in particular any answer) is produced strictly before the deadline. -/
theorem C08_answer_before_deadline (cfg : RecCfg) (ctx : Ctx) (q : Question)
    (h : (resolveRecursive cfg ctx q).2 ≠ .error .timeout) :
    (resolveRecursive cfg ctx q).1.run.elapsedMs < 60000 :=
  (resolveRecursive_wrapped cfg ctx q).beforeDeadline h

theorem C08_answer_before_deadline_forwarding (cfg : FwdCfg) (ctx : Ctx) (q : Question)
    (h : (resolveForwarding cfg ctx q).2 ≠ .error .timeout) :
    (resolveForwarding cfg ctx q).1.run.elapsedMs < 60000 :=
  (resolveForwarding_wrapped cfg ctx q).beforeDeadline h

/-- The log only grows (the old log is a prefix of the new one) and the clock only advances, in
    every function of the machine. -/
theorem C08_log_monotone (cfg : RecCfg) (fuel : Nat) :
    (∀ st q, st.run.log <+: (resolveRec cfg fuel st q).1.run.log ∧
      (RunOK st.run → st.run.elapsedMs ≤ (resolveRec cfg fuel st q).1.run.elapsedMs)) ∧
    (∀ st q combined mc cands next locally,
      st.run.log <+: (candidateLoop cfg fuel st q combined mc cands next locally).1.run.log ∧
      (RunOK st.run →
        st.run.elapsedMs ≤ (candidateLoop cfg fuel st q combined mc cands next locally).1.run.elapsedMs)) ∧
    (∀ st rrs q, st.run.log <+: (resolveCombined cfg fuel st rrs q).1.run.log ∧
      (RunOK st.run → st.run.elapsedMs ≤ (resolveCombined cfg fuel st rrs q).1.run.elapsedMs)) ∧
    (∀ st locally host types, st.run.log <+: (tryTypes cfg fuel st locally host types).1.run.log ∧
      (RunOK st.run → st.run.elapsedMs ≤ (tryTypes cfg fuel st locally host types).1.run.elapsedMs)) :=
  machine_good_imp cfg fuel (P := fun a b => a.run.log <+: b.run.log ∧ (RunOK a.run → a.run.elapsedMs ≤ b.run.elapsedMs))
    fun h => ⟨h.reach.log_prefix, fun hr => (h.reach.runOK hr).2⟩

theorem C08_log_monotone_forwarding (cfg : FwdCfg) (fuel : Nat) (st : St) (q : Question) :
    st.run.log <+: (resolveFwd cfg fuel st q).1.run.log ∧
    (RunOK st.run → st.run.elapsedMs ≤ (resolveFwd cfg fuel st q).1.run.elapsedMs) :=
  ⟨(resolveFwd_good cfg fuel st q).reach.log_prefix, fun h => ((resolveFwd_good cfg fuel st q).reach.runOK h).2⟩

/-- Once the 60 s deadline has passed no function of the machine sends anything any more: the run
    (log and clock) comes back unchanged. -/
theorem C08_no_exchange_after_timeout (cfg : RecCfg) (fuel : Nat) (st : St) (q : Question)
    (h : st.run.timedOut = true) :
    (resolveRec cfg fuel st q).1.run = st.run ∧
    (∀ combined mc cands next locally,
      (candidateLoop cfg fuel st q combined mc cands next locally).1.run = st.run) ∧
    (∀ rrs, (resolveCombined cfg fuel st rrs q).1.run = st.run) ∧
    (∀ locally host types, (tryTypes cfg fuel st locally host types).1.run = st.run) := by
  obtain ⟨h1, h2, h3, h4⟩ := machine_good cfg fuel
  exact ⟨(h1 st q).reach.timedOut_frozen h, fun c m cs n l => (h2 st q c m cs n l).reach.timedOut_frozen h,
    fun r => (h3 st r q).reach.timedOut_frozen h, fun l ho t => (h4 st l ho t).reach.timedOut_frozen h⟩

/-- The machines never touch the zones or the cache clock. -/
theorem C08_zones_untouched (cfg : RecCfg) (ctx : Ctx) (q : Question) :
    (resolveRecursive cfg ctx q).1.ctx.zones = ctx.zones ∧ (resolveRecursive cfg ctx q).1.ctx.now = ctx.now :=
  (resolveRecursive_wrapped cfg ctx q).ctx_same

/-- The resolver never returns a record that neither an upstream reply nor local data supplied:
    every record of an `ok` result either occurs in the reply the oracle gave to an exchange of
    the final log (`FromLog`), or was returned by a local lookup on a reachable state
    (`LocalSrc`; the TTL of a cache-served record is the one the cache lookup computed). -/
theorem C08_provenance (cfg : RecCfg) (ctx : Ctx) (q : Question) (res : ResolvedRecord)
    (h : (resolveRecursive cfg ctx q).2 = .ok res) :
    ∀ r ∈ res.rrs ++ res.soaRR.toList,
      FromLog cfg.oracle (resolveRecursive cfg ctx q).1.run.log r ∨
      LocalSrc cfg.net ⟨ctx, Run.empty⟩ (resolveRecursive cfg ctx q).1.run.log r :=
  (resolveRecursive_wrapped cfg ctx q).src res h

theorem C08_provenance_forwarding (cfg : FwdCfg) (ctx : Ctx) (q : Question) (res : ResolvedRecord)
    (h : (resolveForwarding cfg ctx q).2 = .ok res) :
    ∀ r ∈ res.rrs ++ res.soaRR.toList,
      FromLog cfg.oracle (resolveForwarding cfg ctx q).1.run.log r ∨
      LocalSrc cfg.net ⟨ctx, Run.empty⟩ (resolveForwarding cfg ctx q).1.run.log r :=
  (resolveForwarding_wrapped cfg ctx q).src res h

/-- what a predicate `P log r` ("`r` is accounted for by the exchanges of `log`") must satisfy to hold of
    every record the machines return: monotone in the log, true of the records of logged replies and
    of what a local lookup returns on a reachable state. -/
structure SrcHyp (n : Net) (st0 : St) (P : List Exchange → RR → Prop) : Prop where
  mono : ∀ {l1 l2 : List Exchange} {r : RR}, l1 <+: l2 → P l1 r → P l2 r
  reply : ∀ {log : List Exchange} {r : RR}, FromLog n.oracle log r → P log r
  loc : ∀ {st : St} {fuel : Nat} {q : Question} {lr : LocalResult}, Reach n st0 st →
    (resolveLocal fuel st.ctx q).2 = .ok lr → ∀ r ∈ lr.allRrs, P st.run.log r

/-- every such predicate holds of what `Src` holds of. -/
theorem SrcHyp.of_src {n : Net} {st0 : St} {P : List Exchange → RR → Prop} (hP : SrcHyp n st0 P)
    {log : List Exchange} {r : RR} (h : FromLog n.oracle log r ∨ LocalSrc n st0 log r) : P log r := by
  rcases h with h | ⟨st, fuel, q, lr, h1, h2, h3, h4⟩
  · exact hP.reply h
  · exact hP.mono h2 (hP.loc h1 h3 r h4)

/-- Provenance for any predicate that satisfies `SrcHyp`. -/
theorem C08_provenance_generic (cfg : RecCfg) (ctx : Ctx) (q : Question) (P : List Exchange → RR → Prop)
    (hP : SrcHyp cfg.net ⟨ctx, Run.empty⟩ P) (res : ResolvedRecord)
    (h : (resolveRecursive cfg ctx q).2 = .ok res) :
    ∀ r ∈ res.rrs ++ res.soaRR.toList, P (resolveRecursive cfg ctx q).1.run.log r :=
  fun r hr => hP.of_src (C08_provenance cfg ctx q res h r hr)

theorem C08_provenance_generic_forwarding (cfg : FwdCfg) (ctx : Ctx) (q : Question)
    (P : List Exchange → RR → Prop) (hP : SrcHyp cfg.net ⟨ctx, Run.empty⟩ P) (res : ResolvedRecord)
    (h : (resolveForwarding cfg ctx q).2 = .ok res) :
    ∀ r ∈ res.rrs ++ res.soaRR.toList, P (resolveForwarding cfg ctx q).1.run.log r :=
  fun r hr => hP.of_src (C08_provenance_forwarding cfg ctx q res h r hr)

/-- The final state of a resolution is reached from the initial one by the guarded steps of `Reach`.  Of
    those only `cache` inserts into the cache, and it carries the guard that the records inserted are
    records of replies to exchanges logged so far; that is how the statement is to be read (no theorem
    relates the final cache to the initial one record by record). -/
theorem C08_cache_inserts_from_replies (cfg : RecCfg) (ctx : Ctx) (q : Question) :
    Reach cfg.net ⟨ctx, Run.empty⟩ (resolveRecursive cfg ctx q).1 :=
  (resolveRecursive_wrapped cfg ctx q).reach

/-! ### Non-vacuity -/

/-- an upstream that never answers: two attempts (UDP, TCP) of 5 s each, then a dead end — an
    error, not a hang, after 10 s of virtual time. -/
example : (resolveRecursive exCfgSilent exCtx exQ).1.run.elapsedMs = 10000 ∧
    (resolveRecursive exCfgSilent exCtx exQ).1.run.log.length = 2 ∧
    (resolveRecursive exCfgSilent exCtx exQ).2 = .error (.deadEnd exQ) := by decide +kernel

/-- an upstream that answers: the answer comes back after 20 ms. -/
example : (resolveRecursive exCfg exCtx exQ).2 = .ok (.nonAuthoritative [exAnswer] none) ∧
    (resolveRecursive exCfg exCtx exQ).1.run.elapsedMs = 20 := exCfg_run.1

/-- provenance, concretely: the answer record of the example run occurs in the oracle's reply to
    the one exchange of its log. -/
example : FromLog exCfg.oracle (resolveRecursive exCfg exCtx exQ).1.run.log exAnswer := by
  rw [exCfg_run.2]
  exact ⟨_, List.mem_singleton.mpr rfl, _, rfl, Message.mem_allRrs.mpr (.inl (List.mem_singleton.mpr rfl))⟩

/-! ## Fuel

  The Rust recursion is unbounded; the model recurses on a fuel (`REC_FUEL = 1000000` in the
  wrappers) and returns the model-only error `outOfFuel` at fuel 0.  Two facts about the model
  (artefacts of the fuel, not Rust behaviour):

  1. `tryTypes` (`resolve_hostname_to_ip`) treats every error of the nested `resolveRec` alike, so
     a fuel exhaustion inside a name-server address lookup is MASKED: the result is then a
     `deadEnd`, not `outOfFuel`.  Hence "a run that does not end in `outOfFuel` gives the same
     result with more fuel" is false — counterexample below (`exCfgRef`: fuel 5 ↦ `deadEnd`,
     fuel 8 ↦ an answer).
  2. Every iteration of the candidate loop costs one unit of fuel while virtual time need not
     advance (an oracle may answer in 0 ms), and the number of iterations grows with
     (labels of the question) × (name servers per referral): small fuels are exhausted by the
     scaled-down universes below, and by the same count `REC_FUEL` would be by a 1001-label question
     with 1000 referrals of 1000 hosts each and glue for the host tried last (`bigCfg 1000 1000`, not
     evaluated).

  What holds: the ghost condition `okRec cfg n st q` (defined in `Proofs/ResolverMachineFuel` by
  mirroring the call tree: no call was made with fuel 0; it is executable, so it can be evaluated
  on every generated case) makes the fuel unobservable. -/

/-- the runs of the masking universe (one evaluation, shared by the example below and
    `C08_fuel_monotone_naive_false`). -/
theorem exRef_runs : (resolveRec exCfgRef 5 ⟨exCtx, Run.empty⟩ exQ).2 = .error (.deadEnd exQ) ∧
    (resolveRec exCfgRef 8 ⟨exCtx, Run.empty⟩ exQ).2 = .ok (.nonAuthoritative [exAnswer] none) ∧
    okRec exCfgRef 5 ⟨exCtx, Run.empty⟩ exQ = false ∧ okRec exCfgRef 8 ⟨exCtx, Run.empty⟩ exQ = true := by
  decide +kernel

/-- Counterexample to plain fuel monotonicity: with fuel 5 the run ends in `deadEnd` (not in
    `outOfFuel`: the exhaustion happened inside a masked address lookup), with fuel 8 it answers. -/
example : (resolveRec exCfgRef 5 ⟨exCtx, Run.empty⟩ exQ).2 = .error (.deadEnd exQ) ∧
    (resolveRec exCfgRef 8 ⟨exCtx, Run.empty⟩ exQ).2 = .ok (.nonAuthoritative [exAnswer] none) ∧
    okRec exCfgRef 5 ⟨exCtx, Run.empty⟩ exQ = false ∧ okRec exCfgRef 8 ⟨exCtx, Run.empty⟩ exQ = true :=
  exRef_runs

/-- runs in the `bigCfg` universes with 4 hosts per referral (one evaluation: they share most of
    their steps). -/
theorem big4_runs : (okRec (bigCfg 2 4) 7 ⟨bigCtx, Run.empty⟩ (bigQ 2) = false ∧
      okRec (bigCfg 2 4) 11 ⟨bigCtx, Run.empty⟩ (bigQ 2) = true) ∧
    (resolveRec (bigCfg 3 4) 14 ⟨bigCtx, Run.empty⟩ (bigQ 3)).2 = .error .outOfFuel ∧
    okRec (bigCfg 3 4) 16 ⟨bigCtx, Run.empty⟩ (bigQ 3) = true := by
  decide +kernel

/-- Scaled-down instance of the fuel-exhaustion scenario: 3 referral levels × 4 hosts; fuel 14 is
    exhausted (`outOfFuel`), fuel 16 answers. -/
example : (resolveRec (bigCfg 3 4) 14 ⟨bigCtx, Run.empty⟩ (bigQ 3)).2 = .error .outOfFuel ∧
    okRec (bigCfg 3 4) 16 ⟨bigCtx, Run.empty⟩ (bigQ 3) = true :=
  big4_runs.2

/-- Not a theorem, and expected to be false for the model (see 2. above): no refutation is proved; the
    scaled-down universes above exhaust small fuels, the `bigCfg 1000 1000` instance for `REC_FUEL` is an
    extrapolation of them. -/
def C08_fuel_suffices_statement : Prop :=
  ∀ (cfg : RecCfg) (ctx : Ctx) (q : Question), (resolveRecursive cfg ctx q).2 ≠ .error .outOfFuel

/-- FALSE for the model (see 1. above; kept as a statement, not a theorem). -/
def C08_fuel_monotone_naive_statement : Prop :=
  ∀ (cfg : RecCfg) (n m : Nat) (st : St) (q : Question), n ≤ m →
    (resolveRec cfg n st q).2 ≠ .error .outOfFuel → resolveRec cfg m st q = resolveRec cfg n st q

theorem C08_fuel_monotone_naive_false : ¬ C08_fuel_monotone_naive_statement := by
  intro h
  have h8 := congrArg Prod.snd
    (h exCfgRef 5 8 ⟨exCtx, Run.empty⟩ exQ (by decide) (by rw [exRef_runs.1]; nofun))
  rw [exRef_runs.1, exRef_runs.2.1] at h8
  cases h8

/-- Fuel monotonicity: if no call of the call tree of `resolveRec cfg n st q` ran out
    of fuel, then any larger fuel gives exactly the same state and result (and again no
    exhaustion) — the fuel is unobservable once it suffices. -/
theorem C08_fuel_monotone (cfg : RecCfg) (n m : Nat) (hm : n ≤ m) (st : St) (q : Question)
    (h : okRec cfg n st q = true) :
    resolveRec cfg m st q = resolveRec cfg n st q ∧ okRec cfg m st q = true :=
  fuel_stable_le cfg n m hm st q h

/-- One step of it, for all four functions of the mutual block. -/
theorem C08_fuel_stable (cfg : RecCfg) (n : Nat) : FuelStable cfg n := fuel_stable cfg n

/-- For a whole resolution: when `REC_FUEL` suffices in the sense of `okRec`, the wrapper's value
    is the value for every larger fuel, and it is not `outOfFuel`. -/
theorem C08_fuel_independent (cfg : RecCfg) (ctx : Ctx) (q : Question)
    (h : okRec cfg REC_FUEL ⟨ctx, Run.empty⟩ q = true) :
    (∀ m, REC_FUEL ≤ m → resolveRec cfg m ⟨ctx, Run.empty⟩ q = resolveRec cfg REC_FUEL ⟨ctx, Run.empty⟩ q) ∧
    (resolveRecursive cfg ctx q).2 ≠ .error .outOfFuel := by
  refine ⟨fun m hm => (fuel_stable_le cfg REC_FUEL m hm _ q h).1, ?_⟩
  have hno := okRec_not_outOfFuel cfg REC_FUEL _ q h
  rw [resolveRecursive_eq_wrap]
  by_cases ht : (deadlineWrap (resolveRec cfg REC_FUEL ⟨ctx, Run.empty⟩ q)).2 = .error .timeout
  · rw [ht]; nofun
  · rw [deadlineWrap_of_ne ht]; exact hno

/-- Iteration bound of the candidate loop: with at most `H` hosts per referral, `k` consecutive iterations
    from loop variables `a` satisfy `k ≤ (labels − a.mc)·(2H+2) + width a`: the loop itself needs at most that
    much fuel.  (`hmc` is not used: for a delegation deeper than the question name the subtraction is 0 and
    the bound is `width a`.) -/
theorem C08_loop_iteration_bound (cfg : RecCfg) (q : Question) (a c : LoopArgs) (k H : Nat)
    (hH : ∀ hs, (cfg.hostOrder hs).length ≤ H) (h : LoopChain cfg q a k c) (hmc : a.mc ≤ q.name.labels.length) :
    k ≤ (q.name.labels.length - a.mc) * (2 * H + 2) + a.width :=
  Nat.le_trans (Nat.le_add_right k _) (h.length_le H hH)

/-- Partial "fuel suffices": with more fuel than that bound the candidate loop never stops for
    lack of fuel of its own — its value is that of an iteration that ends the loop (time-out, dead
    end, answer, or hand-over to `resolveCombined` for an alias).  (`hmc` is not used.) -/
theorem C08_loop_fuel_suffices (cfg : RecCfg) (q : Question) (combined : List RR) (n H : Nat) (a : LoopArgs)
    (hH : ∀ hs, (cfg.hostOrder hs).length ≤ H) (hmc : a.mc ≤ q.name.labels.length)
    (hn : (q.name.labels.length - a.mc) * (2 * H + 2) + a.width < n) :
    ∃ (k m : Nat) (a' : LoopArgs), LoopChain cfg q a k a' ∧ n - k = m + 1 ∧
      candidateLoop cfg n a.st q combined a.mc a.cands a.next a.locally =
        candidateLoop cfg (m + 1) a'.st q combined a'.mc a'.cands a'.next a'.locally ∧
      LoopEnds cfg m q (candidateLoop cfg (m + 1) a'.st q combined a'.mc a'.cands a'.next a'.locally) := by
  obtain ⟨k, a', hk, hc, hv, hfin⟩ := candidateLoop_chain cfg q combined n a
  have hb := hc.length_le H hH
  rcases hfin with h0 | ⟨m, hm, he⟩
  · -- out of fuel after `k ≥ n` iterations: more than the measure allows
    exact absurd (Nat.le_of_sub_eq_zero h0)
      (Nat.not_le_of_gt (Nat.lt_of_le_of_lt (Nat.le_trans (Nat.le_add_right _ _) hb) hn))
  · exact ⟨k, m, a', hc, hm, by rw [hv, hm], he⟩

/-- the hypothesis on `hostOrder` is satisfiable (e.g. a host order that keeps at most 13 hosts). -/
example : ∀ hs : List Name, (({ exCfg with hostOrder := fun l => l.take 13 } : RecCfg).hostOrder hs).length ≤ 13 := by
  intro hs; exact List.length_take_le 13 hs

/-! ## Fuel sufficiency under explicit size bounds

  Proved in `Proofs/ResolverFuelBound`.  The size bounds are hypotheses because the model does not
  carry them (`Name` and `Message` are unconstrained structures there: no 255-octet names, no 64 KiB
  messages).  The fuel is a nesting-depth budget; the depth is at most

      FUEL_BOUND H L = RECURSION_LIMIT · ((L + 1)·(2H + 2) + 3) + 1

  when every delegation (local, cached or referred) offers at most `H` name-server hosts and every
  question name has at most `L` labels (where the terms come from: header of `Proofs/ResolverFuelBound`).

  Two forms.  `C08_fuel_suffices_of_local_bounds` takes the bound on local lookups as a hypothesis
  over the states the machine can reach (`Reach`); `C08_fuel_suffices_bounded` derives it from
  conditions on the initial zones, the initial cache and the oracle:
  * `fb_zonesOK H L zones` (a Bool, checkable by evaluation): record maps keyed consistently, RDATA
    names of ≤ `L` labels, NS sets of ≤ `H` records, in every node of every zone;
  * `fb_CacheOK L U cache`: the cache is well-formed (`Inv`, C05), RDATA names of ≤ `L` labels, and
    the NS data stored under owner `k` lie in `U k`;
  * `fb_OracleOK L U oracle`: in every reply, RDATA names of ≤ `L` labels and NS data of owner `k`
    in `U k` — with `(U k).length ≤ H`: per owner name there are at most `H` distinct NS data in the
    world (initial cache and all replies together).  A per-reply bound would NOT do: the cache
    merges the NS sets that different replies give for one owner, and `candidate_nameservers`
    takes the merged set without passing it through `hostOrder`.
  The host order must return hosts of the referral (`hsub`), at most `H` of them (`hH`; needed only
  of host sets of actual referrals: `C08_fuel_suffices_bounded_referrals`). -/

theorem C08_FUEL_BOUND_eq (H L : Nat) : FUEL_BOUND H L = 32 * ((L + 1) * (2 * H + 2) + 3) + 1 := rfl

/-- the bound grows with both parameters (so "the largest `H` that fits" below makes sense). -/
theorem C08_FUEL_BOUND_mono {H H' L L' : Nat} (hH : H ≤ H') (hL : L ≤ L') : FUEL_BOUND H L ≤ FUEL_BOUND H' L' :=
  Nat.succ_le_succ (Nat.mul_le_mul_left _ (Nat.add_le_add_right
    (Nat.mul_le_mul (Nat.succ_le_succ hL) (Nat.add_le_add_right (Nat.mul_le_mul_left 2 hH) 2)) 3))

/-- Fuel sufficiency, semantic form: local lookups on every state reachable from `st0` are bounded
    (`fb_LocalBounded`), upstream replies only carry NS / CNAME targets of at most `L` labels, the host
    order tries at most `H` hosts of a referral; then `FUEL_BOUND H L` units of fuel suffice. -/
theorem C08_fuel_suffices_of_local_bounds (cfg : RecCfg) (H L : Nat) (st0 st : St) (q : Question) (n : Nat)
    (hH : ∀ hs, (cfg.hostOrder hs).length ≤ H)
    (hsub : ∀ hs h, h ∈ cfg.hostOrder hs → h ∈ hs)
    (hO : fb_OracleNames cfg.oracle L)
    (hloc : ∀ st', Reach cfg.net st0 st' → ∀ q',
      fb_LocalBounded H L q' (resolveLocal (RECURSION_LIMIT + 1) st'.ctx q').2)
    (hr : Reach cfg.net st0 st) (hstack : st.ctx.stack.length ≤ RECURSION_LIMIT)
    (hq : q.name.labels.length ≤ L) (hfuel : FUEL_BOUND H L ≤ n) :
    okRec cfg n st q = true :=
  fb_okRec ⟨fun hs _ => hH hs, hsub, hO, hloc⟩ st q n hr hstack hq hfuel

/-- Fuel sufficiency from conditions on the initial data, the host-order bound being asked only of
    the host sets of referrals the oracle can actually produce (`fb_Referral`). -/
theorem C08_fuel_suffices_bounded_referrals (cfg : RecCfg) (H L : Nat) (U : Name → List CRec) (st : St)
    (q : Question) (n : Nat)
    (hH : ∀ hs, fb_Referral cfg.oracle hs → (cfg.hostOrder hs).length ≤ H)
    (hsub : ∀ hs h, h ∈ cfg.hostOrder hs → h ∈ hs)
    (hU : ∀ k, (U k).length ≤ H)
    (hZ : fb_zonesOK H L st.ctx.zones = true)
    (hC : fb_CacheOK L U st.ctx.cache)
    (hO : fb_OracleOK L U cfg.oracle)
    (hstack : st.ctx.stack.length ≤ RECURSION_LIMIT)
    (hq : q.name.labels.length ≤ L) (hfuel : FUEL_BOUND H L ≤ n) :
    okRec cfg n st q = true :=
  fb_okRec (fb_hyp_of_invariant (st0 := st) hH hsub hU hO ⟨hZ, hC⟩) st q n (Reach.refl st) hstack hq hfuel

/-- **Fuel sufficiency** from the conditions on the initial data listed above: with `FUEL_BOUND H L` units
    of fuel or more no call in the call tree of `resolveRec` is made with fuel 0. -/
theorem C08_fuel_suffices_bounded (cfg : RecCfg) (H L : Nat) (U : Name → List CRec) (st : St) (q : Question)
    (n : Nat)
    (hH : ∀ hs, (cfg.hostOrder hs).length ≤ H)
    (hsub : ∀ hs h, h ∈ cfg.hostOrder hs → h ∈ hs)
    (hU : ∀ k, (U k).length ≤ H)
    (hZ : fb_zonesOK H L st.ctx.zones = true)
    (hC : fb_CacheOK L U st.ctx.cache)
    (hO : fb_OracleOK L U cfg.oracle)
    (hstack : st.ctx.stack.length ≤ RECURSION_LIMIT)
    (hq : q.name.labels.length ≤ L) (hfuel : FUEL_BOUND H L ≤ n) :
    okRec cfg n st q = true :=
  C08_fuel_suffices_bounded_referrals cfg H L U st q n (fun hs _ => hH hs) hsub hU hZ hC hO hstack hq hfuel

/-- Above the bound the fuel is unobservable: every fuel `n ≥ FUEL_BOUND H L` gives the state and
    result of `FUEL_BOUND H L`, and that result is not `outOfFuel`.  The host-order bound is asked of the
    host sets of referrals the oracle can produce only: a host order that keeps every host (as the Rust
    does) meets it when the referrals are bounded, and can never meet it for all lists. -/
theorem C08_fuel_unobservable_above_bound_referrals (cfg : RecCfg) (H L : Nat) (U : Name → List CRec) (st : St)
    (q : Question) (n : Nat)
    (hH : ∀ hs, fb_Referral cfg.oracle hs → (cfg.hostOrder hs).length ≤ H)
    (hsub : ∀ hs h, h ∈ cfg.hostOrder hs → h ∈ hs)
    (hU : ∀ k, (U k).length ≤ H)
    (hZ : fb_zonesOK H L st.ctx.zones = true)
    (hC : fb_CacheOK L U st.ctx.cache)
    (hO : fb_OracleOK L U cfg.oracle)
    (hstack : st.ctx.stack.length ≤ RECURSION_LIMIT)
    (hq : q.name.labels.length ≤ L) (hfuel : FUEL_BOUND H L ≤ n) :
    resolveRec cfg n st q = resolveRec cfg (FUEL_BOUND H L) st q ∧
    (resolveRec cfg n st q).2 ≠ .error .outOfFuel := by
  have hok := C08_fuel_suffices_bounded_referrals cfg H L U st q (FUEL_BOUND H L) hH hsub hU hZ hC hO hstack hq
    (Nat.le_refl _)
  have hm := C08_fuel_monotone cfg (FUEL_BOUND H L) n hfuel st q hok
  exact ⟨hm.1, okRec_not_outOfFuel cfg n st q hm.2⟩

theorem C08_fuel_unobservable_above_bound (cfg : RecCfg) (H L : Nat) (U : Name → List CRec) (st : St)
    (q : Question) (n : Nat)
    (hH : ∀ hs, (cfg.hostOrder hs).length ≤ H)
    (hsub : ∀ hs h, h ∈ cfg.hostOrder hs → h ∈ hs)
    (hU : ∀ k, (U k).length ≤ H)
    (hZ : fb_zonesOK H L st.ctx.zones = true)
    (hC : fb_CacheOK L U st.ctx.cache)
    (hO : fb_OracleOK L U cfg.oracle)
    (hstack : st.ctx.stack.length ≤ RECURSION_LIMIT)
    (hq : q.name.labels.length ≤ L) (hfuel : FUEL_BOUND H L ≤ n) :
    resolveRec cfg n st q = resolveRec cfg (FUEL_BOUND H L) st q ∧
    (resolveRec cfg n st q).2 ≠ .error .outOfFuel :=
  C08_fuel_unobservable_above_bound_referrals cfg H L U st q n (fun hs _ => hH hs) hsub hU hZ hC hO hstack hq hfuel

/-- **The fuel given by `resolve` suffices** whenever `FUEL_BOUND H L ≤ REC_FUEL`: under the
    hypotheses of `C08_fuel_suffices_bounded_referrals` on the context and the configuration, the value of
    `resolveRecursive` is not `outOfFuel`, no call of its call tree ran out of fuel, and every
    larger fuel gives the same state and result — the fuel of the model is unobservable. -/
theorem C08_resolve_fuel_suffices_referrals (cfg : RecCfg) (H L : Nat) (U : Name → List CRec) (ctx : Ctx)
    (q : Question)
    (hH : ∀ hs, fb_Referral cfg.oracle hs → (cfg.hostOrder hs).length ≤ H)
    (hsub : ∀ hs h, h ∈ cfg.hostOrder hs → h ∈ hs)
    (hU : ∀ k, (U k).length ≤ H)
    (hZ : fb_zonesOK H L ctx.zones = true)
    (hC : fb_CacheOK L U ctx.cache)
    (hO : fb_OracleOK L U cfg.oracle)
    (hstack : ctx.stack.length ≤ RECURSION_LIMIT)
    (hq : q.name.labels.length ≤ L) (hfit : FUEL_BOUND H L ≤ REC_FUEL) :
    (resolveRecursive cfg ctx q).2 ≠ .error .outOfFuel ∧
    okRec cfg REC_FUEL ⟨ctx, Run.empty⟩ q = true ∧
    ∀ m, REC_FUEL ≤ m → resolveRec cfg m ⟨ctx, Run.empty⟩ q = resolveRec cfg REC_FUEL ⟨ctx, Run.empty⟩ q := by
  have hok := C08_fuel_suffices_bounded_referrals cfg H L U ⟨ctx, Run.empty⟩ q REC_FUEL hH hsub hU hZ hC hO hstack hq
    hfit
  obtain ⟨h1, h2⟩ := C08_fuel_independent cfg ctx q hok
  exact ⟨h2, hok, h1⟩

/-- … with the host-order bound asked of all lists (which only a host order that drops hosts can meet). -/
theorem C08_resolve_fuel_suffices (cfg : RecCfg) (H L : Nat) (U : Name → List CRec) (ctx : Ctx) (q : Question)
    (hH : ∀ hs, (cfg.hostOrder hs).length ≤ H)
    (hsub : ∀ hs h, h ∈ cfg.hostOrder hs → h ∈ hs)
    (hU : ∀ k, (U k).length ≤ H)
    (hZ : fb_zonesOK H L ctx.zones = true)
    (hC : fb_CacheOK L U ctx.cache)
    (hO : fb_OracleOK L U cfg.oracle)
    (hstack : ctx.stack.length ≤ RECURSION_LIMIT)
    (hq : q.name.labels.length ≤ L) (hfit : FUEL_BOUND H L ≤ REC_FUEL) :
    (resolveRecursive cfg ctx q).2 ≠ .error .outOfFuel ∧
    okRec cfg REC_FUEL ⟨ctx, Run.empty⟩ q = true ∧
    ∀ m, REC_FUEL ≤ m → resolveRec cfg m ⟨ctx, Run.empty⟩ q = resolveRec cfg REC_FUEL ⟨ctx, Run.empty⟩ q :=
  C08_resolve_fuel_suffices_referrals cfg H L U ctx q (fun hs _ => hH hs) hsub hU hZ hC hO hstack hq hfit

/-! ### Numeric instances (a wire-format name has at most 127 labels + the root: `L = 128`) -/

/-- `REC_FUEL = 1 000 000` covers 13 hosts per delegation (the root servers: 115 681 units, more than 100 000) … -/
theorem C08_fuel_bound_13_128 : FUEL_BOUND 13 128 = 115681 ∧ FUEL_BOUND 13 128 ≤ REC_FUEL := by decide

/-- … and 64; for `L = 128` the largest `H` covered by `REC_FUEL = 1 000 000` is 120. -/
theorem C08_fuel_bound_64_128 : FUEL_BOUND 64 128 = 536737 ∧ FUEL_BOUND 64 128 ≤ REC_FUEL := by decide

theorem C08_fuel_bound_largest_H : FUEL_BOUND 120 128 ≤ REC_FUEL ∧ ¬ FUEL_BOUND 121 128 ≤ REC_FUEL := by decide

/-! ### Non-vacuity: the example universe satisfies the hypotheses -/

/-- the example oracle only ever sends the A record `x. A 5.6.7.8`. -/
theorem fb_exOracle_ok (L : Nat) (U : Name → List CRec) : fb_OracleOK L U exOracle := by
  intro ex m hm rr hrr
  simp only [exOracle, Option.some.injEq] at hm
  subst hm
  simp only [Message.mem_allRrs, exReply, List.mem_singleton, List.not_mem_nil, or_false] at hrr
  subst hrr
  exact ⟨rfl, fun h => absurd h (by decide)⟩

/-- … so none of its replies is a referral. -/
theorem fb_exOracle_no_referral (hs : List Name) : ¬ fb_Referral exOracle hs := by
  rintro ⟨ex, m, q, mc, rrs, zone, hm, hv⟩
  simp only [exOracle, Option.some.injEq] at hm
  subst hm
  obtain ⟨⟨rr, hrr, _, hns⟩, _⟩ := (validate_delegation_spec hv).deepest_owner
  simp only [exReply, List.append_nil, List.mem_singleton] at hrr
  subst hrr
  revert hns
  decide

theorem fb_exCtx_ok (H L : Nat) (U : Name → List CRec) (hz : fb_zonesOK H L exZones = true) :
    fb_CtxOK H L U exCtx :=
  ⟨hz, fb_cacheOK_new L U 512⟩

/-- the example configuration with a host order that keeps at most 11 hosts, the example context
    and question satisfy every hypothesis of `C08_resolve_fuel_suffices` for `H = 11`, `L = 128`
    (empty NS universe: the example upstream never sends an NS record) — so its conclusion holds. -/
example :
    let cfg : RecCfg := { exCfg with hostOrder := fun l => l.take 11 }
    (resolveRecursive cfg exCtx exQ).2 ≠ .error .outOfFuel ∧
    okRec cfg REC_FUEL ⟨exCtx, Run.empty⟩ exQ = true ∧
    ∀ m, REC_FUEL ≤ m → resolveRec cfg m ⟨exCtx, Run.empty⟩ exQ = resolveRec cfg REC_FUEL ⟨exCtx, Run.empty⟩ exQ := by
  intro cfg
  refine C08_resolve_fuel_suffices cfg 11 128 (fun _ => []) exCtx exQ ?_ ?_ ?_ ?_ ?_ ?_ ?_ ?_ ?_
  · intro hs; exact List.length_take_le 11 hs
  · intro hs h hm; exact List.mem_of_mem_take hm
  · intro k; simp
  · decide +kernel
  · exact fb_cacheOK_new _ _ _
  · exact fb_exOracle_ok _ _
  · decide
  · decide
  · decide

/-- the unmodified example configuration (`hostOrder := id`) satisfies the hypotheses of
    `C08_fuel_suffices_bounded_referrals` (its upstream never sends a referral), even for `H = 1`,
    `L = 2`. -/
example : okRec exCfg (FUEL_BOUND 1 2) ⟨exCtx, Run.empty⟩ exQ = true :=
  C08_fuel_suffices_bounded_referrals exCfg 1 2 (fun _ => []) ⟨exCtx, Run.empty⟩ exQ _
    (fun hs h => absurd h (fb_exOracle_no_referral hs)) (fun _ _ h => h) (fun _ => by simp)
    (by decide +kernel) (fb_cacheOK_new _ _ _) (fb_exOracle_ok _ _) (by decide) (by decide) (Nat.le_refl _)

/-! ### The bounds are needed (scaled-down instances, as for `bigCfg` above)

  In the `bigCfg levels hosts` universe (a chain of `levels` referrals with `hosts` name servers
  each, question name of `levels + 2` labels, all replies at zero virtual time) the fuel from which
  `okRec` holds grows with the number of hosts per referral at a fixed name length, and with the name
  length at a fixed number of hosts (the instances below fit `levels · hosts + 3`).  So neither
  the bound `H` on hosts per delegation nor the bound `L` on labels can be dropped, whatever fuel the
  wrapper is given. -/

/-- more hosts per referral, same names: more fuel needed. -/
example : okRec (bigCfg 1 4) 7 ⟨bigCtx, Run.empty⟩ (bigQ 1) = true ∧
    okRec (bigCfg 1 8) 7 ⟨bigCtx, Run.empty⟩ (bigQ 1) = false ∧
    okRec (bigCfg 1 8) 11 ⟨bigCtx, Run.empty⟩ (bigQ 1) = true ∧
    okRec (bigCfg 1 16) 11 ⟨bigCtx, Run.empty⟩ (bigQ 1) = false := by decide +kernel

/-- longer names (more referral levels), same number of hosts: more fuel needed. -/
example : okRec (bigCfg 2 4) 7 ⟨bigCtx, Run.empty⟩ (bigQ 2) = false ∧
    okRec (bigCfg 2 4) 11 ⟨bigCtx, Run.empty⟩ (bigQ 2) = true ∧
    okRec (bigCfg 3 4) 11 ⟨bigCtx, Run.empty⟩ (bigQ 3) = false := by
  refine ⟨big4_runs.1.1, big4_runs.1.2, Bool.eq_false_iff.mpr fun h => ?_⟩
  -- fuel 14 still ends in `outOfFuel`, so no smaller fuel can be enough
  exact okRec_not_outOfFuel _ 14 _ _ (C08_fuel_monotone _ 11 14 (by decide) _ _ h).2 big4_runs.2.1

end Resolved
