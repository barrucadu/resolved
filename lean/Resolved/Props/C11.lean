/-
  C11 — A zone file means what RFC 1035 §5 says it means.  Specification: Spec/ZoneTextSpec.lean (`Directive`,
  `render ds v`, `denote ds`, side condition `Unambiguous ds`).  On the model of Model/ZoneText.lean, for every input:
  the ten field shapes of `parse_rr`; the rejections; the tokeniser inverts every token and line rendering; whole files
  (`C11_parse_render`); a comment may follow a token directly.
  Of `Unambiguous` only the first half is used: the general theorem, `ZoneText.parse_render`, asks for
  `directiveOk false d` of every directive and not for `noNameError` (files whose first rejected directive fails with
  `badName` are covered; `badRdata` cannot be a first error within `directiveOk`).
  `StRel` (Proofs/ZoneTextSpecStep): the loop's state corresponds to that of `denote`.  `LineEnd eol tailE rest`
  (Proofs/ZoneTextRenderLine): `tailE` is the line end as written, or nothing at the end of the input.
  The `ztext` stream checks both directions on every rendered case against the Rust (this ties the MODEL to the
  implementation).
  Open findings: C11-K1 (`C11_K1_class_read_as_owner`: owner omitted, a class token other than `IN` first on the line
  is read as an owner name) and C11-K2 (`C11_K2_escaped_dot_splits_label`: `\.` / `\046` / `\@` inside a name keep
  their special meaning; outside `Unambiguous`, inside `UnambiguousRelaxed`).
-/
import Resolved.Proofs.ZoneTextSpecZone

namespace Resolved

open ZoneText IpText

/-! ## the ten shapes of `parse_rr`

`o` = current origin, `pd` / `pt` = previous owner / TTL; `ty :: rd` = the `<type> <rdata>` tokens,
which parse to `rdat`; `NoType rd` = no RDATA token spells a record type (the parser tries the fourth, third,
second and first token of the line for the type, in this order, so such a token among the first four would be taken
for it: excluded by `Unambiguous`). -/

section shapes
variable (o : Option Name) (pd : Option MaybeWildcard) (pt : Option Nat)
variable (d t ty : Token) (rd : List Token) (rdat : RData)

/-- 1. `<domain-name> <ttl> <class> <type> <rdata>` -/
theorem C11_shape_domain_ttl_class (w : MaybeWildcard) (n : Nat)
    (hty : tryParseRtypeWithData o (ty :: rd) = some rdat)
    (hd : parseDomainOrWildcard o d.1 = .ok w) (ht : parseU32 t.1 = some n) :
    parseRr o pd pt (d :: t :: tIN :: ty :: rd) = .ok (toRr w rdat n) := by
  refine (parseRr_pre o pd pt [d, t, tIN] ty rd rdat (Nat.le_refl 3) hty (firstType_three o rd)).trans ?_
  simp only [preFields, tIN_fst, if_true, readPre_owner_ttl, hd, parseU32E, ht]

/-- 2. `<domain-name> <class> <ttl> <type> <rdata>` -/
theorem C11_shape_domain_class_ttl (w : MaybeWildcard) (n : Nat)
    (hty : tryParseRtypeWithData o (ty :: rd) = some rdat)
    (hd : parseDomainOrWildcard o d.1 = .ok w) (ht : parseU32 t.1 = some n) (htIN : t.1 ≠ sIN) :
    parseRr o pd pt (d :: tIN :: t :: ty :: rd) = .ok (toRr w rdat n) := by
  refine (parseRr_pre o pd pt [d, tIN, t] ty rd rdat (Nat.le_refl 3) hty (firstType_three o rd)).trans ?_
  simp only [preFields, tIN_fst, htIN, if_false, if_true, readPre_owner_ttl, hd, parseU32E, ht]

/-- 3. `<domain-name> <ttl> <type> <rdata>` (class omitted) -/
theorem C11_shape_domain_ttl (w : MaybeWildcard) (n : Nat)
    (hty : tryParseRtypeWithData o (ty :: rd) = some rdat) (hrd : NoType rd)
    (hd : parseDomainOrWildcard o d.1 = .ok w) (ht : parseU32 t.1 = some n)
    (htIN : t.1 ≠ sIN) (hdIN : d.1 ≠ sIN) :
    parseRr o pd pt (d :: t :: ty :: rd) = .ok (toRr w rdat n) := by
  refine (parseRr_pre o pd pt [d, t] ty rd rdat (Nat.le_succ 2) hty (hrd.firstType o _)).trans ?_
  simp only [preFields, htIN, hdIN, if_false, readPre_owner_ttl, hd, parseU32E, ht]

/-- 4. `<domain-name> <class> <type> <rdata>`: the TTL is the previous record's
    (`withInheritedTtl`: a SOA needs none, otherwise `MissingTTL` when there is none). -/
theorem C11_shape_domain_class (w : MaybeWildcard)
    (hty : tryParseRtypeWithData o (ty :: rd) = some rdat) (hrd : NoType rd)
    (hd : parseDomainOrWildcard o d.1 = .ok w) (hdig : allDigits d.1 = false) :
    parseRr o pd pt (d :: tIN :: ty :: rd) = withInheritedTtl w rdat pt := by
  refine (parseRr_pre o pd pt [d, tIN] ty rd rdat (Nat.le_succ 2) hty (hrd.firstType o _)).trans ?_
  simp only [preFields, tIN_fst, if_true, hdig, Bool.false_eq_true, if_false, readPre_owner, hd]

/-- 5. `<domain-name> <type> <rdata>` -/
theorem C11_shape_domain (w : MaybeWildcard)
    (hty : tryParseRtypeWithData o (ty :: rd) = some rdat) (hrd : NoType rd)
    (hd : parseDomainOrWildcard o d.1 = .ok w) (hdig : allDigits d.1 = false) (hdIN : d.1 ≠ sIN) :
    parseRr o pd pt (d :: ty :: rd) = withInheritedTtl w rdat pt := by
  refine (parseRr_pre o pd pt [d] ty rd rdat (Nat.le_of_ble_eq_true rfl) hty (hrd.firstType o _)).trans ?_
  simp only [preFields, hdIN, if_false, hdig, Bool.false_eq_true, readPre_owner, hd]

/-- 6. `<ttl> <class> <type> <rdata>`: the owner is the previous record's
    (`withPreviousDomain`: `MissingDomainName` when there is none). -/
theorem C11_shape_ttl_class (n : Nat)
    (hty : tryParseRtypeWithData o (ty :: rd) = some rdat) (hrd : NoType rd)
    (hdig : allDigits t.1 = true) (ht : parseU32 t.1 = some n) :
    parseRr o pd pt (t :: tIN :: ty :: rd) = withPreviousDomain pd (fun w => .ok (toRr w rdat n)) := by
  refine (parseRr_pre o pd pt [t, tIN] ty rd rdat (Nat.le_succ 2) hty (hrd.firstType o _)).trans ?_
  simp only [preFields, tIN_fst, if_true, hdig, readPre_ttl, parseU32E, ht]
  rfl

/-- 7. `<class> <ttl> <type> <rdata>` -/
theorem C11_shape_class_ttl (n : Nat)
    (hty : tryParseRtypeWithData o (ty :: rd) = some rdat) (hrd : NoType rd)
    (ht : parseU32 t.1 = some n) (htIN : t.1 ≠ sIN) :
    parseRr o pd pt (tIN :: t :: ty :: rd) = withPreviousDomain pd (fun w => .ok (toRr w rdat n)) := by
  refine (parseRr_pre o pd pt [tIN, t] ty rd rdat (Nat.le_succ 2) hty (hrd.firstType o _)).trans ?_
  simp only [preFields, tIN_fst, htIN, if_false, if_true, readPre_ttl, parseU32E, ht]
  rfl

/-- 8. `<ttl> <type> <rdata>` -/
theorem C11_shape_ttl (n : Nat)
    (hty : tryParseRtypeWithData o (ty :: rd) = some rdat) (hrd : NoType rd)
    (hdig : allDigits t.1 = true) (ht : parseU32 t.1 = some n) (htIN : t.1 ≠ sIN) :
    parseRr o pd pt (t :: ty :: rd) = withPreviousDomain pd (fun w => .ok (toRr w rdat n)) := by
  refine (parseRr_pre o pd pt [t] ty rd rdat (Nat.le_of_ble_eq_true rfl) hty (hrd.firstType o _)).trans ?_
  simp only [preFields, htIN, if_false, hdig, if_true, readPre_ttl, parseU32E, ht]
  rfl

/-- 9. `<class> <type> <rdata>` -/
theorem C11_shape_class
    (hty : tryParseRtypeWithData o (ty :: rd) = some rdat) (hrd : NoType rd) :
    parseRr o pd pt (tIN :: ty :: rd) = withPreviousDomain pd (fun w => withInheritedTtl w rdat pt) := by
  refine (parseRr_pre o pd pt [tIN] ty rd rdat (by decide) hty (hrd.firstType o _)).trans ?_
  simp only [preFields, tIN_fst, if_true]
  rfl

/-- 10. `<type> <rdata>`: owner, TTL and class all inherited. -/
theorem C11_shape_bare
    (hty : tryParseRtypeWithData o (ty :: rd) = some rdat) (hrd : NoType rd) :
    parseRr o pd pt (ty :: rd) = withPreviousDomain pd (fun w => withInheritedTtl w rdat pt) :=
  parseRr_pre o pd pt [] ty rd rdat (by decide) hty (hrd.firstType o _)

end shapes

/-- a SOA record carries its own MINIMUM as TTL whatever TTL is given (DESIGN D9); the next record inherits that. -/
theorem C11_toRr_soa_ttl (name mname rname : Name) (serial refresh retry expire minimum ttl : Nat) :
    toRr (.normal name)
        ⟨6, [.name mname, .name rname, .u32 serial, .u32 refresh, .u32 retry, .u32 expire, .u32 minimum]⟩ ttl
      = .rr { name, rtype := 6, rclass := 1, ttl := minimum,
              fields := [.name mname, .name rname, .u32 serial, .u32 refresh, .u32 retry, .u32 expire, .u32 minimum] } :=
  rfl

/-- the record built for any other type: class IN, the owner as ordinary or wildcard entry, the TTL given. -/
theorem C11_toRr_other (name : Name) (rd : RData) (ttl : Nat) (h : rd.rtype ≠ 6) :
    toRr (.normal name) rd ttl = .rr { name, rtype := rd.rtype, fields := rd.fields, rclass := 1, ttl } ∧
    toRr (.wildcard name) rd ttl = .wildcardRR { name, rtype := rd.rtype, fields := rd.fields, rclass := 1, ttl } :=
  ⟨toRr_not_soa (.normal name) rd.fields ttl h, toRr_not_soa (.wildcard name) rd.fields ttl h⟩

/-! ## wildcard owners, `@` -/

/-- three owners: `*` is the wildcard beneath the origin, `*.` the wildcard beneath the root, `*.@` the wildcard
    beneath the origin again.  In general `*.<name>` is the wildcard beneath `<name>`, resolved like any name
    (`ZoneText.parseDomainOrWildcard_wild`). -/
theorem C11_wildcard_owner (origin : Name) :
    parseDomainOrWildcard (some origin) ['*'] = .ok (.wildcard origin) ∧
    parseDomainOrWildcard (some origin) ['*', '.'] = .ok (.wildcard Name.root) ∧
    parseDomainOrWildcard (some origin) ['*', '.', '@'] = .ok (.wildcard origin) :=
  ⟨rfl, rfl, rfl⟩

/-- `@` is the current origin. -/
theorem C11_at_is_origin (origin : Name) : parseDomain (some origin) ['@'] = .ok origin := rfl

/-! ## rejections

Those over `Reach data st s` (the entry loop on `data` arrives in state `st` in front of `s`) are about an entry
anywhere in a file; the others are facts about the functions that insert the records, read a name, inherit owner and
TTL, read the class, and find the type with its RDATA, whatever the file. -/

/-- **`$INCLUDE` anywhere in the file ⇒ the file is rejected.** -/
theorem C11_reject_include (data : List Char) (st : DState) (s : List Char) (hr : Reach data st s)
    (t0 : Token) (ts : List Token) (rest : List Char)
    (htok : tokeniseEntry s = .ok (t0 :: ts, rest)) (h0 : t0.1 = sINCLUDE) :
    ∃ e, deserialise data = .err e := by
  obtain ⟨e, he⟩ := loopStep_include st s t0 ts rest htok h0
  exact ⟨e, hr.deserialise_of_stop he⟩

/-- **A second SOA anywhere ⇒ `MultipleSOA`.** -/
theorem C11_reject_second_soa (data : List Char) (st : DState) (s : List Char) (hr : Reach data st s)
    (rest : List Char) (rr : RR) (soa : SOA)
    (hp : parseEntry (s.length + 1) st.origin st.previousDomain st.previousTtl s = .ok (some (.rr rr)) rest)
    (hsoa : soaOfRR rr = some soa) (hhave : st.apexAndSoa.isSome = true) :
    deserialise data = .err .multipleSOA :=
  hr.deserialise_of_stop ((loopStep_of_entry hp).trans (congrArg some (entryStep_second_soa st rest rr soa hsoa hhave)))

/-- **A wildcard SOA anywhere ⇒ `WildcardSOA`.** -/
theorem C11_reject_wildcard_soa (data : List Char) (st : DState) (s : List Char) (hr : Reach data st s)
    (rest : List Char) (rr : RR)
    (hp : parseEntry (s.length + 1) st.origin st.previousDomain st.previousTtl s = .ok (some (.wildcardRR rr)) rest)
    (hsoa : rr.rtype = RT_SOA) :
    deserialise data = .err .wildcardSOA :=
  hr.deserialise_of_stop ((loopStep_of_entry hp).trans (congrArg some (entryStep_wildcard_soa st rest rr hsoa)))

/-- **Any error of any entry anywhere is the result of the whole file** (an `Except`: nothing is
    loaded in part). -/
theorem C11_reject_entry_error (data : List Char) (st : DState) (s : List Char) (hr : Reach data st s)
    (e : Error) (hp : parseEntry (s.length + 1) st.origin st.previousDomain st.previousTtl s = .err e) :
    deserialise data = .err e :=
  hr.deserialise_of_stop (loopStep_of_err hp)

/-- a record — ordinary or wildcard — whose owner is outside the apex, anywhere in the file: exactly
    `NotSubdomainOfApex` (the state reached holds parsed names only, so the insertion loops do not panic before
    they meet it). -/
theorem ZoneText.reject_outside_apex {data : List Char} {st : DState} {s : List Char} (hr : Reach data st s)
    (hend : loopStep st s = some (.stop (.ok st)))
    (h : ∃ rr, (rr ∈ st.rrs ∨ rr ∈ st.wildcardRrs) ∧ rr.name.isSubdomainOf st.apex = false) :
    deserialise data = .err .notSubdomainOfApex :=
  (hr.deserialise_of_stop hend).trans (buildZone_err_outside hr.stOK h)

/-- **A record — ordinary or wildcard — whose owner is outside the apex ⇒ no zone**, whatever else the file
    holds.  The apex is the owner of the SOA, or the root when there is none (then nothing is outside).  The result
    is `NotSubdomainOfApex` (`ZoneText.reject_outside_apex`). -/
theorem C11_reject_outside_apex (data : List Char) (st : DState) (s : List Char) (hr : Reach data st s)
    (hend : loopStep st s = some (.stop (.ok st)))
    (h : ∃ rr, (rr ∈ st.rrs ∨ rr ∈ st.wildcardRrs) ∧ rr.name.isSubdomainOf st.apex = false) :
    ∀ z, deserialise data ≠ .ok z := by
  rw [ZoneText.reject_outside_apex hr hend h]
  nofun

/-- the insertion loop on records the first of which is outside the apex answers `NotSubdomainOfApex`, stated as a
    `match` on the result; `ZoneText.insertAll_cons_outside` is the equation. -/
theorem C11_reject_outside_apex_error (wild : Bool) (z : Zone) (rr : RR) (rest : List RR)
    (h : rr.name.isSubdomainOf z.apex = false) :
    (match insertAll wild z (rr :: rest) with | .err .notSubdomainOfApex => True | _ => False) := by
  rw [insertAll_cons_outside wild z rr rest h]
  trivial

/-- **A relative name (or `@`, or the owner `*`) with no origin ⇒ `ExpectedOrigin`.** -/
theorem C11_reject_relative_no_origin (s : List Char) (hne : s ≠ []) (hascii : s.all isAscii = true)
    (hrel : s.getLast? ≠ some '.') :
    parseDomain none s = .error .expectedOrigin ∧
    parseDomainOrWildcard none ['*'] = .error .expectedOrigin :=
  ⟨parseDomain_no_origin s hne hascii hrel, parseDomainOrWildcard_star_no_origin⟩

/-- **No TTL to inherit for a record that is not a SOA ⇒ `MissingTTL`** (shapes 4, 5, 9, 10 with no
    previous TTL); a SOA needs none. -/
theorem C11_reject_no_ttl (w : MaybeWildcard) (rd : RData) :
    (rd.isSOA = false → withInheritedTtl w rd none = .error .missingTTL) ∧
    (rd.isSOA = true → withInheritedTtl w rd none = .ok (toRr w rd 0)) :=
  ⟨withInheritedTtl_none w rd, withInheritedTtl_soa w rd⟩

/-- **No owner to inherit ⇒ `MissingDomainName`** (shapes 6–10 on the first record). -/
theorem C11_reject_no_owner (f : MaybeWildcard → Except Error Entry) :
    withPreviousDomain none f = .error .missingDomainName := rfl

/-- **A class other than `IN` in an explicit class position ⇒ error**: between owner/TTL and type in
    either order, and directly after the owner. -/
theorem C11_reject_class_not_IN (o : Option Name) (pd : Option MaybeWildcard) (pt : Option Nat)
    (d a b ty : Token) (rd : List Token) (rdat : RData)
    (hty : tryParseRtypeWithData o (ty :: rd) = some rdat) :
    (a.1 ≠ sIN → b.1 ≠ sIN → ∃ e, parseRr o pd pt (d :: a :: b :: ty :: rd) = .error e) ∧
    (NoType rd → a.1 ≠ sIN → parseU32 a.1 = none → d.1 ≠ sIN →
      ∃ e, parseRr o pd pt (d :: a :: ty :: rd) = .error e) := by
  constructor
  · -- three tokens in front of the type, neither of the last two is `IN`
    intro ha hb
    rw [show d :: a :: b :: ty :: rd = [d, a, b] ++ ty :: rd from rfl,
      parseRr_pre o pd pt [d, a, b] ty rd rdat (Nat.le_refl 3) hty (firstType_three o rd)]
    simp only [preFields, ha, hb, if_false, readPre_bad]
    split <;> exact ⟨_, rfl⟩
  · -- the class token is taken for the TTL and is no number
    intro hrd ha hnum hd
    rw [show d :: a :: ty :: rd = [d, a] ++ ty :: rd from rfl,
      parseRr_pre o pd pt [d, a] ty rd rdat (Nat.le_succ 2) hty (hrd.firstType o _)]
    simp only [preFields, ha, hd, if_false, readPre_owner_ttl, parseU32E, hnum]
    split <;> exact ⟨_, rfl⟩

/-- **`<type> <rdata>` unreadable ⇒ `MissingType`**: when the RDATA does not parse for the type
    written (e.g. a relative name with no origin) and no other token of the line spells a type. -/
theorem C11_reject_unreadable_rdata (o : Option Name) (pd : Option MaybeWildcard) (pt : Option Nat)
    (pre : List Token) (ty : Token) (rd : List Token) (hpre : NoType pre) (hrd : NoType rd)
    (hty : tryParseRtypeWithData o (ty :: rd) = none) :
    parseRr o pd pt (pre ++ ty :: rd) = .error .missingType :=
  parseRr_missingType o pd pt pre ty rd hpre hrd hty

/-- **Open finding C11-K1.**  The owner omitted and the class token first on the line: `CH A 1.2.3.4`
    after a previous record is NOT rejected — `CH` is read as the owner `ch.<origin>`
    (here origin `e.`, previous TTL 7). -/
theorem C11_K1_class_read_as_owner :
    parseRr (some ⟨[[101], []], 3⟩) (some (.normal ⟨[[120], [101], []], 5⟩)) (some 7)
      [(['C', 'H'], [67, 72]), (['A'], [65]), (['1', '.', '2', '.', '3', '.', '4'], [49, 46, 50, 46, 51, 46, 52])]
      = .ok (.rr { name := ⟨[[99, 104], [101], []], 6⟩, rtype := 1, fields := [.a 16909060], rclass := 1, ttl := 7 }) := by
  rfl

/-! ## the tokeniser inverts the renderings of the specification -/

/-- **Quoted rendering** (chosen by the variant, or forced for the empty token), any mixture of bare / `\X` /
    `\DDD`: read as exactly one token with the atoms' octets; the tokeniser is between tokens again. -/
theorem C11_tokenise_render_quoted (tv : ZTSpec.TokVar) (atoms : List ZTSpec.Atom)
    (hq : tv.quoted = true ∨ atoms = []) (hs : ∀ a ∈ atoms, StructuralOk a)
    (rest : List Char) (rtoks : List Token) (lc : Bool) :
    tokLoop 0 (ZTSpec.renderToken tv atoms ++ rest) rtoks [] [] .initial lc
      = tokLoop 0 rest (((ZTSpec.atomOctets atoms).map octetAsChar, ZTSpec.atomOctets atoms) :: rtoks) [] []
          .initial lc :=
  tokLoop_renderToken_quoted tv atoms hq hs rest rtoks lc

/-- **Unquoted rendering** of a non-empty token, any mixture of forms: it starts a token whose octets are
    exactly the atoms' octets; a following blank, line end or end of input finishes it. -/
theorem C11_tokenise_render_unquoted (tv : ZTSpec.TokVar) (atoms : List ZTSpec.Atom)
    (hq : tv.quoted = false) (hne : atoms ≠ []) (hs : ∀ a ∈ atoms, StructuralOk a)
    (rest : List Char) (rtoks : List Token) (lc : Bool) :
    tokLoop 0 (ZTSpec.renderToken tv atoms ++ rest) rtoks [] [] .initial lc
      = tokLoop 0 rest rtoks ((ZTSpec.atomOctets atoms).map octetAsChar).reverse
          (ZTSpec.atomOctets atoms).reverse .unquotedString lc :=
  tokLoop_renderToken_unquoted tv atoms hq hne hs rest rtoks lc

/-- **Every rendering of a token, alone, is read back as that token** (all variants). -/
theorem C11_tokenise_render (tv : ZTSpec.TokVar) (atoms : List ZTSpec.Atom)
    (hs : ∀ a ∈ atoms, StructuralOk a) :
    tokeniseEntry (ZTSpec.renderToken tv atoms)
      = .ok ([((ZTSpec.atomOctets atoms).map octetAsChar, ZTSpec.atomOctets atoms)], []) := by
  have h := (tokText_renderToken tv atoms hs).ender (enderAt_eof (lc := false)) []
  simpa [tokeniseEntry, tokenOf] using h

/-- the atoms the specification renders are well-formed: structural atoms are only `.`, `@`, `*`. -/
theorem C11_spec_atoms_structural (n : ZTSpec.NameRef) (o : ZTSpec.OwnerRef) :
    (∀ a ∈ ZTSpec.nameAtoms n, StructuralOk a) ∧ (∀ a ∈ ZTSpec.ownerAtoms o, StructuralOk a) :=
  ⟨nameAtoms_structural n, ownerAtoms_structural o⟩

/-- **The tokeniser inverts the LINE renderings of the specification.**  `lineBody lv eol omitted toks` is what
    `ZTSpec.renderLine` writes (`C11_renderLine_eq`): leading blank when the owner is omitted, any separators, every
    token bare / `\X` / `\DDD` / quoted, one line or parenthesised across lines (with or without a comment before each
    line break), an optional trailing comment; `eol` is `\n` or `\r\n`.  It is read as exactly the directive's tokens. -/
theorem C11_tokenise_render_line (lv : ZTSpec.LineVar) (eol : List Char) (heol : IsEol eol)
    (hc : CommentOk lv) (omitted : Bool) (t : List ZTSpec.Atom) (ts : List (List ZTSpec.Atom))
    (hs : ∀ x ∈ t :: ts, ∀ a ∈ x, StructuralOk a) (rest : List Char) :
    tokeniseEntry (lineBody lv eol omitted (t :: ts) ++ eol ++ rest) = .ok ((t :: ts).map tokenOf, rest) :=
  tokenise_lineBody_lineEnd lv eol heol hc omitted t ts hs eol rest (Or.inl rfl)

/-- the same for the last line of the input when it is not terminated. -/
theorem C11_tokenise_render_line_eof (lv : ZTSpec.LineVar) (eol : List Char) (heol : IsEol eol)
    (hc : CommentOk lv) (omitted : Bool) (t : List ZTSpec.Atom) (ts : List (List ZTSpec.Atom))
    (hs : ∀ x ∈ t :: ts, ∀ a ∈ x, StructuralOk a) :
    tokeniseEntry (lineBody lv eol omitted (t :: ts)) = .ok ((t :: ts).map tokenOf, []) := by
  simpa using tokenise_lineBody_lineEnd lv eol heol hc omitted t ts hs [] [] (Or.inr ⟨rfl, rfl⟩)

/-- `lineBody` on the directive's tokens is `ZTSpec.renderLine`, for every directive but a blank line. -/
theorem C11_renderLine_eq (lv : ZTSpec.LineVar) (eol : List Char) (d : ZTSpec.Directive)
    (h : ∀ c, d ≠ .blank c) :
    ZTSpec.renderLine lv eol d = lineBody lv eol (ZTSpec.ownerOmitted d) (ZTSpec.directiveTokens lv d) :=
  renderLine_eq lv eol d h

/-- a blank or comment-only line is read as no token at all (the entry loop then goes on). -/
theorem C11_tokenise_blank_line (eol : List Char) (heol : IsEol eol) (c : Option (List Char))
    (hc : ∀ x, c = some x → '\n' ∉ x) (rest : List Char) :
    tokeniseEntry (ZTSpec.renderLine {} eol (.blank c) ++ eol ++ rest) = .ok ([], rest) :=
  tokenise_blank_line_lineEnd {} eol heol c hc eol rest (Or.inl rfl)

/-- **names**: the text of a name of the specification — absolute, relative or `@` — is read by
    `parse_domain` as the specification resolves it (same name, or the corresponding error). -/
theorem C11_parse_domain_spec (o : Option Name) (ho : ∀ on, o = some on → TextName on) (n : ZTSpec.NameRef)
    (hn : ZTSpec.nameRefOk false n = true) :
    parseDomain o (nameChars n) = nameResult (ZTSpec.resolve o n) :=
  parseDomain_spec o ho n hn

/-- **owners**: likewise for the owner field, `*` and `*.name` giving wildcard owners. -/
theorem C11_parse_owner_spec (o : Option Name) (ho : ∀ on, o = some on → TextName on) (ow : ZTSpec.OwnerRef)
    (hok : ZTSpec.ownerRefOk false ow = true) :
    parseDomainOrWildcard o (ownerChars ow) = ownerResult (ZTSpec.resolveOwner o ow) :=
  parseOwner_spec o ho ow hok

/-- **Open finding C11-K2.**  RFC 1035 §5.1: `\X` quotes a character "so that its special meaning
    does not apply" — `\.` places a dot INSIDE a label.  The tokeniser un-escapes before the name
    parser splits at dots: the token `a\.b` (relative to the origin `e.`) is handed over as the string
    `a.b` and read as the three-label name `a.b.e.`, whereas it denotes the two-label name whose first
    label is `a.b` (`ZTSpec.resolve`); the same for `a\046b`; and `\@` is still taken for the origin. -/
theorem C11_K2_escaped_dot_splits_label :
    let origin : Name := ⟨[[101], []], 3⟩
    tokeniseEntry ['a', '\\', '.', 'b'] = .ok ([(['a', '.', 'b'], [97, 46, 98])], []) ∧
    tokeniseEntry ['a', '\\', '0', '4', '6', 'b'] = .ok ([(['a', '.', 'b'], [97, 46, 98])], []) ∧
    parseDomain (some origin) ['a', '.', 'b'] = .ok ⟨[[97], [98], [101], []], 7⟩ ∧
    ZTSpec.resolve (some origin) (.rel [[97, 46, 98]]) = .ok ⟨[[97, 46, 98], [101], []], 7⟩ ∧
    tokeniseEntry ['\\', '@'] = .ok ([(['@'], [64])], []) ∧
    parseDomain (some origin) ['@'] = .ok origin ∧
    ZTSpec.resolve (some origin) (.rel [[64]]) = .ok ⟨[[64], [101], []], 5⟩ := by
  refine ⟨by rfl, by rfl, by rfl, by rfl, by rfl, by rfl, by rfl⟩

/-! the same four statements in the namespace of the zone text files; cite the `Resolved.C11_…` ones above, which are
    the ones the evidence for C11 lists -/

theorem ZoneText.C11_tokenise_render_line (lv : ZTSpec.LineVar) (eol : List Char) (heol : IsEol eol)
    (hc : CommentOk lv) (omitted : Bool) (t : List ZTSpec.Atom) (ts : List (List ZTSpec.Atom))
    (hs : ∀ x ∈ t :: ts, ∀ a ∈ x, StructuralOk a) (rest : List Char) :
    tokeniseEntry (lineBody lv eol omitted (t :: ts) ++ eol ++ rest) = .ok ((t :: ts).map tokenOf, rest) :=
  _root_.Resolved.C11_tokenise_render_line lv eol heol hc omitted t ts hs rest

theorem ZoneText.C11_renderLine_eq (lv : ZTSpec.LineVar) (eol : List Char) (d : ZTSpec.Directive)
    (h : ∀ c, d ≠ .blank c) :
    ZTSpec.renderLine lv eol d = lineBody lv eol (ZTSpec.ownerOmitted d) (ZTSpec.directiveTokens lv d) :=
  _root_.Resolved.C11_renderLine_eq lv eol d h

theorem ZoneText.C11_tokenise_blank_line (eol : List Char) (heol : IsEol eol) (c : Option (List Char))
    (hc : ∀ x, c = some x → '\n' ∉ x) (rest : List Char) :
    tokeniseEntry (ZTSpec.renderLine {} eol (.blank c) ++ eol ++ rest) = .ok ([], rest) :=
  _root_.Resolved.C11_tokenise_blank_line eol heol c hc rest

theorem ZoneText.C11_K2_escaped_dot_splits_label :
    let origin : Name := ⟨[[101], []], 3⟩
    tokeniseEntry ['a', '\\', '.', 'b'] = .ok ([(['a', '.', 'b'], [97, 46, 98])], []) ∧
    tokeniseEntry ['a', '\\', '0', '4', '6', 'b'] = .ok ([(['a', '.', 'b'], [97, 46, 98])], []) ∧
    parseDomain (some origin) ['a', '.', 'b'] = .ok ⟨[[97], [98], [101], []], 7⟩ ∧
    ZTSpec.resolve (some origin) (.rel [[97, 46, 98]]) = .ok ⟨[[97, 46, 98], [101], []], 7⟩ ∧
    tokeniseEntry ['\\', '@'] = .ok ([(['@'], [64])], []) ∧
    parseDomain (some origin) ['@'] = .ok origin ∧
    ZTSpec.resolve (some origin) (.rel [[64]]) = .ok ⟨[[64], [101], []], 5⟩ :=
  _root_.Resolved.C11_K2_escaped_dot_splits_label

/-! ## whole files -/

/-- **C11, accepted files: `parse (render ds v)` is `denote ds`.**  For `ds` within `Unambiguous` with
    `denote ds = .ok m` and every lexical variant `v` whose comments hold no line feed (`VariantOk`), parsing
    `render ds v` SUCCEEDS, and the zone has the apex and the SOA of `m`, and its two listings hold the records and the
    wildcard records of `m`, compared by membership (neither order nor multiplicity): names resolved, omitted owners /
    TTLs / classes inherited, `*` owners as wildcards, the SOA's owner as apex, every TTL raised to the SOA minimum and
    the SOA record carrying its MINIMUM. -/
theorem C11_parse_render_accepted (ds : List ZTSpec.Directive) (v : ZTSpec.FileVar)
    (hu : ZTSpec.Unambiguous ds = true) (hv : VariantOk v) (m : ZTSpec.Meaning) (hm : ZTSpec.denote ds = .ok m) :
    ∃ z, deserialise (ZTSpec.render ds v) = .ok z ∧ z.apex = m.apex ∧ z.soa = m.soa ∧
      (∀ r, r ∈ zoneFlat z.allRecords ↔ r ∈ m.records) ∧
      (∀ r, r ∈ zoneFlat z.allWildcardRecords ↔ r ∈ m.wildcards) := by
  have h := parse_render ds v (unambiguous_directives hu) hv
  rw [hm] at h
  exact h

/-- the text side alone, for any directive list the specification runs through without error (also
    when the final apex check then fails): the entry loop reads the whole rendering and ends in the
    state corresponding to the specification's. -/
theorem C11_parse_render_text_side (ds : List ZTSpec.Directive) (v : ZTSpec.FileVar) (hv : VariantOk v)
    (hok : ∀ d ∈ ds, ZTSpec.directiveOk false d = true) (dstF : ZTSpec.DenoteState)
    (hden : ZTSpec.denoteAll {} ds = .ok dstF) :
    ∃ stF, deserialise (ZTSpec.render ds v) = buildZone stF ∧ StRel dstF stF :=
  (deserialise_render ds v hv hok dstF hden).imp fun _ h => ⟨h.1, h.2.1⟩

/-- **a rejected record line anywhere in a file** (state corresponding to the specification's):
    the entry loop stops with an error, unless the situation is that of C11-K1.  The proof does not use `hnb`: within
    `directiveOk`, `denoteRecord` never answers `badRdata`. -/
theorem C11_record_rejected (dst : ZTSpec.DenoteState) (st : DState) (hrel : StRel dst st) (r : ZTSpec.Rec)
    (hok : ZTSpec.directiveOk false (.record r) = true) (e : ZTSpec.SpecError)
    (hden : ZTSpec.denoteRecord dst r = .error e) (hnb : e ≠ .badRdata) (lv : ZTSpec.LineVar)
    (hk1 : ¬ (e = .classNotIN ∧ r.owner = none ∧ (r.ttl = none ∨ lv.classFirst = true)))
    (eol : List Char) (heol : IsEol eol) (hc : CommentOk lv) (tailE rest : List Char)
    (hle : LineEnd eol tailE rest) :
    ∃ e', loopStep st (ZTSpec.renderLine lv eol (.record r) ++ tailE ++ rest) = some (.stop (.error e')) := by
  have h := record_line dst st hrel r hok lv eol heol hc tailE rest hle
  rw [hden] at h
  exact h hk1

/-- **`parse (render ds v)` on rejected files**: for `Unambiguous ds` with `denote ds = .error e`, every rendering
    gives an `Err` — except in the situation of the open finding C11-K1 (`ZTSpec.isK1`).  Which `Err` is not claimed
    (the parser may meet a different fault of the same line first, e.g. `MissingType` for an unresolvable RDATA name). -/
theorem C11_parse_render_rejected (ds : List ZTSpec.Directive) (v : ZTSpec.FileVar)
    (hu : ZTSpec.Unambiguous ds = true) (hv : VariantOk v) (e : ZTSpec.SpecError)
    (he : ZTSpec.denote ds = .error e) :
    ZTSpec.isK1 ds v = true ∨ ∃ e', deserialise (ZTSpec.render ds v) = .err e' := by
  have h := parse_render ds v (unambiguous_directives hu) hv
  rw [he] at h
  exact h

/-- `C11_parse_render_accepted` and `C11_parse_render_rejected` in one statement, by cases on `denote ds`; the
    listings are compared by membership (neither order nor multiplicity). -/
theorem C11_parse_render (ds : List ZTSpec.Directive) (v : ZTSpec.FileVar)
    (hu : ZTSpec.Unambiguous ds = true) (hv : VariantOk v) :
    match ZTSpec.denote ds with
    | .ok m =>
      ∃ z, deserialise (ZTSpec.render ds v) = .ok z ∧ z.apex = m.apex ∧ z.soa = m.soa ∧
        (∀ r, r ∈ zoneFlat z.allRecords ↔ r ∈ m.records) ∧
        (∀ r, r ∈ zoneFlat z.allWildcardRecords ↔ r ∈ m.wildcards)
    | .error _ => ZTSpec.isK1 ds v = true ∨ ∃ e', deserialise (ZTSpec.render ds v) = .err e' :=
  parse_render ds v (unambiguous_directives hu) hv

/-- a record outside the apex (the specification's final check) ⇒ exactly `NotSubdomainOfApex`.  The hypotheses are
    the pieces of `denote`'s final step (`ZoneText.denote_eq`): with them `denote ds = .error .outsideApex`. -/
theorem C11_parse_render_outside_apex (ds : List ZTSpec.Directive) (v : ZTSpec.FileVar)
    (hu : ZTSpec.Unambiguous ds = true) (hv : VariantOk v) (dstF : ZTSpec.DenoteState)
    (hall : ZTSpec.denoteAll {} ds = .ok dstF)
    (hout : ((dstF.records ++ dstF.wildcards).all (fun r => ZTSpec.isSuffix (apexOf dstF) r.owner)) = false) :
    deserialise (ZTSpec.render ds v) = .err .notSubdomainOfApex :=
  parse_render_outside ds v (unambiguous_directives hu) hv dstF hall hout

/-! ## a comment may follow a token directly

`tok;comment` is read exactly like `tok ;comment`.  In the tokeniser's state machine: in `unquotedString`, `;` pushes
the token and enters `skipToEndOfComment`, which is what a blank (push, `initial`) followed by `;` does; in `initial`
a blank changes nothing.  `mx_TokAt pre rtoks rstr roct st lc` (Proofs/ZoneTextGaps.lean): where the tokeniser
stands after reading `pre` from the start of an entry, whatever follows. -/

/-- **the state-machine fact**: in the initial or the unquoted-string state, `;` and ` ;` lead to the
    same configuration — for any accumulators, inside or outside parentheses, whatever follows. -/
theorem C11_comment_directly_after_token_loop (st : TState) (hst : st = .initial ∨ st = .unquotedString)
    (cs : List Char) (rtoks : List Token) (rstr : List Char) (roct : List UInt8) (lc : Bool) :
    tokLoop 0 (';' :: cs) rtoks rstr roct st lc = tokLoop 0 (' ' :: ';' :: cs) rtoks rstr roct st lc :=
  tokLoop_glue_comment st hst cs rtoks rstr roct lc

/-- **gluing the comment onto an unquoted token changes nothing.**  After `pre` the tokeniser is in its
    unquoted-string state, or in its initial state (then the token's first char must be able to begin a token);
    `tok` is a non-empty run of plain token characters; the comment text `c` and what follows are arbitrary. -/
theorem C11_comment_directly_after_token (pre tok c rest : List Char) (rtoks : List Token)
    (rstr : List Char) (roct : List UInt8) (st : TState) (lc : Bool)
    (hpre : mx_TokAt pre rtoks rstr roct st lc)
    (hst : st = .unquotedString ∨ (st = .initial ∧ ∀ h ∈ tok.head?, plainInit h = true))
    (hne : tok ≠ []) (hplain : tok.all plainUnq = true) :
    tokeniseEntry (pre ++ tok ++ [';'] ++ c ++ ['\n'] ++ rest)
      = tokeniseEntry (pre ++ tok ++ [' '] ++ [';'] ++ c ++ ['\n'] ++ rest) := by
  have hat : mx_TokAt (pre ++ tok) rtoks (tok.reverse ++ rstr) ((tok.map charAsU8).reverse ++ roct)
      .unquotedString lc := by
    rcases hst with h | ⟨h, hh⟩
    · subst h
      exact hpre.plain_chars tok hplain
    · subst h
      cases tok with
      | nil => exact absurd rfl hne
      | cons a as =>
        simp only [List.all_cons, Bool.and_eq_true] at hplain
        exact hpre.append (fun tail => tokLoop_plain_token a as (hh a (by simp)) hplain.2 tail _ _ _ _)
  simpa using hat.glue_comment (.inr rfl) (c ++ '\n' :: rest)

/-- what both readings are, outside parentheses with a one-line comment: the token is finished with
    exactly its chars, the comment is dropped, the entry ends at the line feed. -/
theorem C11_glued_comment_reading (pre tok c rest : List Char) (rtoks : List Token)
    (rstr : List Char) (roct : List UInt8)
    (hpre : mx_TokAt pre rtoks rstr roct .unquotedString false)
    (hplain : tok.all plainUnq = true) (hc : '\n' ∉ c) :
    tokeniseEntry (pre ++ tok ++ [';'] ++ c ++ ['\n'] ++ rest)
      = .ok ((pushNonEmpty rtoks (tok.reverse ++ rstr) ((tok.map charAsU8).reverse ++ roct)).reverse, rest) := by
  have hat := hpre.plain_chars tok hplain
  have e1 : pre ++ tok ++ [';'] ++ c ++ ['\n'] ++ rest = (pre ++ tok) ++ (';' :: c ++ '\n' :: rest) := by simp
  rw [e1, hat]
  simpa using (enderAt_comment_newline c hc rest).pend _ _ _

/-- **every rendering of a token** (`ZTSpec.renderToken`: unquoted or quoted, bare / `\X` / `\DDD`
    octets in any mixture) standing between tokens: the comment may be glued onto it.  For a quoted
    token this is `"…";comment`. -/
theorem C11_comment_directly_after_rendered_token (tv : ZTSpec.TokVar) (atoms : List ZTSpec.Atom)
    (hs : ∀ a ∈ atoms, StructuralOk a) (pre c rest : List Char) (rtoks : List Token) (lc : Bool)
    (hpre : mx_TokAt pre rtoks [] [] .initial lc) :
    tokeniseEntry (pre ++ ZTSpec.renderToken tv atoms ++ [';'] ++ c ++ ['\n'] ++ rest)
      = tokeniseEntry (pre ++ ZTSpec.renderToken tv atoms ++ [' '] ++ [';'] ++ c ++ ['\n'] ++ rest) := by
  simpa using (tokText_renderToken tv atoms hs).glue_comment hpre (c ++ '\n' :: rest)

/-- **the quoted case** on raw text: `"body"` of plain quoted characters standing between tokens,
    immediately followed by `;`. -/
theorem C11_comment_directly_after_quoted (pre body c rest : List Char) (rtoks : List Token) (lc : Bool)
    (hpre : mx_TokAt pre rtoks [] [] .initial lc) (hbody : body.all plainQ = true) :
    tokeniseEntry (pre ++ ['"'] ++ body ++ ['"'] ++ [';'] ++ c ++ ['\n'] ++ rest)
      = tokeniseEntry (pre ++ ['"'] ++ body ++ ['"'] ++ [' '] ++ [';'] ++ c ++ ['\n'] ++ rest) := by
  simpa using (tokText_plain_quoted body hbody).glue_comment hpre (c ++ '\n' :: rest)

/-- two texts with the same tokenisation of their first entry are the same to `parse_entry`. -/
theorem C11_glued_comment_same_entry (s1 s2 : List Char) (h : tokeniseEntry s1 = tokeniseEntry s2)
    (fuel : Nat) (o : Option Name) (pd : Option MaybeWildcard) (pt : Option Nat) :
    parseEntry fuel o pd pt s1 = parseEntry fuel o pd pt s2 := by
  cases fuel with
  | zero => rfl
  | succ f => simp only [parseEntry, h]

/-- **the same zone**: two files in which the entry loop arrives with the same local state (`Reach`) in front of
    two texts whose next entry tokenises alike have the same result: the same zone, or the same error. -/
theorem C11_glued_comment_same_zone (data1 data2 s1 s2 : List Char) (st : DState)
    (h1 : Reach data1 st s1) (h2 : Reach data2 st s2) (h : tokeniseEntry s1 = tokeniseEntry s2) :
    deserialise data1 = deserialise data2 := by
  rw [deserialise_eq_run, deserialise_eq_run, h1.run, h2.run, runLoop_congr (loopStep_congr_tokenise h st)]

/-- … in particular when the glued comment stands in the first entry of the file. -/
theorem C11_glued_comment_same_zone_first_entry (tok c rest : List Char) (hne : tok ≠ [])
    (hhead : ∀ h ∈ tok.head?, plainInit h = true) (hplain : tok.all plainUnq = true) :
    deserialise (tok ++ [';'] ++ c ++ ['\n'] ++ rest)
      = deserialise (tok ++ [' '] ++ [';'] ++ c ++ ['\n'] ++ rest) := by
  have h := C11_comment_directly_after_token [] tok c rest [] [] [] .initial false mx_TokAt_nil
    (Or.inr ⟨rfl, hhead⟩) hne hplain
  simp only [List.nil_append] at h
  exact C11_glued_comment_same_zone _ _ _ _ {} .start .start h

/-! ### non-vacuity -/

example : tokeniseEntry ['a', ';', 'x', '\n', 'b'] = .ok ([(['a'], [97])], ['b']) ∧
    tokeniseEntry ['a', ' ', ';', 'x', '\n', 'b'] = .ok ([(['a'], [97])], ['b']) := by
  exact ⟨by rfl, by rfl⟩

example : tokeniseEntry ['"', 'a', '"', ';', 'x', '\n'] = .ok ([(['a'], [97])], []) ∧
    tokeniseEntry ['"', 'a', '"', ' ', ';', 'x', '\n'] = .ok ([(['a'], [97])], []) := by
  exact ⟨by rfl, by rfl⟩

/-- the hypotheses of `C11_comment_directly_after_token` hold after `a ` (one finished token, between
    tokens) for the token `IN`. -/
example : mx_TokAt ['a', ' '] [(['a'], [97])] [] [] .initial false ∧
    (∀ h ∈ ['I', 'N'].head?, plainInit h = true) ∧ ['I', 'N'].all plainUnq = true := by
  exact ⟨fun tail => by rfl, by decide, by decide⟩

/-- a whole file: `$ORIGIN e.;x⏎` and `$ORIGIN e. ;x⏎` followed by the same record line. -/
example :
    deserialise (['$','O','R','I','G','I','N',' ','e','.'] ++ [';'] ++ ['x'] ++ ['\n'] ++ ['a',' ','5',' ','A',' ','1','.','2','.','3','.','4','\n'])
      = deserialise (['$','O','R','I','G','I','N',' ','e','.'] ++ [' '] ++ [';'] ++ ['x'] ++ ['\n'] ++ ['a',' ','5',' ','A',' ','1','.','2','.','3','.','4','\n']) := by
  have h := C11_comment_directly_after_token ['$','O','R','I','G','I','N',' '] ['e','.'] ['x']
    ['a',' ','5',' ','A',' ','1','.','2','.','3','.','4','\n']
    [(['$','O','R','I','G','I','N'], [36,79,82,73,71,73,78])] [] [] .initial false
    (fun tail => by rfl)
    (Or.inr ⟨rfl, by decide⟩) (by simp) (by decide)
  exact C11_glued_comment_same_zone _ _ _ _ {} .start .start h

/-- … and that file is accepted (a zone with `a.e. 5 A 1.2.3.4`), so the equation above is not one
    between two errors. -/
example :
    (match deserialise (['$','O','R','I','G','I','N',' ','e','.'] ++ [';'] ++ ['x'] ++ ['\n'] ++ ['a',' ','5',' ','A',' ','1','.','2','.','3','.','4','\n']) with
      | .ok z => z.soa.isNone && z.apex == Name.root
      | _ => false) = true := by decide +kernel

end Resolved
