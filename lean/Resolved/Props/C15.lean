/-
  C15 — Cache pruning is exact, bounded and least-recently-used.
  What holds of `prune` in every state; the structural invariant `Inv` is kept by every operation, hence
  along every history; under it `prune` terminates, leaves no expired record, reports true counts and evicts
  least recently used first, only while over size and no more than needed; which lookups count as a use.
-/
import Resolved.Proofs.CacheUses

namespace Resolved

theorem C15_size_bound (c c' : PCache) (now : Nat) (r : Bool × Nat × Nat × Nat)
    (h : c.prune now = some (c', r)) : c'.currentSize ≤ c'.desiredSize ∧ r.2.1 = c'.currentSize := by
  obtain ⟨c1, e, p, _, h2, rfl⟩ := prune_eq_some h
  exact ⟨pruneLoop_size _ _ _ _ _ h2, rfl⟩

/-- The overflow flag is exactly "was over the desired size before pruning". -/
theorem C15_overflow_flag (c c' : PCache) (now : Nat) (r : Bool × Nat × Nat × Nat)
    (h : c.prune now = some (c', r)) : r.1 = decide (c.currentSize > c.desiredSize) := by
  obtain ⟨_, _, _, _, _, rfl⟩ := prune_eq_some h
  rfl

/-! ## The structural invariant `Inv` (defined in `Proofs/CacheInv.lean`) is inductive

`Inv c` is the conjunction of: I1 distinct partition keys, distinct record keys, every partition
holds at least one tuple; I2 `size`/`current_size` are the tuple counts; I3 `next_expiry` is the
least expiry of the partition; I4 both queues hold exactly the partition keys once, with priorities
`last_read` / `next_expiry`; I5 no value twice in a tuple list; I6 tuples are filed under their own
record type. -/

/-- `Inv` spelled out in the vocabulary of the model alone (no helper definitions). -/
theorem C15_inv_iff (c : PCache) :
    Inv c ↔
      (c.partitions.map (·.1)).Nodup ∧
      (∀ kp ∈ c.partitions,
        (kp.2.records.map (·.1)).Nodup ∧
        kp.2.size = (kp.2.records.map (fun r => r.2.length)).sum ∧
        ((∃ t ∈ kp.2.records.flatMap (·.2), t.2 = kp.2.nextExpiry) ∧
          ∀ t ∈ kp.2.records.flatMap (·.2), kp.2.nextExpiry ≤ t.2) ∧
        (∀ r ∈ kp.2.records, (r.2.map (·.1)).Nodup) ∧
        (∀ r ∈ kp.2.records, ∀ t ∈ r.2, t.1.rtype = r.1)) ∧
      c.currentSize = (c.partitions.map (·.2.size)).sum ∧
      (c.accessPriority.map (·.1)).Nodup ∧
      (∀ k x, (k, x) ∈ c.accessPriority ↔ ∃ p, (k, p) ∈ c.partitions ∧ p.lastRead = x) ∧
      (c.expiryPriority.map (·.1)).Nodup ∧
      (∀ k x, (k, x) ∈ c.expiryPriority ↔ ∃ p, (k, p) ∈ c.partitions ∧ p.nextExpiry = x) := by
  constructor
  · intro h
    refine ⟨h.keysNodup, ?_, h.size_eq, h.aqNodup,
      (queue_get_iff_mem _ h.aqNodup h.keysNodup).mp h.aq_get, h.eqNodup,
      (queue_get_iff_mem _ h.eqNodup h.keysNodup).mp h.eq_get⟩
    intro kp hkp
    have hp := h.parts kp hkp
    exact ⟨hp.keysNodup, hp.size_eq, hp.nextExpiry_min, hp.noDup, hp.rtype_eq⟩
  · rintro ⟨h1, h2, h3, h4, h5, h6, h7⟩
    refine ⟨h1, ?_, h3, h4, (queue_get_iff_mem _ h4 h1).mpr h5, h6, (queue_get_iff_mem _ h6 h1).mpr h7⟩
    intro kp hkp
    obtain ⟨a, b, d, e, f⟩ := h2 kp hkp
    exact ⟨a, b, d, e, f⟩

theorem C15_inv_init (d : Nat) : Inv (PCache.new d) := Inv.new d

/-- `upsert` keeps the invariant.  This is the theorem that fails for an `upsert` which, after replacing the tuple
    that held the partition's least expiry, recomputes `next_expiry` over that record type only: a tuple of another
    type with an earlier expiry then outlives a prune (the defect of `cache.rs` recorded as F14 in DESIGN §8; the
    case is `PInv.dup`). -/
theorem C15_inv_upsert (c : PCache) (k : Name) (rk : Nat) (v : CRec) (ttl now : Nat)
    (h : Inv c) (hrt : v.rtype = rk) : Inv (c.upsert k rk v ttl now) :=
  h.upsert k ttl now hrt

theorem C15_inv_getTouch (c : PCache) (k : Name) (rk now : Nat) (h : Inv c) :
    Inv (c.getTouch k rk now).1 := (getTouch_spec c k rk now).1.inv h

theorem C15_inv_getPartitionTouch (c : PCache) (k : Name) (now : Nat) (h : Inv c) :
    Inv (c.getPartitionTouch k now).1 := (getPartitionTouch_spec c k now).1.inv h

theorem C15_inv_removeExpiredStep (c : PCache) (now : Nat) (h : Inv c) :
    Inv (c.removeExpiredStep now).1 := h.removeExpiredStep now

theorem C15_inv_removeLRU (c : PCache) (h : Inv c) : Inv c.removeLRU.1 := h.removeLRU

theorem C15_inv_step (c : PCache) (h : Inv c) :
    (∀ rr now, Inv (sharedInsert c rr now)) ∧
    (∀ rrs now, Inv (sharedInsertAll c rrs now)) ∧
    (∀ name qtype now, Inv (cacheGet c name qtype now).1) ∧
    (∀ name qtype now, Inv (cacheGetUnchecked c name qtype now).1) ∧
    (∀ now c' r, c.prune now = some (c', r) → Inv c') :=
  ⟨h.sharedInsert, h.sharedInsertAll, h.cacheGet, h.cacheGetUnchecked, fun _ _ _ hp => h.prune hp⟩

theorem C15_inv_reachable (d : Nat) (ops : List CacheOp) : Inv (run d ops) :=
  (Inv.new d).runFrom ops

/-! ## Termination -/

/-- On a state satisfying the invariant both loops of `prune` finish (within the model's fuel):
    `prune` returns. -/
theorem C15_prune_terminates (c : PCache) (now : Nat) (h : Inv c) : ∃ r, c.prune now = some r :=
  let ⟨c', r, hp, _⟩ := h.prune_total now
  ⟨(c', r), hp⟩

theorem C15_prune_terminates_reachable (d : Nat) (ops : List CacheOp) (now : Nat) :
    ∃ r, (run d ops).prune now = some r :=
  C15_prune_terminates _ now (C15_inv_reachable d ops)

/-- Without the invariant the eviction loop need not terminate: a counter that claims one record
    while nothing is stored makes `while current_size > desired_size` spin (fuel exhausted). -/
example : ({ partitions := [], accessPriority := [], expiryPriority := [], currentSize := 1,
             desiredSize := 0 } : PCache).prune 0 = none := by decide

/-! ## What `prune` does

Vocabulary (`Proofs/CacheInv.lean`, `CacheOps.lean`, `CachePruneSpec.lean`): `liveRecs rs now` = the record map with the tuples of
expiry `≤ now` dropped; `liveCount now p` = number of tuples of `p` with expiry `> now`;
`expiredTotal c now` / `liveTotal c now` = number of tuples of the cache with expiry `≤ now` / `> now`;
`psum f ps` = `Σ f p` over a partition list; `purgeP now p` = partition `p` after `remove_expired` (its live tuples,
`size` and `next_expiry` recomputed; `none` when no tuple is left), `purgeKP now (k, p)` = the same with the key kept. -/

/-- Survivors: every partition of the result is a partition of the input, with exactly its live
    tuples (same lists, same order) and the same `last_read` — nothing is invented or altered. -/
theorem C15_survivors (c c' : PCache) (now : Nat) (r : Bool × Nat × Nat × Nat) (h : Inv c)
    (hp : c.prune now = some (c', r)) :
    ∀ kp' ∈ c'.partitions, ∃ kp ∈ c.partitions, kp.1 = kp'.1 ∧
      kp'.2.records = liveRecs kp.2.records now ∧ kp'.2.lastRead = kp.2.lastRead :=
  (h.prune_spec hp).survivors

theorem C15_no_expired_left (c c' : PCache) (now : Nat) (r : Bool × Nat × Nat × Nat) (h : Inv c)
    (hp : c.prune now = some (c', r)) :
    ∀ kp ∈ c'.partitions, ∀ t ∈ tuplesOf kp.2.records, t.2 > now := by
  intro kp' hkp' t ht
  obtain ⟨kp, _, _, hrec, _⟩ := C15_survivors c c' now r h hp kp' hkp'
  rw [hrec, tuplesOf_liveRecs] at ht
  simpa using (List.mem_filter.mp ht).2

/-- The reported tuple is true: `has_overflowed` = "was over the desired size", `current_size` =
    the number of records now stored, `num_expired` = the number of records whose expiry was
    `≤ now`, `num_pruned` = the number of live records of the partitions that did not survive. -/
theorem C15_counts_true (c c' : PCache) (now : Nat) (over : Bool) (n e p : Nat) (h : Inv c)
    (hp : c.prune now = some (c', (over, n, e, p))) :
    over = decide (c.currentSize > c.desiredSize) ∧
    n = c'.currentSize ∧ n = PCache.totalTuples c' ∧
    e = expiredTotal c now ∧
    p = psum (liveCount now) (c.partitions.filter (fun kp => !decide (kp.1 ∈ AL.keys c'.partitions))) ∧
    e + p + n = PCache.totalTuples c := by
  have hs := h.prune_spec hp
  have r1 := hs.over
  have r2 := hs.size'
  have r3 := hs.expired
  have r4 := hs.pruned
  have hsurv := hs.kept_size
  simp only at r1 r2 r3 r4
  have hsplit := psum_filter_add (liveCount now) (fun kp => decide (kp.1 ∈ AL.keys c'.partitions)) c.partitions
  have hall := expired_add_live_total c now
  unfold liveTotal at r4 hall
  refine ⟨r1, r2, by rw [hs.inv'.totalTuples_eq]; exact r2, r3, ?_, ?_⟩ <;> omega

/-- Least-recently-used order: a partition that still had live records but did not survive was
    last read no later than every survivor. -/
theorem C15_lru (c c' : PCache) (now : Nat) (r : Bool × Nat × Nat × Nat) (h : Inv c)
    (hp : c.prune now = some (c', r)) :
    ∀ kp ∈ c.partitions, liveCount now kp.2 > 0 → kp.1 ∉ AL.keys c'.partitions →
      ∀ kp' ∈ c'.partitions, kp.2.lastRead ≤ kp'.2.lastRead :=
  (h.prune_spec hp).lru

/-- Eviction happens only while over size: if the live records alone fit, nothing is evicted
    (the result is exactly the purged input) … -/
theorem C15_evicts_only_while_over (c c' : PCache) (now : Nat) (r : Bool × Nat × Nat × Nat) (h : Inv c)
    (hp : c.prune now = some (c', r)) (hfit : liveTotal c now ≤ c.desiredSize) :
    r.2.2.2 = 0 ∧ c'.partitions = c.partitions.filterMap (purgeKP now) ∧
      ∀ kp ∈ c.partitions, liveCount now kp.2 > 0 → kp.1 ∈ AL.keys c'.partitions :=
  (h.prune_spec hp).fits hfit

/-- … and no more than needed: if anything was evicted, then putting back (the live records of)
    one of the evicted partitions — the last one evicted — would exceed the desired size. -/
theorem C15_evicts_no_more_than_needed (c c' : PCache) (now : Nat) (r : Bool × Nat × Nat × Nat) (h : Inv c)
    (hp : c.prune now = some (c', r)) (hev : r.2.2.2 ≠ 0) :
    ∃ kp ∈ c.partitions, kp.1 ∉ AL.keys c'.partitions ∧ liveCount now kp.2 > 0 ∧
      c'.currentSize + liveCount now kp.2 > c'.desiredSize :=
  (h.prune_spec hp).needed hev

/-- non-vacuity: a two-record history (desired size 1), and a prune of it that evicts -/
example : (run 1 [.insert ⟨⟨[[97], []], 3⟩, 1, [], 1, 5⟩ 0, .insert ⟨⟨[[98], []], 3⟩, 1, [], 1, 7⟩ 1]).currentSize = 2 := by
  decide

example : ((run 1 [.insert ⟨⟨[[97], []], 3⟩, 1, [], 1, 5⟩ 0, .insert ⟨⟨[[98], []], 3⟩, 1, [], 1, 7⟩ 1]).prune 2).map (·.2)
    = some (true, 1, 0, 1) := by decide

/-- non-vacuity of the `prune` theorems: three names, desired size 1; at t = 8 s the first record
    (TTL 5 s) has expired, the two live ones exceed the size, the older-read one is evicted:
    `(has_overflowed, current_size, num_expired, num_pruned) = (true, 1, 1, 1)` and the survivor
    is the most recently used name. -/
example :
    let a : RR := ⟨⟨[[97], []], 3⟩, 1, [], 1, 5⟩
    let b : RR := ⟨⟨[[98], []], 3⟩, 1, [], 1, 60⟩
    let d : RR := ⟨⟨[[99], []], 3⟩, 1, [], 1, 60⟩
    let st := run 1 [.insert a 0, .insert b NANOS, .insert d (2 * NANOS)]
    (st.prune (8 * NANOS)).map (·.2) = some (true, 1, 1, 1) ∧
    (st.prune (8 * NANOS)).map (·.1.partitions.map (·.1)) = some [d.name] ∧
    expiredTotal st (8 * NANOS) = 1 ∧ liveTotal st (8 * NANOS) = 2 := by
  decide

/-! ## What counts as a use

"Least recently USED" is about `last_read`.  Which lookups refresh it (and the access queue that
`prune` pops from) is part of the property: a lookup that finds nothing under the asked type must
not make the name look recently used.  The model mirrors `get_without_checking_expiration`
(touches only when the record key exists — emptied per-type vectors are kept by
`remove_expired_step`, so an emptied vector still counts as a key) and
`get_partition_without_checking_expiration` (touches whenever the partition exists). -/

/-- A1: a typed lookup (`SharedCache::get` and `get_without_checking_expiration` alike) for a type
    whose key the name's partition does not hold — or for a name without a partition — leaves the
    WHOLE cache unchanged (`last_read`, both queues, counters) and returns nothing. -/
theorem C15_typed_miss_is_not_a_use (c : PCache) (name : Name) (t now : Nat) (ht : t ≠ QTYPE_WILDCARD)
    (hmiss : ∀ p, PCache.getPartition c.partitions name = some p → PCache.getTuples p.records t = none) :
    (cacheGet c name t now).1 = c ∧ (cacheGet c name t now).2 = [] ∧
    (cacheGetUnchecked c name t now).1 = c ∧ (cacheGetUnchecked c name t now).2 = [] ∧
    c.getTouch name t now = (c, none) := by
  have h2 := cacheGetUnchecked_of_noKey (c := c) (name := name) now ht hmiss
  have h1 : cacheGet c name t now = (c, []) := cacheGet_of_unchecked h2
  rw [h1, h2]
  exact ⟨rfl, rfl, rfl, rfl, getTouch_miss now hmiss⟩

/-- … likewise for a name the cache holds nothing about, whatever is asked (ANY included). -/
theorem C15_absent_name_is_not_a_use (c : PCache) (name : Name) (t now : Nat)
    (habs : PCache.getPartition c.partitions name = none) :
    cacheGet c name t now = (c, []) ∧ cacheGetUnchecked c name t now = (c, []) ∧
    c.getPartitionTouch name now = (c, none) := by
  have hu : cacheGetUnchecked c name t now = (c, []) := by
    by_cases ht : t = QTYPE_WILDCARD
    · subst ht; exact cacheGetUnchecked_any_absent now habs
    · exact cacheGetUnchecked_of_noKey now ht (fun p hp => by rw [habs] at hp; cases hp)
  exact ⟨cacheGet_of_unchecked hu, hu, getPartitionTouch_absent now habs⟩

/-- The query-only types `AXFR`, `MAILB`, `MAILA` never touch the cache. -/
theorem C15_query_only_types_are_not_a_use (c : PCache) (name : Name) (t now : Nat)
    (ht : t = 252 ∨ t = 253 ∨ t = 254) :
    cacheGet c name t now = (c, []) ∧ cacheGetUnchecked c name t now = (c, []) := by
  have hu := cacheGetUnchecked_queryOnly (c := c) (name := name) now ht
  exact ⟨cacheGet_of_unchecked hu, hu⟩

/-- A2: a typed lookup for a record type whose key the partition holds — even with an empty or
    fully expired list — IS a use: `last_read` of that partition becomes `now`, the access-queue
    priority of the name is changed to `now`, and nothing else changes (records, `size`,
    `next_expiry` of the partition; every other partition; every other queue entry; the expiry queue;
    the counters).  The records returned are the `to_rrs` image of the stored list. -/
theorem C15_typed_hit_is_a_use (c : PCache) (name : Name) (t now : Nat) (p : Partition) (ts : Tuples)
    (ht : t ≠ 252 ∧ t ≠ 253 ∧ t ≠ 254 ∧ t ≠ 255)
    (hp : PCache.getPartition c.partitions name = some p) (hts : PCache.getTuples p.records t = some ts) :
    (cacheGetUnchecked c name t now).1 = (cacheGet c name t now).1 ∧
    (cacheGet c name t now).1 =
      { c with partitions := PCache.setPartition c.partitions name { p with lastRead := now }
               accessPriority := c.accessPriority.change name now } ∧
    PCache.getPartition (cacheGet c name t now).1.partitions name =
      some { lastRead := now, nextExpiry := p.nextExpiry, size := p.size, records := p.records } ∧
    (∀ k, k ≠ name →
      PCache.getPartition (cacheGet c name t now).1.partitions k = PCache.getPartition c.partitions k ∧
      AL.get (cacheGet c name t now).1.accessPriority k = AL.get c.accessPriority k) ∧
    (Inv c → AL.get (cacheGet c name t now).1.accessPriority name = some now) ∧
    (cacheGet c name t now).1.expiryPriority = c.expiryPriority ∧
    (cacheGet c name t now).1.currentSize = c.currentSize ∧
    (cacheGet c name t now).1.desiredSize = c.desiredSize ∧
    (cacheGetUnchecked c name t now).2 = toRRs name now ts := by
  have hq := (lookupNat_qt_eq_none_iff t).mpr ht
  obtain ⟨t0, t1, t2, t3⟩ := touch_view hp now
  have h2 := cacheGetUnchecked_hit (c := c) now hq hp hts
  rw [cacheGet_of_unchecked h2, h2]
  exact ⟨rfl, t0, t1, t2, t3, rfl, rfl, rfl, rfl⟩

/-- A3: the ANY path (`get_partition_without_checking_expiration`, reached through a lookup with
    query type `*`) is a use whenever the partition exists, whatever it holds. -/
theorem C15_any_lookup_is_a_use (c : PCache) (name : Name) (now : Nat) (p : Partition)
    (hp : PCache.getPartition c.partitions name = some p) :
    c.getPartitionTouch name now =
      ({ c with partitions := PCache.setPartition c.partitions name { p with lastRead := now }
                accessPriority := c.accessPriority.change name now }, some p.records) ∧
    (cacheGet c name QTYPE_WILDCARD now).1 = (c.getPartitionTouch name now).1 ∧
    (cacheGetUnchecked c name QTYPE_WILDCARD now).1 = (c.getPartitionTouch name now).1 ∧
    PCache.getPartition (c.getPartitionTouch name now).1.partitions name =
      some { lastRead := now, nextExpiry := p.nextExpiry, size := p.size, records := p.records } ∧
    (∀ k, k ≠ name →
      PCache.getPartition (c.getPartitionTouch name now).1.partitions k = PCache.getPartition c.partitions k ∧
      AL.get (c.getPartitionTouch name now).1.accessPriority k = AL.get c.accessPriority k) ∧
    (Inv c → AL.get (c.getPartitionTouch name now).1.accessPriority name = some now) := by
  obtain ⟨t0, t1, t2, t3⟩ := touch_view hp now
  rw [cacheGet_fst, cacheGetUnchecked_any_hit now hp, getPartitionTouch_hit now hp]
  exact ⟨by rw [t0], rfl, rfl, t1, t2, t3⟩

/-- A4, history form.  `cu_Misses c k op` (Proofs/CacheUses.lean): `op` is a lookup of another name,
    a typed (non-ANY) lookup of `k` for a type key `k`'s partition does not hold, or an insertion
    under another name.  A history of such operations leaves the partition of `k` — `last_read`
    included — and `k`'s access-queue entry exactly as they were. -/
theorem C15_misses_leave_last_read (c : PCache) (k : Name) (ops : List CacheOp)
    (hops : ∀ op ∈ ops, cu_Misses c k op) :
    PCache.getPartition (runFrom c ops).partitions k = PCache.getPartition c.partitions k ∧
    AL.get (runFrom c ops).accessPriority k = AL.get c.accessPriority k := by
  have := useView_runFrom_of_misses k ops c hops
  exact ⟨congrArg Prod.fst this, congrArg Prod.snd this⟩

/-- … in particular for a list of typed lookups of `k` itself (checked or unchecked, at any clock
    readings) for types it does not hold: folded over the cache they change NOTHING at all. -/
theorem C15_typed_misses_fold (c : PCache) (k : Name) (lookups : List (Nat × Nat))
    (hl : ∀ l ∈ lookups, l.1 ≠ QTYPE_WILDCARD ∧
      ∀ p, PCache.getPartition c.partitions k = some p → PCache.getTuples p.records l.1 = none) :
    lookups.foldl (fun c l => (cacheGet c k l.1 l.2).1) c = c ∧
    lookups.foldl (fun c l => (cacheGetUnchecked c k l.1 l.2).1) c = c :=
  have miss := fun l hm => C15_typed_miss_is_not_a_use c k l.1 l.2 (hl l hm).1 (hl l hm).2
  ⟨List.foldlRecOn (motive := (· = c)) lookups _ rfl fun _ e l hm => e ▸ (miss l hm).1,
   List.foldlRecOn (motive := (· = c)) lookups _ rfl fun _ e l hm => e ▸ (miss l hm).2.2.1⟩

/-- A4, consequence for the eviction order (with `C15_lru`): misses do not protect a name.  Let `k`
    hold partition `p`, let any history of operations that only MISS `k` follow, then a `prune`.
    `k`'s `last_read` is still `p.lastRead`, and every name that was used later than that — however
    long before the misses — outlives `k`: if such a name is evicted (with live records), `k` is
    gone too. -/
theorem C15_misses_do_not_protect_from_eviction (c : PCache) (h : Inv c) (k : Name) (p : Partition)
    (ops : List CacheOp) (hp : PCache.getPartition c.partitions k = some p)
    (hops : ∀ op ∈ ops, cu_Misses c k op)
    (now : Nat) (c' : PCache) (r : Bool × Nat × Nat × Nat)
    (hprune : (runFrom c ops).prune now = some (c', r)) :
    PCache.getPartition (runFrom c ops).partitions k = some p ∧
    ∀ kp2 ∈ (runFrom c ops).partitions, p.lastRead < kp2.2.lastRead → liveCount now kp2.2 > 0 →
      kp2.1 ∉ AL.keys c'.partitions → k ∉ AL.keys c'.partitions := by
  have hpk : PCache.getPartition (runFrom c ops).partitions k = some p := by
    rw [← hp]; exact (C15_misses_leave_last_read c k ops hops).1
  refine ⟨hpk, ?_⟩
  intro kp2 hkp2 hlt hlive hnot hk
  have hi := h.runFrom ops
  obtain ⟨kp', hkp', hk'⟩ := List.mem_map.mp hk
  obtain ⟨kp, hkp, hkeq, _, hlr⟩ := C15_survivors _ c' now r hi hprune kp' hkp'
  have hkp2eq : kp.2 = p := by
    have h1 := AL.get_of_mem hi.keysNodup (show (kp.1, kp.2) ∈ (runFrom c ops).partitions from hkp)
    rw [hkeq, hk'] at h1
    simp only [getPartition_eq] at hpk
    rw [hpk] at h1
    cases h1; rfl
  have hle := C15_lru _ c' now r hi hprune kp2 hkp2 hlive hnot kp' hkp'
  rw [hlr, hkp2eq] at hle
  omega

/-- non-vacuity of A1–A3 on a concrete cache: `a.` holds one A record inserted at t = 0.  An AAAA
    lookup at 5 s changes nothing; an A lookup, and an ANY lookup, set `last_read` to 5 s. -/
example :
    let a : RR := ⟨⟨[[97], []], 3⟩, 1, [], 1, 60⟩
    let c := sharedInsert (PCache.new 10) a 0
    (cacheGet c a.name 28 (5 * NANOS)).1 = c ∧ (cacheGetUnchecked c a.name 28 (5 * NANOS)).1 = c ∧
    (c.partitions.map (·.2.lastRead)) = [0] ∧
    ((cacheGet c a.name 1 (5 * NANOS)).1.partitions.map (·.2.lastRead)) = [5 * NANOS] ∧
    ((cacheGet c a.name 1 (5 * NANOS)).1.accessPriority.map (·.2)) = [5 * NANOS] ∧
    ((cacheGet c a.name 255 (5 * NANOS)).1.partitions.map (·.2.lastRead)) = [5 * NANOS] ∧
    ((cacheGet c a.name 252 (5 * NANOS)).1.partitions.map (·.2.lastRead)) = [0] := by
  decide

/-- an emptied per-type list still counts as a key: `a.` holds A (TTL 5 s) and MX (TTL 60 s); the
    prune at 8 s empties the A list but keeps the key, so the A lookup at 9 s returns nothing and
    yet refreshes `last_read` (as the Rust does). -/
example :
    let a1 : RR := ⟨⟨[[97], []], 3⟩, 1, [], 1, 5⟩
    let a2 : RR := ⟨⟨[[97], []], 3⟩, 15, [], 1, 60⟩
    let c := run 10 [.insert a1 0, .insert a2 0, .prune (8 * NANOS)]
    (c.partitions.map (·.2.records)) = [[(1, []), (15, [(⟨15, []⟩, 60 * NANOS)])]] ∧
    (cacheGet c a1.name 1 (9 * NANOS)).2 = [] ∧
    ((cacheGet c a1.name 1 (9 * NANOS)).1.partitions.map (·.2.lastRead)) = [9 * NANOS] := by
  decide

/-- non-vacuity of A4: `a.` inserted at 0 s, `b.` at 1 s, desired size 1.  AAAA lookups of `a.` (which
    holds only A) at 2 s and 3 s are misses, so the prune at 4 s evicts `a.` and keeps `b.`; had the
    lookup at 2 s been for A (a hit), `b.` would have been evicted instead. -/
example :
    let a : RR := ⟨⟨[[97], []], 3⟩, 1, [], 1, 60⟩
    let b : RR := ⟨⟨[[98], []], 3⟩, 1, [], 1, 60⟩
    let c := run 1 [.insert a 0, .insert b NANOS]
    let misses : List CacheOp := [.get a.name 28 (2 * NANOS), .getUnchecked a.name 28 (3 * NANOS)]
    runFrom c misses = c ∧
    ((runFrom c misses).prune (4 * NANOS)).map (·.1.partitions.map (·.1)) = some [b.name] ∧
    ((runFrom c [.get a.name 1 (2 * NANOS)]).prune (4 * NANOS)).map (·.1.partitions.map (·.1)) = some [a.name] := by
  decide

/-- the hypothesis `cu_Misses` of the history theorems is satisfiable by exactly such lookups -/
example :
    let a : RR := ⟨⟨[[97], []], 3⟩, 1, [], 1, 60⟩
    let b : RR := ⟨⟨[[98], []], 3⟩, 1, [], 1, 60⟩
    let c := run 1 [.insert a 0, .insert b NANOS]
    ∀ op ∈ ([.get a.name 28 (2 * NANOS), .getUnchecked a.name 28 (3 * NANOS), .get b.name 1 (3 * NANOS),
        .insert b (3 * NANOS)] : List CacheOp), cu_Misses c a.name op := by
  intro a b c op hop
  simp only [List.mem_cons, List.not_mem_nil, or_false] at hop
  rcases hop with rfl | rfl | rfl | rfl
  · exact Or.inr ⟨by decide, by decide⟩
  · exact Or.inr ⟨by decide, by decide⟩
  · exact Or.inl (by decide)
  · show b.name ≠ a.name; decide

end Resolved
