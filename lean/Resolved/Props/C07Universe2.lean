/-
  C07 — warm caches and referrals without glue: a second question from the state an earlier
  resolution left behind, and resolutions through zones whose name server lies out of bailiwick
  (over consistent universes, `Spec/UniverseSpec.lean`; setting as in `Props/C07Universe.lean`).
  Parts: (1) a warm cache — (1a) the same question again, (1b) another question the same zone answers;
  (2) one referral without glue; (3) referrals without glue in general (walks).
  Left open: existence of a walk from the shape of the universe (`C07_universe_walk_exists_statement`);
  several name servers per zone together with glueless referrals; NS questions and answers with
  repeated data in (1).
-/
import Resolved.Proofs.UniverseExamples

namespace Resolved

open Gen

set_option autoImplicit false

/-! ## (1) Warm cache: a second question -/

/-- C07 (the cache a resolution leaves behind; strengthens `C07_universe_result`).  After the
    resolution of `q` (not an NS question) at time `now` along the path `R :: rest`, the cache of
    the final state holds, for every server `C` of `rest`: under `(C.apex, NS)` nothing but `C`'s NS
    record and under `(C.host, A)` nothing but `C`'s address (at least one tuple each, every one
    alive for at least another second); and under `(q.name, q.qtype)` the records of a positive
    answer (TTL > 0, pairwise different data) in order, each expiring at `now + ttl·10⁹`; the zones
    are unchanged and the question stack is empty. -/
theorem C07_universe_result_cache {U : Universe} {cfg : RecCfg} (h : UniOK U cfg) {q : Question} (hq : QuestionOK q)
    (hk : rtypeIsUnknown q.qtype = false) (hnotNS : q.qtype ≠ RT_NS)
    {R Z : UEntry} {rest : List UEntry} (hp : DelegPath U q R rest Z) (hty : Z.zone.records.Typed)
    {zs : Zones} (hs : UniStart zs q R rest) (d now : Nat) (res : ResolvedRecord)
    (hexp : expectedAt Z q = some res) :
    (resolveRecursive cfg (startCtx zs d now) q).1.ctx.zones = zs ∧
    (resolveRecursive cfg (startCtx zs d now) q).1.ctx.stack = [] ∧
    (∀ C ∈ rest,
      tuplesAt (resolveRecursive cfg (startCtx zs d now) q).1.ctx.cache C.apex RT_NS ≠ [] ∧
      tuplesAt (resolveRecursive cfg (startCtx zs d now) q).1.ctx.cache C.host RT_A ≠ [] ∧
      (∀ t ∈ tuplesAt (resolveRecursive cfg (startCtx zs d now) q).1.ctx.cache C.apex RT_NS,
        t.1 = ⟨RT_NS, [.name C.host]⟩ ∧ now + NANOS ≤ t.2) ∧
      (∀ t ∈ tuplesAt (resolveRecursive cfg (startCtx zs d now) q).1.ctx.cache C.host RT_A,
        t.1 = ⟨RT_A, [.a C.addr]⟩ ∧ now + NANOS ≤ t.2)) ∧
    ((res.rrs.map (·.fields)).Nodup → (∀ rr ∈ res.rrs, 0 < rr.ttl) →
      tuplesAt (resolveRecursive cfg (startCtx zs d now) q).1.ctx.cache q.name q.qtype =
        res.rrs.map (fun rr => (⟨rr.rtype, rr.fields⟩, now + rr.ttl * NANOS))) := by
  obtain ⟨st1, h1, h4, h3, hcache, hts⟩ := resolveRecursive_coldPath_cache h hq hk hnotNS hp hty hs d now hexp (Nat.le_refl 1) h.glueTtl
    (fun _ _ _ _ _ _ hpos => hpos) [(q.name, q.qtype)] (fun _ => List.mem_singleton.mpr rfl)
  rw [h1]
  rw [Nat.one_mul] at hcache
  have hmem := (path_mem_universe hp).2
  refine ⟨h4, h3, fun C hC => ⟨hcache.ns_ne_nil C hC, hcache.addr_ne_nil C hC, ?_, ?_⟩, hts⟩
  · refine uni2_Sound.ns_of_mem hcache.sound hmem h.apexes C (hmem C hC) ?_
    rw [List.mem_singleton, Prod.mk.injEq]
    exact fun h1 => hnotNS h1.2.symm
  · refine uni2_Sound.addr_of_mem hcache.sound h.hosts hmem C (hmem C hC) ?_
    rw [List.mem_singleton, Prod.mk.injEq]
    exact fun h1 => hs.notHost (Or.inl h1.2.symm) C hC h1.1.symm

/-- C07 (1a, REPEATED QUESTION).  After a first resolution of `q` at time `now` (hypotheses of
    `C07_universe_result`; `q` not an NS question) that ended with the records `rrs` of the zone `Z`
    (pairwise different data), the same question asked again at a time `now' ≥ now` at which each record
    still has a full second of its TTL left is answered FROM THE CACHE: no exchange at all (empty
    log, no time spent), and the answer is the first answer up to TTL — the same records in the same
    order, class IN, each with its remaining TTL `⌊(now + ttl·10⁹ − now') / 10⁹⌋` (`cachedRR`). -/
theorem C07_universe_cached_repeat {U : Universe} {cfg : RecCfg} (h : UniOK U cfg) {q : Question} (hq : QuestionOK q)
    (hk : rtypeIsUnknown q.qtype = false) (hnotNS : q.qtype ≠ RT_NS)
    {R Z : UEntry} {rest : List UEntry} (hp : DelegPath U q R rest Z) (hty : Z.zone.records.Typed)
    {zs : Zones} (hs : UniStart zs q R rest) (d now now' : Nat) (rrs : List RR)
    (hexp : expectedAt Z q = some (.nonAuthoritative rrs none))
    (hnd : (rrs.map (·.fields)).Nodup) (hmono : now ≤ now')
    (hleft : ∀ rr ∈ rrs, now' + NANOS ≤ now + rr.ttl * NANOS) :
    (resolveRecursive cfg (startCtx zs d now) q).2 = .ok (.nonAuthoritative rrs none) ∧
    (resolveRecursive cfg (laterCtx (resolveRecursive cfg (startCtx zs d now) q).1 now') q).2 =
      .ok (.nonAuthoritative (rrs.map (cachedRR now now')) none) ∧
    (resolveRecursive cfg (laterCtx (resolveRecursive cfg (startCtx zs d now) q).1 now') q).1.run.log = [] ∧
    (resolveRecursive cfg (laterCtx (resolveRecursive cfg (startCtx zs d now) q).1 now') q).1.run.elapsedMs = 0 := by
  obtain ⟨st1, h1, h4, _, _, hts⟩ := resolveRecursive_coldPath_cache h hq hk hnotNS hp hty hs d now hexp (Nat.le_refl 1) h.glueTtl
    (fun _ _ _ _ _ _ hpos => hpos) [(q.name, q.qtype)] (fun _ => List.mem_singleton.mpr rfl)
  rw [h1]
  have hrrs := expectedAt_rrs hexp (uni_zoneSaysWF_of_typed hty q hq.qtype hk)
  -- a record with TTL 0 would have to be alive a second after `now' ≥ now`
  have hpos : ∀ rr ∈ rrs, 0 < rr.ttl := fun rr hr => one_le_of_alive (Nat.add_le_add_right hmono _) (hleft rr hr)
  obtain ⟨r1, r2, _⟩ := resolveRecursive_cached cfg q hq.qtype (laterCtx st1 now') rfl
    (by show localMiss st1.ctx.zones q.name q.qtype = true; rw [h4]; exact hs.qmiss) now rrs
    (expectedAt_ne_nil hexp) (hts hnd hpos) (fun rr hr => ⟨(hrrs rr hr).1, hleft rr hr⟩)
  exact ⟨rfl, r1, by rw [r2]; rfl, by rw [r2]; rfl⟩

/-- … in particular at the same instant (`now' = now`), for class-IN records with TTLs that fit 32
    bits: the second answer IS the first answer. -/
theorem C07_universe_cached_repeat_same {U : Universe} {cfg : RecCfg} (h : UniOK U cfg) {q : Question}
    (hq : QuestionOK q) (hk : rtypeIsUnknown q.qtype = false) (hnotNS : q.qtype ≠ RT_NS)
    {R Z : UEntry} {rest : List UEntry} (hp : DelegPath U q R rest Z) (hty : Z.zone.records.Typed)
    {zs : Zones} (hs : UniStart zs q R rest) (d now : Nat) (rrs : List RR)
    (hexp : expectedAt Z q = some (.nonAuthoritative rrs none))
    (hnd : (rrs.map (·.fields)).Nodup)
    (hrr : ∀ rr ∈ rrs, 0 < rr.ttl ∧ rr.ttl ≤ U32_MAX ∧ rr.rclass = 1) :
    (resolveRecursive cfg (laterCtx (resolveRecursive cfg (startCtx zs d now) q).1 now) q).2 =
      (resolveRecursive cfg (startCtx zs d now) q).2 ∧
    (resolveRecursive cfg (laterCtx (resolveRecursive cfg (startCtx zs d now) q).1 now) q).1.run.log = [] := by
  obtain ⟨h1, h2, h3, _⟩ := C07_universe_cached_repeat h hq hk hnotNS hp hty hs d now now rrs hexp hnd
    (Nat.le_refl _) (fun rr hr => Nat.add_le_add_left (Nat.le_mul_of_pos_left _ (hrr rr hr).1) _)
  refine ⟨?_, h3⟩
  rw [h1, h2]
  have : rrs.map (cachedRR now now) = rrs := by
    rw [List.map_congr_left (g := id)]
    · simp
    · exact fun rr hr => cachedRR_self now (hrr rr hr).2.1 (hrr rr hr).2.2
  rw [this]

/-- C07 (SECOND QUESTION, general form).  After a first resolution of `q` at time `now` (hypotheses
    of `C07_universe_result`; `q` not an NS question), whose answer records (if any) are cached
    under keys of `K`, a question `q2` asked at time `now' ≥ now` that the zone `Z` at the end of the
    first path answers, `q2` not being one of the keys `K`, no deeper cached delegation enclosing
    its name (`UniSibling`), while the NS records and glue cached on the way still have a full second
    left (`UniFresh`): exactly ONE exchange, directly with `Z`'s server, in `Z`'s delay; the result
    is what `Z` holds for `q2`. -/
theorem C07_universe_second_question {U : Universe} {cfg : RecCfg} (h : UniOK U cfg) {q : Question}
    (hq : QuestionOK q) (hk : rtypeIsUnknown q.qtype = false) (hnotNS : q.qtype ≠ RT_NS)
    {R Z : UEntry} {rest : List UEntry} (hp : DelegPath U q R rest Z) (hty : Z.zone.records.Typed)
    {zs : Zones} (hs : UniStart zs q R rest) (d now now' m : Nat) (res : ResolvedRecord)
    (hexp : expectedAt Z q = some res) (hf : UniFresh U q R rest m now now')
    (K : List (Name × Nat)) (hK1 : res.rrs ≠ [] → (q.name, q.qtype) ∈ K) (hK2 : (Z.apex, RT_NS) ∉ K)
    (hK3 : (Z.host, RT_A) ∉ K)
    {q2 : Question} (hs2 : UniSibling zs K R rest Z q2) (res2 : ResolvedRecord)
    (hexp2 : expectedAt Z q2 = some res2) :
    (resolveRecursive cfg (startCtx zs d now) q).2 = .ok res ∧
    (resolveRecursive cfg (laterCtx (resolveRecursive cfg (startCtx zs d now) q).1 now') q2).2 = .ok res2 ∧
    (resolveRecursive cfg (laterCtx (resolveRecursive cfg (startCtx zs d now) q).1 now') q2).1.run.log =
      [Z.exchange cfg.port q2] ∧
    (resolveRecursive cfg (laterCtx (resolveRecursive cfg (startCtx zs d now) q).1 now') q2).1.run.elapsedMs =
      Z.delayMs := by
  have hmem := path_mem_universe hp
  have hZ := path_end_mem_universe hp
  have hm : 1 ≤ m := one_le_of_alive (Nat.add_le_add_right hf.mono _) hf.left
  obtain ⟨st1, h1, h4, _, hcache, _⟩ := resolveRecursive_coldPath_cache h hq hk hnotNS hp hty hs d now hexp hm hf.glue
    (fun Y hY _ hres rr hr _ => nsTtlOK_ttl (hf.ns Y hY) hres rr hr) K hK1
  rw [h1]
  obtain ⟨st2, g1, hd⟩ := (RecRuns.enter (cfg := cfg) (m := m) (UniNet.ofOK h)
    (EnterOK.ofSibling h.apexes hs2 hZ (uni_resolve_sub (expectedAt_isSome hexp2)) hs.root hs.hints hs.hostsMiss hK2 hK3)
    (WalkRuns.last hs2.ok.qtype hexp2 (uni_zoneSaysWF_of_typed hty q2 hs2.ok.qtype hs2.known))).recursive (by decide)
    (by simpa [planDelay, totalDelay] using Nat.lt_trans (h.delay Z hZ) (by decide))
    (UniAt.later h4 hcache hmem.2 hmem.2 hf.left (Nat.add_le_add_right hf.mono _))
  rw [g1]
  refine ⟨rfl, rfl, ?_, ?_⟩
  · rw [hd.run]; simp [planLog]
  · rw [hd.run]; simp [planDelay, totalDelay]

/-- C07 (1b, SIBLING QUESTION).  The instance of the general form for the keys of the first answer: another
    question that the same zone `Z` answers (a different name, or a different type of the same name) costs
    exactly ONE exchange, directly with `Z`'s server — the cached NS set and glue of `Z` are the best
    candidates — in `Z`'s delay; the result is what `Z` holds. -/
theorem C07_universe_cached_sibling {U : Universe} {cfg : RecCfg} (h : UniOK U cfg) {q : Question}
    (hq : QuestionOK q) (hk : rtypeIsUnknown q.qtype = false) (hnotNS : q.qtype ≠ RT_NS)
    {R Z : UEntry} {rest : List UEntry} (hp : DelegPath U q R rest Z) (hty : Z.zone.records.Typed)
    {zs : Zones} (hs : UniStart zs q R rest) (d now now' m : Nat) (res : ResolvedRecord)
    (hexp : expectedAt Z q = some res) (hf : UniFresh U q R rest m now now')
    {q2 : Question} (hs2 : UniSibling zs [(q.name, q.qtype)] R rest Z q2) (res2 : ResolvedRecord)
    (hexp2 : expectedAt Z q2 = some res2) :
    (resolveRecursive cfg (startCtx zs d now) q).2 = .ok res ∧
    (resolveRecursive cfg (laterCtx (resolveRecursive cfg (startCtx zs d now) q).1 now') q2).2 = .ok res2 ∧
    (resolveRecursive cfg (laterCtx (resolveRecursive cfg (startCtx zs d now) q).1 now') q2).1.run.log =
      [Z.exchange cfg.port q2] ∧
    (resolveRecursive cfg (laterCtx (resolveRecursive cfg (startCtx zs d now) q).1 now') q2).1.run.elapsedMs =
      Z.delayMs := by
  refine C07_universe_second_question h hq hk hnotNS hp hty hs d now now' m res hexp hf [(q.name, q.qtype)]
    (fun _ => by simp) ?_ ?_ hs2 res2 hexp2
  · simp only [List.mem_singleton, Prod.mk.injEq, not_and]
    exact fun _ he => hnotNS he.symm
  · simp only [List.mem_singleton, Prod.mk.injEq, not_and]
    intro he ht
    rcases hs2.start with ⟨h1, _⟩ | h1
    · exact hs.notHost (Or.inl ht.symm) Z h1 he.symm
    · exact miss_ne_hints_key hs.hints hs.qmiss ⟨by rw [← he, h1], ht.symm⟩

/-- WHAT HOLDS INSTEAD of (1a) for NODATA / NXDOMAIN: negative answers are NOT cached (neither the
    model nor the Rust code — `resolve_with_nameserver_response` inserts the answer records only,
    the SOA of the authority section is returned but not stored).  A repeated question whose first
    answer was empty is asked again: exactly one exchange, with `Z`'s server (whose NS set and glue
    are cached), and the same empty answer with `Z`'s SOA comes back. -/
theorem C07_universe_negative_not_cached {U : Universe} {cfg : RecCfg} (h : UniOK U cfg) {q : Question}
    (hq : QuestionOK q) (hk : rtypeIsUnknown q.qtype = false)
    {R Z : UEntry} {rest : List UEntry} (hp : DelegPath U q R rest Z) (hty : Z.zone.records.Typed)
    {zs : Zones} (hs : UniStart zs q R rest) (d now now' m : Nat) (soa : RR)
    (hexp : expectedAt Z q = some (.nonAuthoritative [] (some soa))) (hf : UniFresh U q R rest m now now')
    (hs2 : UniSibling zs [] R rest Z q) :
    (resolveRecursive cfg (startCtx zs d now) q).2 = .ok (.nonAuthoritative [] (some soa)) ∧
    (resolveRecursive cfg (laterCtx (resolveRecursive cfg (startCtx zs d now) q).1 now') q).2 =
      .ok (.nonAuthoritative [] (some soa)) ∧
    (resolveRecursive cfg (laterCtx (resolveRecursive cfg (startCtx zs d now) q).1 now') q).1.run.log =
      [Z.exchange cfg.port q] :=
  have key := C07_universe_second_question h hq hk hs2.notNS hp hty hs d now now' m _ hexp hf []
    (fun hne => absurd rfl hne) (fun hk => nomatch hk) (fun hk => nomatch hk) hs2 _ hexp
  ⟨key.1, key.2.1, key.2.2.1⟩

/-! ### Non-vacuity: the example universe `UniEx`, `w.x.e. A` asked first -/

open UniEx in
/-- (1a) `w.x.e. A` asked again within 299 s: by the theorem, both records from the cache with their
    remaining TTLs, no exchange. -/
example (d now now' : Nat) (h1 : now ≤ now') (h2 : now' + NANOS ≤ now + 300 * NANOS) :
    (resolveRecursive UniEx.cfg (laterCtx (resolveRecursive UniEx.cfg (startCtx UniEx.zones d now) qA).1 now') qA).2 =
      .ok (.nonAuthoritative [cachedRR now now' rrW1, cachedRR now now' rrW2] none) ∧
    (resolveRecursive UniEx.cfg (laterCtx (resolveRecursive UniEx.cfg (startCtx UniEx.zones d now) qA).1 now') qA).1.run.log
      = [] := by
  obtain ⟨_, r2, r3, _⟩ := C07_universe_cached_repeat uni_ex_ok (uni_ex_question qA (Or.inl rfl)).1
    (uni_ex_question qA (Or.inl rfl)).2 (by decide) (uni_ex_path qA (Or.inl rfl) (Or.inl rfl)) uni_ex_xe_typed
    (uni_ex_start qA (Or.inl rfl)) d now now' [rrW1, rrW2] uni2_ex_expected_A (by decide) h1
    (by
      intro rr hr
      simp only [List.mem_cons, List.not_mem_nil, or_false] at hr
      rcases hr with rfl | rfl <;> exact h2)
  exact ⟨r2, r3⟩

open UniEx in
/-- … as evaluating the model confirms (first question at t = 0, second at t = 5 s: TTL 295). -/
example :
    (resolveRecursive UniEx.cfg (laterCtx (resolveRecursive UniEx.cfg (startCtx UniEx.zones 512 0) qA).1 5000000000) qA).2 =
      .ok (.nonAuthoritative [⟨nWXE, 1, [.a 84281096], 1, 295⟩, ⟨nWXE, 1, [.a 84281097], 1, 295⟩] none) ∧
    (resolveRecursive UniEx.cfg (laterCtx (resolveRecursive UniEx.cfg (startCtx UniEx.zones 512 0) qA).1 5000000000) qA).1.run.log
      = [] ∧
    cachedRR 0 5000000000 rrW1 = ⟨nWXE, 1, [.a 84281096], 1, 295⟩ := by
  decide +kernel

open UniEx in
/-- (1b) after `w.x.e. A`, the question `w.x.e. AAAA` within the hour: one exchange, with the server
    of `x.e.` (3.3.3.3) — NODATA with the SOA of `x.e.`; likewise `y.x.e. A` (NXDOMAIN). -/
example (d now now' : Nat) (h1 : now ≤ now') (h2 : now' + NANOS ≤ now + 3600 * NANOS) (q2 : Question)
    (hq2 : q2 = qAAAA ∨ q2 = qNx) :
    (resolveRecursive UniEx.cfg (laterCtx (resolveRecursive UniEx.cfg (startCtx UniEx.zones d now) qA).1 now') q2).2 =
      .ok (.nonAuthoritative [] (some soaRRXE)) ∧
    (resolveRecursive UniEx.cfg (laterCtx (resolveRecursive UniEx.cfg (startCtx UniEx.zones d now) qA).1 now') q2).1.run.log
      = [eXE.exchange 53 q2] := by
  obtain ⟨_, r2, r3, _⟩ := C07_universe_cached_sibling uni_ex_ok (uni_ex_question qA (Or.inl rfl)).1
    (uni_ex_question qA (Or.inl rfl)).2 (by decide) (uni_ex_path qA (Or.inl rfl) (Or.inl rfl)) uni_ex_xe_typed
    (uni_ex_start qA (Or.inl rfl)) d now now' 3600 _ uni2_ex_expected_A (uni2_ex_fresh qA (Or.inl rfl) now now' h1 h2)
    (uni2_ex_sibling q2 hq2) (.nonAuthoritative [] (some soaRRXE))
    (by rcases hq2 with rfl | rfl; exact uni2_ex_expected_AAAA; exact uni2_ex_expected_nx)
  exact ⟨r2, r3⟩

open UniEx in
/-- … as evaluating the model confirms (second question 100 s later). -/
example :
    (resolveRecursive UniEx.cfg (laterCtx (resolveRecursive UniEx.cfg (startCtx UniEx.zones 512 0) qA).1 100000000000) qAAAA).2 =
      .ok (.nonAuthoritative [] (some soaRRXE)) ∧
    (resolveRecursive UniEx.cfg (laterCtx (resolveRecursive UniEx.cfg (startCtx UniEx.zones 512 0) qA).1 100000000000) qAAAA).1.run.log
      = [eXE.exchange 53 qAAAA] ∧
    (resolveRecursive UniEx.cfg (laterCtx (resolveRecursive UniEx.cfg (startCtx UniEx.zones 512 0) qA).1 100000000000) qNx).1.run.log
      = [eXE.exchange 53 qNx] := by
  decide +kernel

open UniEx in
/-- negative answers are not cached: `y.x.e. A` (NXDOMAIN) asked again costs one more exchange — by
    the theorem and by evaluating the model. -/
example (d now now' : Nat) (h1 : now ≤ now') (h2 : now' + NANOS ≤ now + 3600 * NANOS) :
    (resolveRecursive UniEx.cfg (laterCtx (resolveRecursive UniEx.cfg (startCtx UniEx.zones d now) qNx).1 now') qNx).2 =
      .ok (.nonAuthoritative [] (some soaRRXE)) ∧
    (resolveRecursive UniEx.cfg (laterCtx (resolveRecursive UniEx.cfg (startCtx UniEx.zones d now) qNx).1 now') qNx).1.run.log
      = [eXE.exchange 53 qNx] := by
  have hq := uni_ex_question qNx (by simp)
  obtain ⟨_, r2, r3⟩ := C07_universe_negative_not_cached uni_ex_ok hq.1 hq.2
    (uni_ex_path qNx (Or.inr (Or.inl rfl)) (Or.inl rfl)) uni_ex_xe_typed
    (uni_ex_start qNx (Or.inr (Or.inr rfl))) d now now' 3600 soaRRXE uni2_ex_expected_nx
    (uni2_ex_fresh qNx (Or.inr (Or.inr rfl)) now now' h1 h2)
    ((uni2_ex_sibling qNx (Or.inr rfl)).subset (fun _ hk => nomatch hk))
  exact ⟨r2, r3⟩

open UniEx in
example :
    (resolveRecursive UniEx.cfg (laterCtx (resolveRecursive UniEx.cfg (startCtx UniEx.zones 512 0) qNx).1 1000000000) qNx).1.run.log
      = [eXE.exchange 53 qNx] := by
  decide +kernel

/-! ### A hypothesis of (1a) that cannot be dropped: every record of the answer is still alive

    The cache (model and Rust: `Cache::get` = `get_without_checking_expiration` + `retain(ttl > 0)`)
    keeps one expiry PER RECORD.  If the zone serves an RRset whose records have different TTLs (or
    some with TTL 0, which `SharedCache::insert` never stores), then once the shortest TTL has run
    out a repeated question is answered from the cache with the records that are left — a PARTIAL
    RRset, without any exchange — instead of being asked again.  (RFC 2181 §5.2 deprecates differing
    TTLs inside an RRset and asks resolvers to treat the RRset as a unit; the authoritative side of
    this code base serves such zones as they are.) -/

open UniEx in
/-- `UniEx.uniP`: `w.x.e. A 5.6.7.8` (TTL 300) and `w.x.e. A 5.6.7.9` (TTL 100).  First question at
    t = 0: both records.  The same question at t = 150 s: no exchange, and ONLY the first record. -/
theorem C07_cached_partial_rrset_counterexample :
    Faithful uniP cfgP ∧
    (resolveRecursive cfgP (startCtx UniEx.zones 512 0) qA).2 =
      .ok (.nonAuthoritative [⟨nWXE, 1, [.a 84281096], 1, 300⟩, ⟨nWXE, 1, [.a 84281097], 1, 100⟩] none) ∧
    (resolveRecursive cfgP (laterCtx (resolveRecursive cfgP (startCtx UniEx.zones 512 0) qA).1 150000000000) qA).2 =
      .ok (.nonAuthoritative [⟨nWXE, 1, [.a 84281096], 1, 150⟩] none) ∧
    (resolveRecursive cfgP (laterCtx (resolveRecursive cfgP (startCtx UniEx.zones 512 0) qA).1 150000000000) qA).1.run.log
      = [] :=
  ⟨uniCfg_faithful uniP 53 (by decide), by decide +kernel⟩

/-! ## (2), (3) Referrals without glue

    `authReply` (the oracle of `C07_universe_result`) serves glue for every host of the universe a
    referral names.  Here the oracle is `authReplyG gp`: the additional section of a referral is
    chosen by a glue policy `gp` that serves at most that glue (`UniOKG`; `uniGlue U` is the policy
    of `authReply`, `uniGlueB U` serves glue only for name servers inside the delegated zone).  A
    referral to `C` whose glue is empty is GLUELESS: the candidate loop finds no address for `C`'s
    host locally (`locally = true` pass: set aside), comes back with `locally = false`, resolves
    `C.host A` RECURSIVELY — a nested resolution on a longer question stack, starting from the
    deepest cached delegation enclosing the host name — caches the answer, and contacts `C` at the
    address found.  `UniWalk` describes such resolutions: `last` (the server answers), `glued`
    (referral with glue), `glueless` (referral without glue: a nested walk for the host's address,
    itself possibly through glueless referrals, then on). -/

/-- C07 (3, GLUELESS REFERRALS, general form).  For every walk from the root server `R` — any number
    of referrals on the way being glueless, each with its nested walk for the name server's
    address, nested to any depth the recursion limit (`HostUnknown.depth`) allows — from the start
    context (root hints, empty cache), all TTLs being at least `m ≥ 1` s: `resolveRecursive` returns
    the walk's result (what the last zone holds for the question) after exactly the walk's
    exchanges, in order — the root, then for each referral with glue the next server, for each
    glueless referral first the exchanges of the nested resolution of the host's address (question
    `uniHostQ host`), then the server itself — in the sum of the servers' delays.  (`hnotNS` is not used.) -/
theorem C07_universe_glueless {gp : List RR → List RR} {U : Universe} {cfg : RecCfg} (h : UniOKG gp U cfg)
    {zs : Zones} {m : Nat} (hm : 1 ≤ m ∧ ∀ E ∈ U, m ≤ E.glueTtl) {q : Question} (hq : QuestionOK q)
    (hnotNS : q.qtype ≠ RT_NS) {R : UEntry} (hR : R ∈ U) (hroot : R.apex = Name.root)
    (hints : RootHints zs R.host R.addr) (hqmiss : localMiss zs q.name q.qtype = true)
    (hcand : candMiss zs q.name.labels = true) {ex : List (UEntry × Question)} {f : Nat} {V' G' : List UEntry}
    {res : ResolvedRecord} (hw : UniWalk gp U zs [] m [q] q [] [] R ex f V' G' res)
    (htime : R.delayMs + planDelay ex < RESOLVE_TIMEOUT_MS) (hfuel : f + 3 ≤ REC_FUEL) (d now : Nat) :
    (resolveRecursive cfg (startCtx zs d now) q).2 = .ok res ∧
    (resolveRecursive cfg (startCtx zs d now) q).1.run.log = R.exchange cfg.port q :: planLog cfg.port ex ∧
    (resolveRecursive cfg (startCtx zs d now) q).1.run.elapsedMs = R.delayMs + planDelay ex ∧
    (resolveRecursive cfg (startCtx zs d now) q).1.run.timedOut = false ∧
    (resolveRecursive cfg (startCtx zs d now) q).1.ctx.stack = [] := by
  obtain ⟨st', h1, hd⟩ := (RecRuns.enter (UniNet.ofOKG h) (EnterOK.cold hq hR (UniWalk.sub hw) hroot hints hqmiss hcand)
    (WalkRuns.walk (cfg := cfg) h hm.2 (S := [] ++ [q]) hw hq)).recursive hfuel
    (by rw [planDelay_cons]; exact htime) (UniAt.start U zs d now hm.1)
  rw [h1]
  simp [hd.run, hd.stack, planLog_cons, planDelay_cons]

/-- C07 (2, ONE GLUELESS REFERRAL).  The referrals for `q` lead from the root server `R` through the
    servers `rest` (with glue) to a parent `P` that refers to the zone of `Z2` WITHOUT glue: `Z2`'s
    single name server host lies in another zone of the universe.  The address of that host
    (question `uniHostQ Z2.host`) is found along the glued path `Y2 :: rest2` ending at `Z1`, whose
    zone holds it; `Y2` is the deepest server of the first path whose zone encloses the host name,
    or the root (`UniStartGlueless`).  `resolveRecursive` returns what `Z2` holds for `q`, and the
    log is: root … parent (question `q`; the last reply is the referral without glue), then the
    exchanges of the nested resolution of the host's address (`Y2` … `Z1`), then `Z2`'s server. -/
theorem C07_universe_glueless_one {gp : List RR → List RR} {U : Universe} {cfg : RecCfg} (h : UniOKG gp U cfg)
    {zs : Zones} {m : Nat} {q : Question} (hq : QuestionOK q) (hk : rtypeIsUnknown q.qtype = false)
    {R P Z2 Y2 Z1 : UEntry} {rest rest2 : List UEntry} {ttl2 : Nat}
    (hp : DelegPath U q R rest P) (hZ2 : Z2 ∈ U)
    (hres2 : P.zone.resolve q.name q.qtype = some (.delegation [Z2.nsRR ttl2])) (httl2 : 0 < ttl2)
    (hdepth2 : P.apex.labels.length < Z2.apex.labels.length)
    (hp2 : DelegPath U (uniHostQ Z2.host) Y2 rest2 Z1)
    (hty1 : Z1.zone.records.Typed) (hty2 : Z2.zone.records.Typed)
    (hs : UniStartGlueless gp U zs m q R rest Z2 ttl2 Y2 rest2)
    {rrsH : List RR} (hexpH : expectedAt Z1 (uniHostQ Z2.host) = some (.nonAuthoritative rrsH none))
    (haddr : ∀ rr ∈ rrsH, rr.fields = [.a Z2.addr] ∧ m ≤ rr.ttl)
    {res : ResolvedRecord} (hexp : expectedAt Z2 q = some res) (d now : Nat) :
    (resolveRecursive cfg (startCtx zs d now) q).2 = .ok res ∧
    (resolveRecursive cfg (startCtx zs d now) q).1.run.log =
      (R :: rest).map (·.exchange cfg.port q) ++ (Y2 :: rest2).map (·.exchange cfg.port (uniHostQ Z2.host)) ++
        [Z2.exchange cfg.port q] ∧
    (resolveRecursive cfg (startCtx zs d now) q).1.run.elapsedMs =
      totalDelay (R :: rest) + totalDelay (Y2 :: rest2) + Z2.delayMs ∧
    (resolveRecursive cfg (startCtx zs d now) q).1.ctx.stack = [] := by
  obtain ⟨V', G', hw⟩ := UniWalk.gluelessOne (gp := gp) (m := m) hq hk hp hZ2 hres2 httl2 hdepth2 hp2 hty1 hty2 hs
    hexpH haddr hexp
  have hdelay : R.delayMs + planDelay (legExchanges q rest ++
      ((Y2, uniHostQ Z2.host) :: legExchanges (uniHostQ Z2.host) rest2 ++ [(Z2, q)])) =
      totalDelay (R :: rest) + totalDelay (Y2 :: rest2) + Z2.delayMs := by
    simp [planDelay, totalDelay, legExchanges, Function.comp_def, Nat.add_assoc]
  have hfuel := hs.fuel
  obtain ⟨h1, h2, h3, _, h5⟩ := C07_universe_glueless (cfg := cfg) h hs.ttl hq hs.notNS (path_mem_universe hp).1 hs.root hs.hints
    hs.qmiss hs.cand hw (by rw [hdelay]; exact hs.time) (by omega) d now
  refine ⟨h1, ?_, by rw [h3, hdelay], h5⟩
  rw [h2]
  simp [planLog, legExchanges, Function.comp_def]

/-! ### Non-vacuity: `UniEx.uniG`

    `z.e.` is delegated from `e.` to `k.y.e.` (6.6.6.6), a host in the zone `y.e.`: the referral from
    `e.` carries no glue (in-bailiwick policy).  `w.z.e. A`: root → `e.` (glueless referral to
    `z.e.`), then `k.y.e. A`: `e.` (its NS set and glue are cached: the root is not asked again) →
    `y.e.` (answer 6.6.6.6), then `z.e.` at 6.6.6.6: five exchanges, 110 ms. -/

open UniEx in
/-- the referral is indeed glueless, the other two carry glue. -/
example : authReplyG (uniGlueB uniG) eEG qZ false =
      some { header := replyHeader false false RCODE_NOERROR, questions := [qZ], answers := [],
             authority := [eZE.nsRR 3600], additional := [] } ∧
    uniGlueB uniG [eEG.nsRR 3600] = [eEG.glueRR] ∧ uniGlueB uniG [eYEG.nsRR 3600] = [eYEG.glueRR] := by
  decide +kernel

open UniEx in
/-- by the theorem (all its hypotheses hold: `uni2_ex_startGlueless`, …), for every cache size and
    clock reading … -/
example (d now : Nat) :
    (resolveRecursive cfgG (startCtx UniEx.zones d now) qZ).2 = .ok (.nonAuthoritative [rrWZ] none) ∧
    (resolveRecursive cfgG (startCtx UniEx.zones d now) qZ).1.run.log =
      [eRoot.exchange 53 qZ, eEG.exchange 53 qZ, eEG.exchange 53 (uniHostQ nKYE), eYEG.exchange 53 (uniHostQ nKYE),
       eZE.exchange 53 qZ] ∧
    (resolveRecursive cfgG (startCtx UniEx.zones d now) qZ).1.run.elapsedMs = 110 := by
  obtain ⟨h1, h2, h3, _⟩ := C07_universe_glueless_one uni2_ex_ok (q := qZ) ⟨by decide, by decide +kernel⟩ (by decide)
    uni2_ex_path (by simp [uniG]) uni2_ex_e_refers_z (by decide) (by decide) uni2_ex_path_k
    (uni2_ex_typed eYEG (by simp [uniG])) (uni2_ex_typed eZE (by simp [uniG])) uni2_ex_startGlueless
    uni2_ex_expected_K (by decide +kernel)
    uni2_ex_expected_WZ d now
  exact ⟨h1, h2, h3⟩

open UniEx in
/-- … and by evaluating the model. -/
example :
    (resolveRecursive cfgG (startCtx UniEx.zones 512 0) qZ).2 = .ok (.nonAuthoritative [rrWZ] none) ∧
    (resolveRecursive cfgG (startCtx UniEx.zones 512 0) qZ).1.run.log =
      [eRoot.exchange 53 qZ, eEG.exchange 53 qZ, eEG.exchange 53 (uniHostQ nKYE), eYEG.exchange 53 (uniHostQ nKYE),
       eZE.exchange 53 qZ] ∧
    (resolveRecursive cfgG (startCtx UniEx.zones 512 0) qZ).1.run.elapsedMs = 110 := by
  decide +kernel

/-! ### Non-vacuity of the general form: `UniEx.uniG2`, a glueless zone served from another glueless zone

    `v.e.` is delegated (no glue) to `j.z.e.`, a host in `z.e.`, which is itself delegated (no glue) to
    `k.y.e.` in `y.e.`.  `w.v.e. A`: root, `e.` (glueless referral) — nested `j.z.e. A`: `e.` (glueless
    referral) — nested in that `k.y.e. A`: `e.`, `y.e.` — `z.e.` — `v.e.`: seven exchanges, three
    questions on the stack at the deepest point. -/

open UniEx in
/-- by the theorem (a walk exists: `uni2_ex2_walk`) … -/
example (d now : Nat) :
    (resolveRecursive cfgG2 (startCtx UniEx.zones d now) qV).2 = .ok (.nonAuthoritative [rrWV] none) ∧
    (resolveRecursive cfgG2 (startCtx UniEx.zones d now) qV).1.run.log =
      [eRoot.exchange 53 qV, eEG2.exchange 53 qV, eEG2.exchange 53 (uniHostQ nJZE), eEG2.exchange 53 (uniHostQ nKYE),
       eYEG.exchange 53 (uniHostQ nKYE), eZE2.exchange 53 (uniHostQ nJZE), eVE.exchange 53 qV] ∧
    (resolveRecursive cfgG2 (startCtx UniEx.zones d now) qV).1.run.elapsedMs = 135 := by
  obtain ⟨V', G', hw⟩ := uni2_ex2_walk
  obtain ⟨h1, h2, h3, _⟩ := C07_universe_glueless uni2_ex2_ok (m := 300)
    ⟨by decide, by decide +kernel⟩
    (q := qV) ⟨by decide, by decide +kernel⟩ (by decide) (by simp [uniG2]) rfl uni_ex_hints (by decide +kernel)
    (by decide +kernel) hw (by decide) (by decide) d now
  exact ⟨h1, h2, h3⟩

open UniEx in
/-- … and by evaluating the model. -/
example :
    (resolveRecursive cfgG2 (startCtx UniEx.zones 512 0) qV).2 = .ok (.nonAuthoritative [rrWV] none) ∧
    (resolveRecursive cfgG2 (startCtx UniEx.zones 512 0) qV).1.run.log =
      [eRoot.exchange 53 qV, eEG2.exchange 53 qV, eEG2.exchange 53 (uniHostQ nJZE), eEG2.exchange 53 (uniHostQ nKYE),
       eYEG.exchange 53 (uniHostQ nKYE), eZE2.exchange 53 (uniHostQ nJZE), eVE.exchange 53 qV] ∧
    (resolveRecursive cfgG2 (startCtx UniEx.zones 512 0) qV).1.run.elapsedMs = 135 := by
  decide +kernel

/-! ## Left open -/

/-- NOT PROVED.  `C07_universe_glueless` asks for a walk; this is the statement that in a consistent
    universe under the in-bailiwick glue policy a walk EXISTS for every question, provided the
    "served from" relation is well founded: there is a rank on the servers such that every server
    whose host is out of bailiwick has its host name answered (an `A` record with its address, TTL
    ≥ `m`) by a zone all of whose servers on the way from the root have a smaller rank — no zone
    needs, directly or indirectly, its own name server's address to be reached — the local zones
    being exactly the root hints, the nesting staying under the recursion limit (`rank < 30`: besides one host question per rank the stack holds
    the question itself and the host question being pushed, and `HostUnknown.depth` asks for less than 32), one
    zone per host name, well-formed names, and the question not being for a server's host name.  (The hypotheses about the walk up from the host
    names — `NestedStart.warm`: the deepest CACHED enclosing delegation is where the nested
    resolution starts — depend on which zones happen to be cached at that moment; deriving them
    from the shape of the universe is what is missing.) -/
def C07_universe_walk_exists_statement : Prop :=
  ∀ (U : Universe) (R : UEntry) (hz : Zone) (ttl m : Nat) (rank : UEntry → Nat) (q : Question),
    Consistent U → R ∈ U → R.apex = Name.root → rootHintsZone R.host R.addr ttl = some hz →
    (∀ E ∈ U, E.zone.records.Typed) → 1 ≤ m → (∀ E ∈ U, m ≤ E.glueTtl ∧ rank E < 30) →
    (∀ E ∈ U, ∀ E' ∈ U, E.host = E'.host → E = E') →
    (∀ E ∈ U, Name.fromLabels E.apex.labels = some E.apex ∧ Name.fromLabels E.host.labels = some E.host ∧
      QuestionOK (uniHostQ E.host)) →
    (∀ E ∈ U, ∀ (name : Name) (t : Nat) (C : UEntry) (ttl' : Nat),
      E.zone.resolve name t = some (.delegation [C.nsRR ttl']) → m ≤ ttl') →
    (∀ C ∈ U, C.host.isSubdomainOf C.apex = false → C.apex ≠ Name.root →
      ∃ Z1 ∈ U, ∃ rrs, expectedAt Z1 (uniHostQ C.host) = some (.nonAuthoritative rrs none) ∧
        (∀ rr ∈ rrs, rr.fields = [.a C.addr] ∧ m ≤ rr.ttl) ∧
        ∀ rest Z, DelegPath U (uniHostQ C.host) R rest Z → Z = Z1 ∧ ∀ D ∈ rest, rank D < rank C) →
    QuestionOK q → q.qtype ≠ RT_NS → Name.fromLabels q.name.labels = some q.name →
    (∀ E ∈ U, q.name ≠ E.host) →
    ∃ ex f V' G' res, UniWalk (uniGlueB U) U (Zones.empty.insert hz) [] m [q] q [] [] R ex f V' G' res

end Resolved
