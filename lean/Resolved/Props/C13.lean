/-
  C13 — Writing a zone to text and reading it back changes nothing: on the model of Model/ZoneText.lean (tied to
  the Rust by the `ztext-roundtrip` stream), for every octet string, name, record line and zone, not for samples.
  Zones: `C13_roundtrip`; zones obtained by parsing: `C13_normalise_idempotent` (`ztoz`, the repository's zone-file
  normaliser, is `deserialise` then `serialise`).  Open finding C13-K1: an ordinary owner whose first label starts with
  `*` is written `*.…` and reads back as a wildcard; the `NoStar` premise marks that gap
  (`C13_K1_parsed_zone_breaks_roundtrip`).
-/
import Resolved.Proofs.ZoneTextTree
import Resolved.Proofs.ZoneTextParsedZone

namespace Resolved

open ZoneText IpText Gen

/-! ## octets -/

/-- **The octets written as `\X` are exactly the generated escape set** (`"` `\` `;` `(` `)`),
    whatever the `quoted` flag; all others are written bare or as `\DDD`. -/
theorem C13_escape_set (quoted : Bool) (b : UInt8) :
    serialiseOctet quoted b = ['\\', octetAsChar b] ↔ zoneEscapeBackslash.contains b.toNat = true := by
  unfold serialiseOctet
  constructor
  · intro h
    split at h
    · assumption
    · split at h <;> simp at h
  · intro h
    rw [if_pos h]

theorem C13_escape_set_is : zoneEscapeBackslash = [34, 92, 59, 40, 41] := rfl

/-- **Quoted**: for EVERY octet string `bs` (the empty one included), `serialise_octets(bs, true)`
    alone is read as the single token whose octets are `bs` (and whose string is `bs` as chars). -/
theorem C13_octets_roundtrip_quoted (bs : List UInt8) :
    tokeniseEntry (serialiseOctets bs true) = .ok ([(bs.map octetAsChar, bs)], []) := by
  simpa using (tokText_octets_quoted bs).one false |>.tokeniseEntry (enderAt_eof (lc := false))

/-- Inside a line, between tokens (any tokens `rtoks` already read, inside parentheses or not): a
    quoted string is read as exactly one more token and the tokeniser is between tokens again,
    whatever follows. -/
theorem C13_octets_in_line_quoted (bs : List UInt8) (rest : List Char) (rtoks : List Token) (lc : Bool) :
    tokLoop 0 (serialiseOctets bs true ++ rest) rtoks [] [] .initial lc
      = tokLoop 0 rest ((bs.map octetAsChar, bs) :: rtoks) [] [] .initial lc :=
  tokLoop_serialiseOctets_quoted bs rest rtoks lc

/-- Inside a line, an unquoted non-empty string followed by a space or a tab is read as exactly one
    more token … -/
theorem C13_octets_in_line_unquoted_space (bs : List UInt8) (hne : bs ≠ []) (c : Char)
    (hc : c = ' ' ∨ c = '\t') (rest : List Char) (rtoks : List Token) (lc : Bool) :
    tokLoop 0 (serialiseOctets bs false ++ c :: rest) rtoks [] [] .initial lc
      = tokLoop 0 rest ((bs.map octetAsChar, bs) :: rtoks) [] [] .initial lc :=
  (tokText_octets_unquoted bs hne).gap (gap_blank (hc.imp_right Or.inl) lc) rest rtoks

/-- … followed by the line feed that ends the line it is the last token of the entry … -/
theorem C13_octets_in_line_unquoted_newline (bs : List UInt8) (hne : bs ≠ []) (rest : List Char)
    (rtoks : List Token) :
    tokLoop 0 (serialiseOctets bs false ++ '\n' :: rest) rtoks [] [] .initial false
      = .ok (((bs.map octetAsChar, bs) :: rtoks).reverse, rest) :=
  (tokText_octets_unquoted bs hne).ender (enderAt_newline rest) rtoks

/-- … and likewise at the end of the input. -/
theorem C13_octets_in_line_unquoted_end (bs : List UInt8) (hne : bs ≠ []) (rtoks : List Token) (lc : Bool) :
    tokLoop 0 (serialiseOctets bs false) rtoks [] [] .initial lc
      = .ok (((bs.map octetAsChar, bs) :: rtoks).reverse, []) := by
  simpa using (tokText_octets_unquoted bs hne).ender (enderAt_eof (lc := lc)) rtoks

/-- **Unquoted**: for EVERY non-empty octet string `bs`, `serialise_octets(bs, false)` alone is read
    as the single token whose octets are `bs` … -/
theorem C13_octets_roundtrip_unquoted (bs : List UInt8) (hne : bs ≠ []) :
    tokeniseEntry (serialiseOctets bs false) = .ok ([(bs.map octetAsChar, bs)], []) :=
  C13_octets_in_line_unquoted_end bs hne [] false

/-- … while the empty string, unquoted, is written as nothing and yields NO token (this is why
    `Zone::serialise` never writes an empty domain string, and writes RDATA octets quoted). -/
theorem C13_octets_unquoted_empty :
    serialiseOctets [] false = [] ∧ tokeniseEntry [] = .ok ([], []) := ⟨rfl, tokeniseEntry_nil⟩

/-! ## names -/

/-- **A name written by `serialise_domain` is read back as the same name**, for every text name and every
    zone whose apex is a text name: the token is `serialise_octets` of the non-empty ASCII string
    `domainStr z name`, and `parse_domain` maps it to `name` under the origin `Zone::serialise` emits
    (`$ORIGIN <apex>` iff the zone is authoritative and its apex is not the root).  Covers the absolute form,
    the apex-relative form, `@` for the apex, and the absolute fallback when the relative form would be `@`. -/
theorem C13_name_roundtrip (z : Zone) (name : Name) (hn : TextName name) (ha : TextName z.apex) :
    serialiseDomain z name = serialiseOctets (domainStr z name) false ∧
    domainStr z name ≠ [] ∧
    tokeniseEntry (serialiseDomain z name)
      = .ok ([((domainStr z name).map octetAsChar, domainStr z name)], []) ∧
    parseDomain (emittedOrigin z) ((domainStr z name).map octetAsChar) = .ok name := by
  obtain ⟨h1, -, h3⟩ := domainStr_roundtrip z name hn ha
  exact ⟨rfl, h1, C13_octets_roundtrip_unquoted _ h1, h3⟩

/-- **Owners**: if moreover the first label of the owner does not start with `*`, the owner field is
    read back as that ordinary (non-wildcard) owner. -/
theorem C13_owner_roundtrip (z : Zone) (name : Name) (hn : TextName name) (ha : TextName z.apex)
    (hs : NoStar name) :
    parseDomainOrWildcard (emittedOrigin z) ((domainStr z name).map octetAsChar) = .ok (.normal name) :=
  owner_roundtrip z name hn ha hs

/-- **Wildcard owners**: `*.` followed by the name is read back as the wildcard beneath it. -/
theorem C13_wildcard_owner_roundtrip (z : Zone) (name : Name) (hn : TextName name) (ha : TextName z.apex) :
    parseDomainOrWildcard (emittedOrigin z) ('*' :: '.' :: (domainStr z name).map octetAsChar)
      = .ok (.wildcard name) :=
  wildcard_owner_roundtrip z name hn ha

instance (n : Name) : Decidable (TextName n) := by
  unfold TextName TextLabel TextOctet; infer_instance

/-- The hypothesis `NoStar` cannot be dropped — **open finding C13-K1**: the ordinary owner `*.e.`
    (obtainable by parsing `$ORIGIN *.e.` + `@`) is written `*.e.`, which reads back as the wildcard
    beneath `e.`. -/
theorem C13_K1_star_owner_reads_back_as_wildcard :
    let name : Name := ⟨[[42], [101], []], 5⟩
    TextName name ∧ domainStr Zone.default name = [42, 46, 101, 46] ∧
    parseDomainOrWildcard none ((domainStr Zone.default name).map octetAsChar)
      = .ok (.wildcard ⟨[[101], []], 3⟩) := by
  exact ⟨by decide, by decide, by rfl⟩

/-- non-vacuity of the hypotheses: `www.e.`. -/
example : TextName ⟨[[119, 119, 119], [101], []], 7⟩ ∧ NoStar ⟨[[119, 119, 119], [101], []], 7⟩ := by
  refine ⟨by decide, ?_⟩
  intro l ls h
  cases h
  decide

/-! ## lines -/

/-- **A record line is read back as that record.**  `zr` = any record whose RDATA fits its type
    (`RdataOK`: A, NS, MD, MF, CNAME, MB, MG, MR, NULL, WKS, PTR, HINFO, MINFO, MX, TXT, AAAA, SRV —
    names are text names, numbers in range, octets arbitrary), TTL a `u32`; `domain` a text name whose
    first label does not start with `*`; the zone's apex a text name.  Then `parse_entry`, under
    the origin the serialiser emitted and with ANY previous owner / TTL, reads the line
    `<owner>[  ] <ttl> IN <type> <rdata>\n` as `Entry::RR` of exactly that record, leaving `rest`. -/
theorem C13_line_roundtrip (z : Zone) (ha : TextName z.apex) (domain : Name) (hd : TextName domain)
    (hs : NoStar domain) (hasWildcards : Bool) (zr : ZoneRecord) (hzr : RdataOK zr.rtype zr.fields)
    (httl : zr.ttl < 4294967296) (pd : Option MaybeWildcard) (pt : Option Nat) (fuel : Nat)
    (rest : List Char) :
    parseEntry (fuel + 1) (emittedOrigin z) pd pt (serialiseRecordLine z domain hasWildcards zr ++ rest)
      = .ok (some (.rr (zr.toRR domain))) rest :=
  (recordLine_roundtrip z ha domain hd hs hasWildcards zr hzr httl pd pt rest).parseEntry fuel

/-- **A wildcard line** `*.<owner> <ttl> IN <type> <rdata>\n` **is read back as that wildcard record**
    (no `NoStar` hypothesis: the `*.` is written by the serialiser itself). -/
theorem C13_wildcard_line_roundtrip (z : Zone) (ha : TextName z.apex) (domain : Name) (hd : TextName domain)
    (zr : ZoneRecord) (hzr : RdataOK zr.rtype zr.fields) (httl : zr.ttl < 4294967296)
    (pd : Option MaybeWildcard) (pt : Option Nat) (fuel : Nat) (rest : List Char) :
    parseEntry (fuel + 1) (emittedOrigin z) pd pt (serialiseWildcardLine z domain zr ++ rest)
      = .ok (some (.wildcardRR (zr.toRR domain))) rest :=
  (wildcardLine_roundtrip z ha domain hd zr hzr httl pd pt rest).parseEntry fuel

/-- the std round trips used by the line theorems (std models: Model/IpText.lean, `Resolved.Ip`). -/
theorem C13_std_roundtrips :
    (∀ n, n < 4294967296 → parseU32 (showDec n) = some n) ∧
    (∀ n, n < 65536 → parseU16 (showDec n) = some n) ∧
    (∀ a, a < 4294967296 → ipv4FromStr (showIpv4 a) = some a) ∧
    (∀ gs : List Nat, gs.length = 8 → (∀ g ∈ gs, g < 65536) → ipv6FromStr (showIpv6 gs) = some gs) ∧
    (∀ p ∈ rtypeNames, rtypeFromStr (showRtype p.1) = some p.1) :=
  ⟨parseU32_showDec, parseU16_showDec, ipv4FromStr_showIpv4, ipv6FromStr_showIpv6, by decide +kernel⟩

/-- non-vacuity of `RdataOK` / `FieldOK` for AAAA: `::1`. -/
example : RdataOK 28 [.aaaa [0, 0, 0, 0, 0, 0, 0, 1]] := .aaaa _ ⟨rfl, by decide⟩

/-! ## zones -/

/-- what the block `Zone::serialise` writes for the owner `d` hands, read back, to the two insertion loops of
    `Zone::deserialise` (`itemsRRs`: ordinary, `itemsWildRRs`: wildcard): the records `all_records` lists under `d`
    that are not SOA-typed, and those `all_wildcard_records` lists under `d`. -/
theorem C13_block_records (z : Zone) (d : Name) :
    itemsRRs (blockItems z d)
      = ((recordsOf z.allRecords d).filter (fun zr => zr.rtype != RT_SOA)).map (fun zr => zr.toRR d) ∧
    itemsWildRRs (blockItems z d) = (recordsOf z.allWildcardRecords d).map (fun zr => zr.toRR d) :=
  block_itemsRRs z d

/-- two zones with the same apex, the same SOA, and the same records under the same owners: `all_records()` lists
    record `zr` under owner `n` in the one exactly when it does in the other (`FlatRec z n zr`), and likewise
    `all_wildcard_records()` (`FlatWild`).  Not compared: the order of the records of an owner (a hash-map order in
    the Rust), how often a record is listed, and the tree `z.records` itself (nodes that hold no record). -/
def SameZone (z' z : Zone) : Prop :=
  z'.apex = z.apex ∧ z'.soa = z.soa ∧
  (∀ n zr, FlatRec z' n zr ↔ FlatRec z n zr) ∧ (∀ n zr, FlatWild z' n zr ↔ FlatWild z n zr)

/-- **C13: writing a zone to text and reading it back changes nothing.**  For every zone `z` built
    through the insertion API (`Zone::new` + `insert` / `insert_wildcard`, hence also every zone
    obtained by parsing, which is built that way) such that
      * `ZoneTextOK z`: apex, owners and RDATA names are text names (ASCII labels without `.`), no
        ordinary owner's first label starts with `*` (the gap is open finding C13-K1), records other
        than the SOA fit their type (`RdataOK`) with `u32` TTLs, a non-authoritative zone has the root as apex, and
      * `OnlyOwnSoa z`: no SOA-typed record besides the zone's own,
    `Zone::deserialise (Zone::serialise z)` is `Ok z'` with `SameZone z' z`: same apex, same SOA, and the same
    records (type, RDATA, TTL) listed under the same owners, ordinary and wildcard. -/
theorem C13_roundtrip (apex : Name) (soa : Option SOA) (ops : List ZoneOp) (z : Zone) (hap : NameOK apex)
    (hb : Zone.build apex soa ops = some z) (hok : ZoneTextOK z) (hsoa : OnlyOwnSoa z) :
    ∃ z', deserialise (serialise z) = .ok z' ∧ SameZone z' z := by
  -- reading `serialise z` back is re-inserting what `z` lists; re-inserting that rebuilds the same records
  obtain ⟨z', h1, h2⟩ := reinsert_same apex soa ops z hap hb hsoa
  exact ⟨z', by rw [deserialise_serialise_eq_reinsert z hok]; exact h1, h2⟩

theorem C13_sameZone_trans {a b c : Zone} (h1 : SameZone a b) (h2 : SameZone b c) : SameZone a c :=
  ⟨h1.1.trans h2.1, h1.2.1.trans h2.2.1, fun n zr => (h1.2.2.1 n zr).trans (h2.2.2.1 n zr),
   fun n zr => (h1.2.2.2 n zr).trans (h2.2.2.2 n zr)⟩

/-! ## zones obtained by parsing: they satisfy the hypotheses of `C13_roundtrip` but for `NoStar` -/

/-- `ZoneTextOK` without its `NoStar` clause: the structure `zp_ZoneTextOK` (Proofs/ZoneTextParsedZone.lean) under the
    name the statements here use; `ZoneTextOK z ↔ ZoneTextOK' z ∧ ∀ p ∈ z.allRecords, NoStar p.1` is `zp_zoneTextOK_iff`. -/
abbrev ZoneTextOK' (z : Zone) : Prop := zp_ZoneTextOK z

/-- **Every name the parser produces is a text name** (labels ASCII, no `.`, lower-case, ≤ 63 octets;
    well-formed): `parse_domain` rejects non-ASCII strings (so a `\DDD` escape ≥ 128 in a name is an
    error), and `from_dotted_string` splits at EVERY dot — an escaped `\.` included
    (`C11_K2_escaped_dot_splits_label`) — so no label of a parsed name holds a `.`.  `o` = the origin
    in force, itself a parsed name. -/
theorem C13_parsed_names_are_text {o : Option Name} (ho : ∀ on, o = some on → TextName on) {s : List Char} :
    (∀ n, parseDomain o s = .ok n → TextName n) ∧
    (∀ n, parseDomainOrWildcard o s = .ok (.normal n) → TextName n) ∧
    (∀ n, parseDomainOrWildcard o s = .ok (.wildcard n) → TextName n) :=
  ⟨fun _ h => zp_parseDomain_text ho h, fun _ h => zp_parseDomainOrWildcard_text ho h,
   fun _ h => zp_parseDomainOrWildcard_text ho h⟩

/-- **Every RDATA the parser builds fits its type**: a type other than SOA with text names,
    in-range numbers, real addresses (`RdataOK`), or a SOA with text names and `u32` numbers. -/
theorem C13_parsed_rdata_ok {o : Option Name} (ho : ∀ on, o = some on → TextName on) {tokens : List Token}
    {rd : RData} (h : tryParseRtypeWithData o tokens = some rd) :
    RdataOK rd.rtype rd.fields ∨ (rd.rtype = 6 ∧ ∃ s : SOA, rd.fields = s.toFields ∧ SoaOK s) :=
  zp_tryParse_ok ho h

/-- **Every entry `parse_entry` returns is well formed**, for every text, fuel, origin / previous owner
    / previous TTL that are themselves well formed: owner a text name, TTL a `u32`, RDATA as above.
    (`zp_OriginOK o`: the origin, if any, is a text name — the hypothesis `ho` spelled out in the two theorems above;
    `zp_PdOK pd`, `zp_PtOK pt`: likewise for the previous owner and TTL; `zp_EntryOK e`: the same of the entry.) -/
theorem C13_parsed_entry_ok (fuel : Nat) {o : Option Name} {pd : Option MaybeWildcard} {pt : Option Nat}
    {s : List Char} {e : Entry} {rest : List Char} (ho : zp_OriginOK o) (hpd : zp_PdOK pd) (hpt : zp_PtOK pt)
    (h : parseEntry fuel o pd pt s = .ok (some e) rest) : zp_EntryOK e :=
  let ⟨_, _, he⟩ := parseEntry_some_inv fuel h
  .of_entryOfTokens ho hpd hpt he

/-- **Every zone obtained by parsing satisfies the hypotheses of `C13_roundtrip`, `NoStar` apart.**
    For every text `t` with `Zone::deserialise t = Ok z`:
      * `z` is built through the insertion API: `Zone::new(apex, soa)` + `insert` / `insert_wildcard`
        calls, `apex` a name `from_labels` accepts;
      * `OnlyOwnSoa z`: a second SOA is `MultipleSOA`, a wildcard SOA `WildcardSOA`, so the only
        SOA-typed record is the zone's own at the apex;
      * `ZoneTextOK' z`: apex, owners and RDATA names are text names; every record that is not the
        SOA fits its type (`RdataOK`); TTLs (raised to the SOA MINIMUM by `actual_ttl`) are
        `u32`; the SOA's names are text names and its numbers `u32`; a zone without SOA has the root
        as apex. -/
theorem C13_parsed_zone_hypotheses {t : List Char} {z : Zone} (h : deserialise t = .ok z) :
    (∃ apex soa ops, NameOK apex ∧ Zone.build apex soa ops = some z) ∧ OnlyOwnSoa z ∧ ZoneTextOK' z := by
  -- the entry loop ended in some state `st`, from which `z` was built
  rw [deserialise_eq_run] at h
  split at h
  · cases h
  · rename_i st hl
    obtain ⟨h1, h2, h3⟩ := buildZone_props (zp_stOK_init.of_runLoop hl) h
    exact ⟨⟨_, _, _, h1⟩, h2, h3⟩

/-- **A parsed zone round-trips**, provided no ordinary owner's first label starts with `*` (the
    premise is exactly the gap of open finding C13-K1 and cannot be dropped:
    `C13_K1_parsed_zone_breaks_roundtrip`). -/
theorem C13_parsed_zone_roundtrips {t : List Char} {z : Zone} (h : deserialise t = .ok z)
    (hs : ∀ p ∈ z.allRecords, NoStar p.1) :
    ∃ z', deserialise (serialise z) = .ok z' ∧ SameZone z' z := by
  obtain ⟨⟨apex, soa, ops, hap, hb⟩, hsoa, hok⟩ := C13_parsed_zone_hypotheses h
  exact C13_roundtrip apex soa ops z hap hb ((zp_zoneTextOK_iff z).mpr ⟨hok, hs⟩) hsoa

/-- the `NoStar` premise is a property of the record set: it passes along `SameZone` to any parsed
    zone (every owner a parsed zone lists holds at least one record). -/
theorem C13_noStar_of_sameZone {t' : List Char} {z' z : Zone} (h' : deserialise t' = .ok z')
    (hsz : SameZone z' z) (hs : ∀ p ∈ z.allRecords, NoStar p.1) : ∀ p ∈ z'.allRecords, NoStar p.1 := by
  intro p hp
  obtain ⟨n, zrs⟩ := p
  obtain ⟨⟨apex, soa, ops, -, hb⟩, -, -⟩ := C13_parsed_zone_hypotheses h'
  obtain ⟨zr, hzr⟩ := ZNode.exists_mem_of_mem_listing (Zone.keysNodup_build apex soa ops z' hb) (w := false) hp
  obtain ⟨zrs', hm, -⟩ := (hsz.2.2.1 n zr).mp ⟨zrs, hp, hzr⟩
  exact hs (n, zrs') hm

/-- **C13, idempotence of normalisation** (a second `ztoz` reads the zone the first wrote): for every text
    `t` that parses to a zone `z` without a `*…` ordinary owner, writing `z` and reading it back
    gives `z'`, writing `z'` and reading it back gives `z''`, and all three are the same zone in the sense of
    `SameZone`.  (`z'` needs no premise of its own: it is itself a parsed
    zone, and `NoStar` passes along `SameZone`.) -/
theorem C13_normalise_idempotent {t : List Char} {z : Zone} (h : deserialise t = .ok z)
    (hs : ∀ p ∈ z.allRecords, NoStar p.1) :
    ∃ z' z'', deserialise (serialise z) = .ok z' ∧ deserialise (serialise z') = .ok z'' ∧
      SameZone z' z ∧ SameZone z'' z' ∧ SameZone z'' z := by
  obtain ⟨z', h1, hsz1⟩ := C13_parsed_zone_roundtrips h hs
  obtain ⟨z'', h2, hsz2⟩ := C13_parsed_zone_roundtrips h1 (C13_noStar_of_sameZone h1 hsz1 hs)
  exact ⟨z', z'', h1, h2, hsz1, hsz2, C13_sameZone_trans hsz2 hsz1⟩

/-- the same, for a given first re-read `z'`. -/
theorem C13_normalise_idempotent_given {t : List Char} {z z' : Zone} (h : deserialise t = .ok z)
    (hs : ∀ p ∈ z.allRecords, NoStar p.1) (h' : deserialise (serialise z) = .ok z') :
    (∀ p ∈ z'.allRecords, NoStar p.1) ∧ SameZone z' z ∧
    ∃ z'', deserialise (serialise z') = .ok z'' ∧ SameZone z'' z' ∧ SameZone z'' z := by
  obtain ⟨z1, z'', h1, h2, hsz1, hsz2, hsz3⟩ := C13_normalise_idempotent h hs
  rw [h'] at h1
  cases h1
  exact ⟨C13_noStar_of_sameZone h' hsz1 hs, hsz1, z'', h2, hsz2, hsz3⟩

/-- **when parsing succeeds**: as soon as the entry loop reaches the end of the text and every record
    lies under the apex (the SOA's owner, or the root) — the insertion loops never panic on what the
    parser hands them.  (`hl` is on the fuelled loop with the fuel `deserialise` gives it, which is enough for it to
    end: `deserialiseLoop_eq_run` makes it `runLoop {} t = .ok st`.) -/
theorem C13_parse_succeeds {t : List Char} {st : DState}
    (hl : deserialiseLoop (t.length + 1) {} t = some (.ok st))
    (hsub : ∀ rr, rr ∈ st.rrs ∨ rr ∈ st.wildcardRrs → rr.name.isSubdomainOf st.apex = true) :
    ∃ z, deserialise t = .ok z := by
  have hrun : runLoop {} t = .ok st := Option.some.inj ((deserialiseLoop_eq_run (Nat.lt_succ_self _)).symm.trans hl)
  obtain ⟨z, hz⟩ := buildZone_isOk (zp_stOK_init.of_runLoop hrun) hsub
  exact ⟨z, by unfold deserialise; rw [hl]; exact hz⟩

/-! ### non-vacuity: a concrete file -/

/-- `$ORIGIN e.` / `@ IN SOA m r 1 2 3 4 5` / `w 9 IN A 1.2.3.4` / `*.x 7 IN TXT "a b"`. -/
def C13_exampleText : List Char :=
  ['$','O','R','I','G','I','N',' ','e','.','\n',
   '@',' ','I','N',' ','S','O','A',' ','m',' ','r',' ','1',' ','2',' ','3',' ','4',' ','5','\n',
   'w',' ','9',' ','I','N',' ','A',' ','1','.','2','.','3','.','4','\n',
   '*','.','x',' ','7',' ','I','N',' ','T','X','T',' ','"','a',' ','b','"','\n']

def C13_exampleSoa : SOA := ⟨⟨[[109], [101], []], 5⟩, ⟨[[114], [101], []], 5⟩, 1, 2, 3, 4, 5⟩

def C13_exampleState : DState :=
  { rrs := [{ name := ⟨[[119], [101], []], 5⟩, rtype := 1, fields := [.a 16909060], rclass := 1, ttl := 9 }],
    wildcardRrs := [{ name := ⟨[[120], [101], []], 5⟩, rtype := 16, fields := [.opaque [97, 32, 98]],
                      rclass := 1, ttl := 7 }],
    apexAndSoa := some (⟨[[101], []], 3⟩, C13_exampleSoa),
    origin := some ⟨[[101], []], 3⟩,
    previousDomain := some (.wildcard ⟨[[120], [101], []], 5⟩),
    previousTtl := some 7 }

def C13_exampleZone : Zone :=
  { apex := ⟨[[101], []], 3⟩, soa := some C13_exampleSoa,
    records := .mk ⟨[[101], []], 3⟩ [(6, [⟨6, C13_exampleSoa.toFields, 5⟩])] none
      [([119], .mk ⟨[[119], [101], []], 5⟩ [(1, [⟨1, [.a 16909060], 9⟩])] none []),
       ([120], .mk ⟨[[120], [101], []], 5⟩ [] (some [(16, [⟨16, [.opaque [97, 32, 98]], 7⟩])]) [])] }

/- decidable equality of loop results, so that the concrete runs below are evaluated by the kernel alone -/
deriving instance DecidableEq for DState
deriving instance DecidableEq for Except

theorem C13_example_loop : runLoop {} C13_exampleText = .ok C13_exampleState := by
  decide +kernel

theorem C13_example_parses : deserialise C13_exampleText = .ok C13_exampleZone := by
  -- `ZNode.insert` is by well-founded recursion; its structural form `insertRev` evaluates
  rw [deserialise_eq_run, C13_example_loop]
  simp only [buildZone, C13_exampleState, List.reverse_cons, List.reverse_nil, List.nil_append, insertAll, Zone.new,
    ZNode.insert_eq_rev, Zone.insert_eq_insertRev]
  rfl

theorem C13_example_noStar : ∀ p ∈ C13_exampleZone.allRecords, NoStar p.1 := by
  have : C13_exampleZone.allRecords
      = [(⟨[[101], []], 3⟩, [⟨6, C13_exampleSoa.toFields, 5⟩]),
         (⟨[[119], [101], []], 5⟩, [⟨1, [.a 16909060], 9⟩])] := by rfl
  intro p hp
  rw [this] at hp
  simp only [List.mem_cons, List.not_mem_nil, or_false] at hp
  rcases hp with rfl | rfl <;> (intro l ls h; cases h; decide)

/-- the theorems applied to the concrete file: hypotheses, round trip, idempotence. -/
example :
    ((∃ apex soa ops, NameOK apex ∧ Zone.build apex soa ops = some C13_exampleZone) ∧
      OnlyOwnSoa C13_exampleZone ∧ ZoneTextOK' C13_exampleZone) ∧
    (∃ z', deserialise (serialise C13_exampleZone) = .ok z' ∧ SameZone z' C13_exampleZone) ∧
    (∃ z' z'', deserialise (serialise C13_exampleZone) = .ok z' ∧ deserialise (serialise z') = .ok z'' ∧
      SameZone z' C13_exampleZone ∧ SameZone z'' z' ∧ SameZone z'' C13_exampleZone) :=
  ⟨C13_parsed_zone_hypotheses C13_example_parses,
   C13_parsed_zone_roundtrips C13_example_parses C13_example_noStar,
   C13_normalise_idempotent C13_example_parses C13_example_noStar⟩

/-! ### the `NoStar` premise cannot be dropped (open finding C13-K1, at the zone level) -/

/-- `$ORIGIN *.e.` / `@ 9 IN A 1.2.3.4`. -/
def C13_K1_text : List Char :=
  ['$','O','R','I','G','I','N',' ','*','.','e','.','\n',
   '@',' ','9',' ','I','N',' ','A',' ','1','.','2','.','3','.','4','\n']

def C13_K1_state : DState :=
  { rrs := [{ name := ⟨[[42], [101], []], 5⟩, rtype := 1, fields := [.a 16909060], rclass := 1, ttl := 9 }],
    origin := some ⟨[[42], [101], []], 5⟩,
    previousDomain := some (.normal ⟨[[42], [101], []], 5⟩),
    previousTtl := some 9 }

/-- the zone the text parses to: the ORDINARY owner `*.e.` (labels `*`, `e`) holding one A record. -/
def C13_K1_zone : Zone :=
  { apex := Name.root, soa := none,
    records := .mk Name.root [] none
      [([101], .mk ⟨[[101], []], 3⟩ [] none
         [([42], .mk ⟨[[42], [101], []], 5⟩ [(1, [⟨1, [.a 16909060], 9⟩])] none [])])] }

/-- what comes back after one write / read: the WILDCARD beneath `e.`. -/
def C13_K1_zone' : Zone :=
  { apex := Name.root, soa := none,
    records := .mk Name.root [] none
      [([101], .mk ⟨[[101], []], 3⟩ [] (some [(1, [⟨1, [.a 16909060], 9⟩])]) [])] }

theorem C13_K1_loop : runLoop {} C13_K1_text = .ok C13_K1_state := by
  decide +kernel

/-- **Open finding C13-K1 at the zone level: the `NoStar` premise cannot be dropped.**  The text
    `$ORIGIN *.e.` + `@ 9 IN A 1.2.3.4` parses (so the zone satisfies every other hypothesis,
    `C13_parsed_zone_hypotheses`), its only owner `*.e.` violates `NoStar`, `Zone::serialise` writes
    it as `*.e. 9 IN A 1.2.3.4`, and reading that back SUCCEEDS with a DIFFERENT zone: the record has
    become a wildcard record beneath `e.` — `ztoz` is not idempotent on this file. -/
theorem C13_K1_parsed_zone_breaks_roundtrip :
    deserialise C13_K1_text = .ok C13_K1_zone ∧
    ¬ (∀ p ∈ C13_K1_zone.allRecords, NoStar p.1) ∧
    serialise C13_K1_zone
      = ['*','.','e','.',' ','9',' ','I','N',' ','A',' ','1','.','2','.','3','.','4','\n','\n'] ∧
    deserialise (serialise C13_K1_zone) = .ok C13_K1_zone' ∧
    ¬ SameZone C13_K1_zone' C13_K1_zone ∧
    ¬ ∃ z', deserialise (serialise C13_K1_zone) = .ok z' ∧ SameZone z' C13_K1_zone := by
  have hser : serialise C13_K1_zone
      = ['*','.','e','.',' ','9',' ','I','N',' ','A',' ','1','.','2','.','3','.','4','\n','\n'] := by
    decide +kernel
  have hl' : runLoop {} (serialise C13_K1_zone)
      = .ok { wildcardRrs := [{ name := ⟨[[101], []], 3⟩, rtype := 1, fields := [.a 16909060],
                                 rclass := 1, ttl := 9 }],
              previousDomain := some (.wildcard ⟨[[101], []], 3⟩), previousTtl := some 9 } := by
    rw [hser]; decide +kernel
  have hback : deserialise (serialise C13_K1_zone) = .ok C13_K1_zone' := by
    rw [deserialise_eq_run, hl']
    simp only [buildZone, List.reverse_cons, List.reverse_nil, List.nil_append, insertAll, Zone.default, Zone.new,
      Zone.insert_eq_insertRev]
    rfl
  have hne : ¬ SameZone C13_K1_zone' C13_K1_zone := by
    intro hsz
    have hw : FlatWild C13_K1_zone' ⟨[[101], []], 3⟩ ⟨1, [.a 16909060], 9⟩ :=
      ⟨_, List.mem_cons_self, List.mem_cons_self⟩
    obtain ⟨zrs, hm, -⟩ := (hsz.2.2.2 _ _).mp hw
    exact List.not_mem_nil hm
  have hparse : deserialise C13_K1_text = .ok C13_K1_zone := by
    rw [deserialise_eq_run, C13_K1_loop]
    simp only [buildZone, C13_K1_state, List.reverse_cons, List.reverse_nil, List.nil_append, insertAll, Zone.new,
      Zone.default, Zone.insert_eq_insertRev]
    rfl
  refine ⟨hparse, ?_, hser, hback, hne, ?_⟩
  · intro hs
    exact hs (⟨[[42], [101], []], 5⟩, [⟨1, [.a 16909060], 9⟩]) List.mem_cons_self [42] [[101], []] rfl (by decide)
  · rintro ⟨z', h1, hsz⟩
    rw [hback] at h1
    cases h1
    exact hne hsz

end Resolved
