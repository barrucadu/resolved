/-
  C09 — The server answers every message correctly framed and never goes down.
  For EVERY resolver (any function from a question and a "recursive?" flag to a result), both
  `authoritative_only` settings and every byte string.  Section 0 holds most fixtures of the
  refutations and examples (`C09ex`), each evaluated once; the file ends with the four theorems that
  tie the model's decision logic to the text of main.rs (`C09_*_logic_from_source`).

  What the model (and the Rust it mirrors) does that the prose of the property does not say:
  * an *undecodable* buffer of two or more octets gets FORMERR even when its QR bit is set
    (`C09_formerr` has no "not a response" hypothesis; `C09_reply_iff` is exact);
  * a standard query with zero questions gets SERVFAIL (`C09_no_question`);
  * FORMERR and NOTIMP replies always say RA = 1, also in authoritative-only mode
    (`C09_ra_fixed_replies`, `C09_ra_all_replies_statement` and its refutation); RA reflects the
    configuration on standard queries (`C09_ra_all_replies_partial`);
  * over TCP the message is the first `expected` octets delivered (`read_tcp_bytes` allocates
    exactly the announced capacity): `C09_tcp_message_is_the_announced_prefix`,
    `C09_tcp_tiny_prefix_silent`; the statements that would have the whole delivered buffer handled
    are refuted (`C09_serve_is_send_before_tcpread_fix_false`,
    `C09_every_query_answered_tcp_before_tcpread_fix_false`);
  * a reply that `Message::to_octets` refuses (e.g. 65 536 records from the resolver) is replaced
    by its SERVFAIL fallback (`serialise_response`):
    `C09_fallback_shape`, `C09_fallback_only_on_encode_error`, `C09_serialise_reply_total`, and
    `C09_every_query_answered` holds for every resolver.
-/
import Resolved.Props.C03
import Resolved.Props.C04
import Resolved.Proofs.ServerLemmas
import Resolved.GeneratedServer

namespace Resolved

open Gen

/-! ## 0. Fixtures of the refutations and examples -/

namespace C09ex

/-- a query for the root name, type A, class IN (17 octets) -/
def rootQuery : Message :=
  { header := ⟨0x1234, false, 0, false, false, true, false, 0⟩
    questions := [⟨Name.root, 1, 1⟩], answers := [], authority := [], additional := [] }

def rootQueryBytes : List UInt8 := [0x12, 0x34, 1, 0, 0, 1, 0, 0, 0, 0, 0, 0, 0, 0, 1, 0, 1]

theorem rootQuery_decodes : decodeMessage rootQueryBytes = .ok rootQuery :=
  C04_roundtrip _ _ (by decide +kernel) (by decide +kernel)

/-- its SERVFAIL reply on the wire: `81` = QR RD, `82` = RA + RCODE 2, the question echoed -/
theorem rootQuery_servfail_encodes :
    encodeMessage (srvRcodeReply false rootQuery RCODE_SERVFAIL) =
      .ok [0x12, 0x34, 0x81, 0x82, 0, 1, 0, 0, 0, 0, 0, 0, 0, 0, 1, 0, 1] := by decide +kernel

/-- a 12-octet header, ID 0xABCD, RD set, QDCOUNT 0 -/
def emptyQueryBytes : List UInt8 := [0xAB, 0xCD, 1, 0, 0, 0, 0, 0, 0, 0, 0, 0]
def emptyQuery : Message :=
  { header := ⟨0xABCD, false, 0, false, false, true, false, 0⟩
    questions := [], answers := [], authority := [], additional := [] }

/-- a 12-octet header with opcode 2 (STATUS) -/
def statusBytes : List UInt8 := [0, 5, 0x10, 0, 0, 0, 0, 0, 0, 0, 0, 0]
/-- a 12-octet header flagged as a response -/
def responseBytes : List UInt8 := [0, 1, 0x80, 0, 0, 0, 0, 0, 0, 0, 0, 0]
/-- a query for the root name with the unassigned type 0xFF00 -/
def oddTypeBytes : List UInt8 := [0x12, 0x34, 1, 0, 0, 1, 0, 0, 0, 0, 0, 0, 0, 0xFF, 0, 0, 1]
def oddTypeQuery : Message :=
  { header := ⟨0x1234, false, 0, false, false, true, false, 0⟩
    questions := [⟨Name.root, 0xFF00, 1⟩], answers := [], authority := [], additional := [] }

def soa : RR := ⟨Name.root, 6, [.name Name.root, .name Name.root, .u32 1, .u32 2, .u32 3, .u32 4, .u32 5], 1, 300⟩
def aRec : RR := ⟨Name.root, 1, [.a 0x7F000001], 1, 300⟩
/-- a resolver that is authoritative for the root name -/
def authResolver : ServerResolver := fun _ _ => .ok (.authoritative [aRec] soa)
def failResolver : ServerResolver := fun _ _ => .error .timeout

theorem emptyQuery_decodes : decodeMessage emptyQueryBytes = .ok emptyQuery := by decide +kernel
theorem oddType_decodes : decodeMessage oddTypeBytes = .ok oddTypeQuery :=
  C04_roundtrip _ _ (by decide +kernel) (by decide +kernel)

theorem authResolver_wf : ∀ q b, srvResultWF (authResolver q b) := fun _ _ => by
  unfold authResolver srvResultWF; decide +kernel

theorem failResolver_reply : handleRawMessage false failResolver rootQueryBytes =
    some (srvRcodeReply false rootQuery RCODE_SERVFAIL) :=
  handleRawMessage_question rootQuery_decodes rfl rfl rfl (by decide)

/-- three octets with the QR bit set in the third: too short for a header -/
theorem qrOctets_undecodable :
    decodeMessage [0xAB, 0xCD, 0x80] = .error (.headerTooShort 0xABCD) := by decide

end C09ex

/-! ## 1. Responses are not answered; what every reply echoes -/

theorem C09_no_reply_to_response (authOnly : Bool) (resolver : ServerResolver) (buf : List UInt8) (m : Message)
    (hd : decodeMessage buf = .ok m) (hr : m.header.isResponse = true) :
    handleRawMessage authOnly resolver buf = none :=
  handleRawMessage_response hd hr

/-- Every reply to a parseable message echoes its ID and has the response flag set. -/
theorem C09_reply_header (authOnly : Bool) (resolver : ServerResolver) (buf : List UInt8) (m r : Message)
    (hd : decodeMessage buf = .ok m) (h : handleRawMessage authOnly resolver buf = some r) :
    r.header.id = m.header.id ∧ r.header.isResponse = true ∧ r.header.opcode = m.header.opcode ∧
    r.header.recursionDesired = m.header.recursionDesired ∧ r.questions = m.questions := by
  have e := srv_reply_echo hd h
  exact ⟨e.id, e.qr, e.opcode, e.rd, e.questions⟩

/-! ## 2. Which buffers get a reply -/

/-- **Silence is exact.**  `handle_raw_message` stays silent exactly on buffers of fewer than two
    octets (no ID to answer to) and on buffers that decode to a message flagged as a response. -/
theorem C09_reply_iff (authOnly : Bool) (resolver : ServerResolver) (buf : List UInt8) :
    handleRawMessage authOnly resolver buf = none ↔
      buf.length < 2 ∨ ∃ m, decodeMessage buf = .ok m ∧ m.header.isResponse = true := by
  cases hd : decodeMessage buf with
  | error e =>
    rw [handleRawMessage_error hd]
    constructor
    · intro h
      left
      exact (C03_no_id_iff_short buf e hd).mp (by simpa using h)
    · rintro (h | ⟨m, hm, _⟩)
      · simp [(C03_no_id_iff_short buf e hd).mpr h]
      · cases hm
  | ok m =>
    have h12 := (C03_section_counts buf m hd).1
    cases hr : m.header.isResponse with
    | true =>
      rw [handleRawMessage_response hd hr]
      exact ⟨fun _ => .inr ⟨m, rfl, hr⟩, fun _ => rfl⟩
    | false =>
      constructor
      · intro h
        by_cases ho : m.header.opcode = OPCODE_STANDARD
        · rw [handleRawMessage_query hd hr ho] at h; cases h
        · rw [handleRawMessage_notimp hd hr ho] at h; cases h
      · rintro (h | ⟨m', hm', hr'⟩)
        · omega
        · cases hm'; rw [hr] at hr'; cases hr'

theorem srv_short_is_busted (buf : List UInt8) (h : buf.length < 2) :
    decodeMessage buf = .error .completelyBusted :=
  C03_short_is_busted buf h

/-- Every reply carries the ID found in the first two octets of the buffer and has QR set —
    whether the buffer decoded or not. -/
theorem C09_reply_id (authOnly : Bool) (resolver : ServerResolver) (buf : List UInt8) (reply : Message)
    (h2 : 2 ≤ buf.length) (h : handleRawMessage authOnly resolver buf = some reply) :
    reply.header.id = (buf[0]'(by omega)).toNat * 256 + (buf[1]'(by omega)).toNat ∧
    reply.header.isResponse = true ∧ reply.header.isTruncated = false := by
  refine ⟨?_, (srv_every_reply h).qr, (srv_every_reply h).tc⟩
  rcases handleRawMessage_cases h with ⟨e, id, hd, hid, rfl⟩ | ⟨m, hd, _⟩
  · rw [C03_id_on_error buf e hd h2] at hid
    cases hid
    rfl
  · obtain ⟨_, hv, _⟩ := nextU16_some (C03_section_counts buf m hd).2.1
    exact (srv_reply_echo hd h).id.trans hv

/-- A buffer of two or more octets that is not a decodable response gets a reply message (the
    converse of `C09_reply_iff`); the second conjunct says only that `some` is injective. -/
theorem C09_one_reply (authOnly : Bool) (resolver : ServerResolver) (buf : List UInt8)
    (h2 : 2 ≤ buf.length) (hq : ∀ m, decodeMessage buf = .ok m → m.header.isResponse = false) :
    ∃ reply, handleRawMessage authOnly resolver buf = some reply ∧
      ∀ reply', handleRawMessage authOnly resolver buf = some reply' → reply' = reply := by
  cases h : handleRawMessage authOnly resolver buf with
  | none =>
    rcases (C09_reply_iff authOnly resolver buf).mp h with h' | ⟨m, hm, hr⟩
    · omega
    · rw [hq m hm] at hr; cases hr
  | some reply => exact ⟨reply, rfl, fun _ h' => by cases h'; rfl⟩

/-! ## 3. FORMERR -/

/-- An undecodable buffer of at least two octets gets the FORMERR reply for the ID in its first
    two octets. -/
theorem C09_formerr (authOnly : Bool) (resolver : ServerResolver) (buf : List UInt8) (e : DErr)
    (hd : decodeMessage buf = .error e) (h2 : 2 ≤ buf.length) :
    handleRawMessage authOnly resolver buf =
      some (makeFormatErrorResponse ((buf[0]'(by omega)).toNat * 256 + (buf[1]'(by omega)).toNat)) := by
  rw [handleRawMessage_error hd, C03_id_on_error buf e hd h2]; rfl

theorem C09_formerr_shape (id : Nat) :
    (makeFormatErrorResponse id).header.id = id ∧
    (makeFormatErrorResponse id).header.rcode = RCODE_FORMERR ∧ RCODE_FORMERR = 1 ∧
    (makeFormatErrorResponse id).header.isResponse = true ∧
    (makeFormatErrorResponse id).header.opcode = 0 ∧
    (makeFormatErrorResponse id).header.isAuthoritative = false ∧
    (makeFormatErrorResponse id).header.isTruncated = false ∧
    (makeFormatErrorResponse id).header.recursionDesired = false ∧
    (makeFormatErrorResponse id).questions = [] ∧ (makeFormatErrorResponse id).answers = [] ∧
    (makeFormatErrorResponse id).authority = [] ∧ (makeFormatErrorResponse id).additional = [] :=
  ⟨rfl, rfl, rfl, rfl, rfl, rfl, rfl, rfl, rfl, rfl, rfl, rfl⟩

/-- The FORMERR reply on the wire: twelve octets, `ID, 0x80, 0x81, 0 × 8` (QR; RA + RCODE 1; four
    zero counts); they fit every frame unchanged. -/
theorem C09_formerr_wire (id : Nat) (wire : List UInt8)
    (hw : wire = u16Bytes id ++ [128, 129, 0, 0, 0, 0, 0, 0, 0, 0]) :
    encodeMessage (makeFormatErrorResponse id) = .ok wire ∧
    srvSendUdp (some (makeFormatErrorResponse id)) = some wire ∧
    srvSendTcp (some (makeFormatErrorResponse id)) = some ([0, 12] ++ wire) := by
  subst hw
  have hl : (u16Bytes id ++ [128, 129, 0, 0, 0, 0, 0, 0, 0, 0] : List UInt8).length = 12 := rfl
  obtain ⟨su, st⟩ := srv_send_of_serialise (serialiseResponse_ok (srv_formerr_encode id))
  obtain ⟨fu, ft⟩ := srv_frame_fitting (srv_formerr_encode id) rfl
  rw [hl] at fu ft
  exact ⟨srv_formerr_encode id, su.trans (fu (by decide)), st.trans (ft (by decide))⟩

/-! ## 4. NOTIMP -/

/-- A decodable query whose opcode is not "standard query" gets NOTIMP; the resolver is not
    consulted. -/
theorem C09_notimp (authOnly : Bool) (buf : List UInt8) (m : Message)
    (hd : decodeMessage buf = .ok m) (hq : m.header.isResponse = false)
    (ho : m.header.opcode ≠ OPCODE_STANDARD) :
    ∃ reply, (∀ resolver, handleRawMessage authOnly resolver buf = some reply) ∧
      reply.header.rcode = RCODE_NOTIMP ∧ RCODE_NOTIMP = 4 ∧
      reply.header.id = m.header.id ∧ reply.header.isResponse = true ∧
      reply.header.opcode = m.header.opcode ∧ reply.header.isAuthoritative = false ∧
      reply.header.isTruncated = false ∧
      reply.header.recursionDesired = m.header.recursionDesired ∧
      reply.questions = m.questions ∧ reply.answers = [] ∧ reply.authority = [] ∧
      reply.additional = [] ∧
      reply = { makeResponse m with header := { (makeResponse m).header with rcode := RCODE_NOTIMP } } :=
  ⟨srvNotImp m, fun _ => handleRawMessage_notimp hd hq ho,
    rfl, rfl, rfl, rfl, rfl, rfl, rfl, rfl, rfl, rfl, rfl, rfl, rfl⟩

/-! ## 5. REFUSED and the zero-question case -/

/-- A decodable standard query with two or more questions, or with one question of unknown type
    or class, gets REFUSED; the resolver is not consulted. -/
theorem C09_refused (authOnly : Bool) (buf : List UInt8) (m : Message)
    (hd : decodeMessage buf = .ok m) (hq : m.header.isResponse = false)
    (ho : m.header.opcode = OPCODE_STANDARD)
    (hbad : 2 ≤ m.questions.length ∨ ∃ q, m.questions = [q] ∧ questionIsUnknown q = true) :
    ∃ reply, (∀ resolver, handleRawMessage authOnly resolver buf = some reply) ∧
      reply.header.rcode = RCODE_REFUSED ∧ RCODE_REFUSED = 5 ∧
      reply.answers = [] ∧ reply.authority = [] ∧ reply.additional = [] ∧
      reply.header.isAuthoritative = false ∧ reply.questions = m.questions ∧
      reply.header.id = m.header.id ∧ reply.header.isResponse = true ∧
      reply.header.opcode = m.header.opcode ∧ reply.header.isTruncated = false ∧
      reply.header.recursionDesired = m.header.recursionDesired ∧
      reply.header.recursionAvailable = !authOnly := by
  have ht : triage m = .error () := by
    rcases hbad with h | ⟨q, h1, h2⟩
    · exact triage_many h
    · exact triage_one_unknown h1 h2
  exact ⟨srvRcodeReply authOnly m RCODE_REFUSED, fun _ => handleRawMessage_refused hd hq ho ht,
    rfl, rfl, rfl, rfl, rfl, rfl, rfl, rfl, rfl, rfl, rfl, rfl, rfl⟩

/-- A decodable standard query with an empty question section: the model (as the Rust: `triage`
    returns `Ok(None)`, nothing is resolved, and the final "no answer, no authority, NOERROR"
    check fires) yields SERVFAIL with all sections empty, for every resolver. -/
theorem C09_no_question (authOnly : Bool) (buf : List UInt8) (m : Message)
    (hd : decodeMessage buf = .ok m) (hq : m.header.isResponse = false)
    (ho : m.header.opcode = OPCODE_STANDARD) (hz : m.questions = []) :
    ∃ reply, (∀ resolver, handleRawMessage authOnly resolver buf = some reply) ∧
      reply.header.rcode = RCODE_SERVFAIL ∧ RCODE_SERVFAIL = 2 ∧
      reply.questions = [] ∧ reply.answers = [] ∧ reply.authority = [] ∧ reply.additional = [] ∧
      reply.header.isAuthoritative = false ∧
      reply.header.id = m.header.id ∧ reply.header.isResponse = true ∧
      reply.header.opcode = m.header.opcode ∧ reply.header.isTruncated = false ∧
      reply.header.recursionDesired = m.header.recursionDesired ∧
      reply.header.recursionAvailable = !authOnly :=
  ⟨srvRcodeReply authOnly m RCODE_SERVFAIL, fun _ => handleRawMessage_no_question hd hq ho hz,
    rfl, rfl, hz, rfl, rfl, rfl, rfl, rfl, rfl, rfl, rfl, rfl, rfl⟩

/-! ## 6. RA and the recursion flag handed to the resolver -/

/-- FORMERR and NOTIMP replies say RA = 1 whatever the configuration (so "RA reflects whether
    recursion is offered" holds for standard queries only). -/
theorem C09_ra_fixed_replies (id : Nat) (m : Message) :
    (makeFormatErrorResponse id).header.recursionAvailable = true ∧
    (srvNotImp m).header.recursionAvailable = true := ⟨rfl, rfl⟩

/-- The resolver is consulted at most once, for the single question, with the flag
    `RD ∧ ¬ authoritative_only`: two resolvers that agree on that one input give the same reply. -/
theorem C09_resolver_input (authOnly : Bool) (r1 r2 : ServerResolver) (m : Message)
    (hagree : ∀ q ∈ m.questions,
      r1 q (m.header.recursionDesired && !authOnly) = r2 q (m.header.recursionDesired && !authOnly)) :
    resolveAndBuildResponse authOnly r1 m = resolveAndBuildResponse authOnly r2 m := by
  rcases triage_cases m with h | ⟨_, h⟩ | ⟨q, hq, _, h⟩
  · rw [resolveAndBuildResponse_refused _ _ _ h, resolveAndBuildResponse_refused _ _ _ h]
  · rw [resolveAndBuildResponse_no_question _ _ _ h, resolveAndBuildResponse_no_question _ _ _ h]
  · rw [resolveAndBuildResponse_question _ _ _ _ h, resolveAndBuildResponse_question _ _ _ _ h,
      hagree q (by rw [hq]; exact List.mem_singleton_self q)]

theorem C09_resolver_input_handle (authOnly : Bool) (r1 r2 : ServerResolver) (buf : List UInt8)
    (hagree : ∀ m, decodeMessage buf = .ok m → ∀ q ∈ m.questions,
      r1 q (m.header.recursionDesired && !authOnly) = r2 q (m.header.recursionDesired && !authOnly)) :
    handleRawMessage authOnly r1 buf = handleRawMessage authOnly r2 buf := by
  cases hd : decodeMessage buf with
  | error e => rw [handleRawMessage_error hd, handleRawMessage_error hd]
  | ok m =>
    rw [handleRawMessage_decoded hd, handleRawMessage_decoded hd, C09_resolver_input authOnly r1 r2 m (hagree m hd)]

/-- The flag `RD ∧ ¬ authoritative_only` of `C09_resolver_input` is `false` when
    `authoritative_only` is set: the Boolean identity, no server function involved. -/
theorem C09_auth_only_no_recursion (m : Message) :
    (m.header.recursionDesired && !true) = false := by simp

/-- `resolve_and_build_response` sets RA to "recursion is offered", whatever the message. -/
theorem C09_ra (authOnly : Bool) (resolver : ServerResolver) (m : Message) :
    (resolveAndBuildResponse authOnly resolver m).header.recursionAvailable = !authOnly :=
  (SrvAnswerTo.echo (resolveAndBuildResponse_answerTo authOnly resolver m)).2

/-- The claim "RA reflects whether recursion is offered" for every reply; false, see
    `C09_ra_all_replies_false`. -/
def C09_ra_all_replies_statement : Prop :=
  ∀ (authOnly : Bool) (resolver : ServerResolver) (buf : List UInt8) (reply : Message),
    handleRawMessage authOnly resolver buf = some reply →
    reply.header.recursionAvailable = !authOnly

/-- `C09_ra_all_replies_statement` is false: the FORMERR reply of an authoritative-only server
    to the three octets `AB CD 80` says RA = 1 (and so does every NOTIMP reply,
    `C09_ra_fixed_replies`). -/
theorem C09_ra_all_replies_false : ¬ C09_ra_all_replies_statement := by
  intro hall
  have h := hall true (fun _ _ => .error .timeout) [0xAB, 0xCD, 0x80] _
    (C09_formerr true _ _ _ C09ex.qrOctets_undecodable (by decide))
  cases h

/-- The true part: on every decodable standard query RA = ¬ authoritative_only. -/
theorem C09_ra_all_replies_partial (authOnly : Bool) (resolver : ServerResolver) (buf : List UInt8)
    (m reply : Message) (hd : decodeMessage buf = .ok m) (ho : m.header.opcode = OPCODE_STANDARD)
    (h : handleRawMessage authOnly resolver buf = some reply) :
    reply.header.recursionAvailable = !authOnly := by
  cases (handleRawMessage_reply hd h).2 with
  | notImp hn => exact absurd ho hn
  | answer _ h' => exact (SrvAnswerTo.echo h').2

/-! ## 7. SERVFAIL -/

theorem C09_never_empty_noerror (authOnly : Bool) (resolver : ServerResolver) (m : Message) :
    ¬ ((resolveAndBuildResponse authOnly resolver m).header.rcode = RCODE_NOERROR ∧
        (resolveAndBuildResponse authOnly resolver m).answers = [] ∧
        (resolveAndBuildResponse authOnly resolver m).authority = []) :=
  (SrvAnswerTo.servfail_rule (resolveAndBuildResponse_answerTo authOnly resolver m)).1

/-- No reply of `handle_raw_message` says NOERROR with neither an answer nor an authority record. -/
theorem C09_never_empty_noerror_handle (authOnly : Bool) (resolver : ServerResolver)
    (buf : List UInt8) (reply : Message) (h : handleRawMessage authOnly resolver buf = some reply) :
    ¬ (reply.header.rcode = RCODE_NOERROR ∧ reply.answers = [] ∧ reply.authority = []) := by
  rcases handleRawMessage_cases h with ⟨_, _, _, _, rfl⟩ | ⟨m, _, h'⟩
  · intro hc; exact absurd hc.1 (by show RCODE_FORMERR ≠ RCODE_NOERROR; decide)
  · cases h' with
    | notImp => intro hc; exact absurd hc.1 (by show RCODE_NOTIMP ≠ RCODE_NOERROR; decide)
    | answer _ h' => exact (SrvAnswerTo.servfail_rule h').1

/-- A SERVFAIL reply carries no answer, no authority record and is not authoritative. -/
theorem C09_servfail_empty (authOnly : Bool) (resolver : ServerResolver) (m : Message)
    (h : (resolveAndBuildResponse authOnly resolver m).header.rcode = RCODE_SERVFAIL) :
    (resolveAndBuildResponse authOnly resolver m).answers = [] ∧
    (resolveAndBuildResponse authOnly resolver m).authority = [] ∧
    (resolveAndBuildResponse authOnly resolver m).additional = [] ∧
    (resolveAndBuildResponse authOnly resolver m).header.isAuthoritative = false := by
  have h' := resolveAndBuildResponse_answerTo authOnly resolver m
  obtain ⟨h1, h2, h3⟩ := (SrvAnswerTo.servfail_rule h').2 h
  exact ⟨h1, h2, (SrvAnswerTo.echo h').1.additional, h3⟩

/-- SERVFAIL is sent exactly when there is nothing to say: no question, a resolver error, or a
    non-authoritative result with no record and no SOA. -/
theorem C09_servfail_iff (authOnly : Bool) (resolver : ServerResolver) (m : Message) :
    (resolveAndBuildResponse authOnly resolver m).header.rcode = RCODE_SERVFAIL ↔
      (m.questions = [] ∨
       ∃ q, m.questions = [q] ∧ questionIsUnknown q = false ∧
         ((∃ e, resolver q (m.header.recursionDesired && !authOnly) = .error e) ∨
          resolver q (m.header.recursionDesired && !authOnly) = .ok (.nonAuthoritative [] none))) := by
  have h := resolveAndBuildResponse_answerTo authOnly resolver m
  generalize resolveAndBuildResponse authOnly resolver m = reply at h ⊢
  cases h with
  | refused ht =>
    refine ⟨fun hc => absurd hc (by show RCODE_REFUSED ≠ RCODE_SERVFAIL; decide), ?_⟩
    rintro (hz | ⟨q, h1, h2, _⟩)
    · rw [triage_nil hz] at ht; cases ht
    · rw [triage_one_known h1 h2] at ht; cases ht
  | noQuestion hz => exact ⟨fun _ => .inl hz, fun _ => rfl⟩
  | question q hq hk =>
    rw [(srv_replyOf_codes authOnly m _).servfail_iff]
    constructor
    · intro hc; exact .inr ⟨q, hq, hk, hc⟩
    · rintro (hz | ⟨q', hq', _, hc⟩)
      · rw [hz] at hq; cases hq
      · rw [hq] at hq'; cases hq'; exact hc

/-! ## 8. The reply to one known question -/

/-- One question of known type and class: the reply is a function of the resolver's result. -/
theorem C09_aa_iff (authOnly : Bool) (resolver : ServerResolver) (m : Message) (q : Question)
    (hq : m.questions = [q]) (hk : questionIsUnknown q = false) :
    let res := resolver q (m.header.recursionDesired && !authOnly)
    let reply := resolveAndBuildResponse authOnly resolver m
    (reply.header.isAuthoritative = true ↔
      ((∃ rrs soa, res = .ok (.authoritative rrs soa)) ∨
       ∃ soa, res = .ok (.authoritativeNameError soa))) ∧
    (reply.header.rcode = RCODE_NAMEERROR ↔ ∃ soa, res = .ok (.authoritativeNameError soa)) ∧
    (reply.header.rcode = RCODE_SERVFAIL ↔
      ((∃ e, res = .error e) ∨ res = .ok (.nonAuthoritative [] none))) ∧
    (reply.header.rcode = RCODE_NOERROR ∨ reply.header.rcode = RCODE_NAMEERROR ∨
      reply.header.rcode = RCODE_SERVFAIL) ∧
    reply.answers = (match res with | .ok rec => rec.rrs | .error _ => []) ∧
    reply.authority = (match res with | .ok rec => rec.soaRR.toList | .error _ => []) ∧
    reply.additional = [] ∧ reply.questions = [q] := by
  intro res reply
  have hr : reply = srvReplyOf authOnly m res :=
    resolveAndBuildResponse_question authOnly resolver m q (triage_one_known hq hk)
  have c := srv_replyOf_codes authOnly m res
  have f := srv_replyOf_fields authOnly m res
  rw [hr]
  refine ⟨c.aa_iff, c.nameerror_iff, c.servfail_iff, c.rcode_cases, ?_, ?_, f.echoes.additional,
    f.echoes.questions.trans hq⟩
  · rw [f.answers]; cases res <;> rfl
  · rw [f.authority]; cases res <;> rfl

/-! ## 9. UDP framing -/

/-- **UDP replies: at most 512 octets, TC set exactly when cut short.**  In both cases every octet
    but octet 2 is unchanged, and octet 2 is unchanged outside the TC bit (bit 1). -/
theorem C09_udp_tc_iff (bytes out : List UInt8) (h : udpFrame bytes = some out) :
    (bytes.length > 512 →
      out.length = 512 ∧ srvTcOf out = some true ∧ ∀ i, i < 512 → i ≠ 2 → out[i]? = bytes[i]?) ∧
    (bytes.length ≤ 512 →
      out.length = bytes.length ∧ srvTcOf out = some false ∧ ∀ i, i ≠ 2 → out[i]? = bytes[i]?) ∧
    (∃ b b', bytes[2]? = some b ∧ out[2]? = some b' ∧ b'.toNat &&& 253 = b.toNat &&& 253 ∧
      (testBit b'.toNat HEADER_MASK_TC = true ↔ bytes.length > 512)) := by
  obtain ⟨h12, rfl⟩ := srv_udpFrame_some h
  obtain ⟨c1, c2, c3, c3', b, b', c4, c5, c6, c7⟩ :=
    srv_cut bytes (decide (bytes.length > 512)) 512 (by decide) (Nat.lt_of_lt_of_le (by decide) h12)
  refine ⟨fun hbig => ?_, fun hle => ?_, b, b', c4, c5, c6, by rw [c7, decide_eq_true_iff]⟩
  · rw [decide_eq_true hbig] at c1 c2 c3 ⊢
    exact ⟨c1.trans (Nat.min_eq_left (Nat.le_of_lt hbig)), c2, c3⟩
  · rw [decide_eq_false (Nat.not_lt.mpr hle)] at c1 c2 c3' ⊢
    exact ⟨c1.trans (Nat.min_eq_right hle), c2, c3' hle⟩

/-- "cut short" said with lengths -/
theorem C09_udp_cut_iff_tc (bytes out : List UInt8) (h : udpFrame bytes = some out) :
    (out.length < bytes.length ↔ srvTcOf out = some true) ∧ out.length = min bytes.length 512 := by
  obtain ⟨h1, h2, _⟩ := C09_udp_tc_iff bytes out h
  by_cases hbig : bytes.length > 512
  · obtain ⟨a, b, _⟩ := h1 hbig
    exact ⟨⟨fun _ => b, fun _ => by omega⟩, by omega⟩
  · obtain ⟨a, b, _⟩ := h2 (by omega)
    refine ⟨⟨fun hlt => by omega, fun ht => ?_⟩, by omega⟩
    rw [b] at ht; cases ht

/-- UDP replies never exceed 512 octets. -/
theorem C09_udp_frame_le (bytes out : List UInt8) (h : udpFrame bytes = some out) :
    out.length ≤ 512 :=
  (C09_udp_cut_iff_tc bytes out h).2 ▸ Nat.min_le_right _ _

/-- What "TC bit" means here (`srvTcOf`): octet 2 exists and its bit of value 2 is set — in the
    mask form and the `/ 2 % 2` form; clear: the mask form.  (`srvTcOf` itself is the decoder's
    `testBit … HEADER_MASK_TC`, unfolded in the proof.) -/
theorem C09_tc_bit_def (out : List UInt8) :
    (srvTcOf out = some true ↔ ∃ b, out[2]? = some b ∧ b.toNat &&& 2 ≠ 0) ∧
    (srvTcOf out = some true ↔ ∃ b, out[2]? = some b ∧ b.toNat / 2 % 2 = 1) ∧
    (srvTcOf out = some false ↔ ∃ b, out[2]? = some b ∧ b.toNat &&& 2 = 0) := by
  unfold srvTcOf
  cases h : out[2]? with
  | none => simp
  | some b =>
    simp only [Option.map_some, Option.some.injEq, exists_eq_left', testBit, HEADER_MASK_TC,
      bne_iff_ne, ne_eq, ← and_two_ne_zero_iff_div_two_odd b.toNat, bne_eq_false_iff_eq, and_self]

/-- The TC bit of the datagram is the `isTruncated` the receiver decodes. -/
theorem C09_tc_bit_is_decoded_flag (out : List UInt8) (m : Message)
    (h : decodeMessage out = .ok m) : srvTcOf out = some m.header.isTruncated := by
  obtain ⟨b, h2, ht⟩ := decodeMessage_tc h
  rw [srvTcOf, h2, Option.map_some, ht]

/-! ## 10. TCP framing -/

/-- A reply longer than 65 535 octets is cut to 65 535, announced as such, with TC set. -/
theorem C09_tcp_frame_big (bytes out : List UInt8) (hlen : bytes.length > 65535)
    (h : tcpFrame bytes = some out) :
    out.take 2 = u16Bytes 65535 ∧ u16Bytes 65535 = [255, 255] ∧ out.length = 65537 ∧
    srvTcOf (out.drop 2) = some true ∧
    (∀ i, i < 65535 → i ≠ 2 → (out.drop 2)[i]? = bytes[i]?) ∧
    (∃ b b', bytes[2]? = some b ∧ (out.drop 2)[2]? = some b' ∧
      b'.toNat &&& 253 = b.toNat &&& 253) := by
  obtain ⟨h12, rfl⟩ := srv_tcpFrame_some h
  obtain ⟨c1, c2, c3, _, b, b', c4, c5, c6, _⟩ :=
    srv_cut bytes true 65535 (by decide) (Nat.lt_of_lt_of_le (by decide) h12)
  rw [Nat.min_eq_right (Nat.le_of_lt hlen), decide_eq_true hlen, List.drop_left' (u16Bytes_length _)]
  refine ⟨List.take_left' (u16Bytes_length _), by decide, ?_, c2, c3, b, b', c4, c5, c6⟩
  rw [List.length_append, c1, u16Bytes_length, Nat.min_eq_left (Nat.le_of_lt hlen)]

/-- A reply of at most 65 535 octets goes out whole behind its exact length, with the TC bit
    cleared and every other bit unchanged. -/
theorem C09_tcp_frame_small (bytes out : List UInt8) (hlen : bytes.length ≤ 65535)
    (h : tcpFrame bytes = some out) :
    out.take 2 = u16Bytes bytes.length ∧ out.length = 2 + bytes.length ∧
    (out.drop 2).length = bytes.length ∧ srvTcOf (out.drop 2) = some false ∧
    (∀ i, i ≠ 2 → (out.drop 2)[i]? = bytes[i]?) ∧
    (∃ b b', bytes[2]? = some b ∧ (out.drop 2)[2]? = some b' ∧
      b'.toNat &&& 253 = b.toNat &&& 253) ∧
    (srvTcOf bytes = some false → out = u16Bytes bytes.length ++ bytes) := by
  obtain ⟨h12, rfl⟩ := srv_tcpFrame_some h
  obtain ⟨c1, c2, _, c3, b, b', c4, c5, c6, _⟩ :=
    srv_cut bytes false 65535 (by decide) (Nat.lt_of_lt_of_le (by decide) h12)
  rw [Nat.min_eq_right hlen] at c1
  rw [Nat.min_eq_left hlen, decide_eq_false (Nat.not_lt.mpr hlen),
    List.drop_left' (u16Bytes_length _)]
  refine ⟨List.take_left' (u16Bytes_length _), ?_, c1, c2, c3 hlen, ⟨b, b', c4, c5, c6⟩, fun htc => ?_⟩
  · rw [List.length_append, c1, u16Bytes_length]
  · rw [List.take_of_length_le (by rw [srv_setTcBit_length]; exact hlen), srv_setTcBit_clear _ htc]

/-- TCP replies carry their exact length as prefix (messages up to 65 535 octets). -/
theorem C09_tcp_frame_prefix (bytes out : List UInt8) (hlen : bytes.length ≤ 65535)
    (h : tcpFrame bytes = some out) : out.take 2 = u16Bytes bytes.length ∧ out.length = 2 + bytes.length :=
  have ⟨h1, h2, _⟩ := C09_tcp_frame_small bytes out hlen h
  ⟨h1, h2⟩

/-- The announced length is the real one. -/
theorem C09_tcp_prefix_value (bytes out : List UInt8) (hlen : bytes.length ≤ 65535)
    (h : tcpFrame bytes = some out) :
    nextU16 out 0 = some ((out.drop 2).length, 2) := by
  obtain ⟨h1, h2, h3, _⟩ := C09_tcp_frame_small bytes out hlen h
  have ho : out = u16Bytes bytes.length ++ out.drop 2 := by
    rw [← h1, List.take_append_drop]
  rw [h3, ho]
  exact nextU16_at [] _ _ (by omega)

/-! ## 11. Serialisation, the SERVFAIL fallback, and the senders never panic -/

theorem C09_encode_ge_12 (m : Message) (bs : List UInt8) (h : encodeMessage m = .ok bs) :
    12 ≤ bs.length := encodeMessage_length_ge h

/-- **The fallback never replaces a serialisable reply.** -/
theorem C09_fallback_only_on_encode_error (m : Message) (bs : List UInt8)
    (he : encodeMessage m = .ok bs) : serialiseResponse m = some (m, bs) :=
  serialiseResponse_ok he

/-- **Shape of the fallback.**  What is serialised and framed instead of an unserialisable reply
    `m` is `servfailFallback m`. -/
theorem C09_fallback_shape (m : Message) (e : EErr) (he : encodeMessage m = .error e) :
    (∀ m' bs, serialiseResponse m = some (m', bs) →
      m' = servfailFallback m ∧ encodeMessage (servfailFallback m) = .ok bs) ∧
    (∀ bs, encodeMessage (servfailFallback m) = .ok bs →
      serialiseResponse m = some (servfailFallback m, bs) ∧
      srvSendUdp (some m) = udpFrame bs ∧ srvSendTcp (some m) = tcpFrame bs) ∧
    (servfailFallback m).header.rcode = RCODE_SERVFAIL ∧
    (servfailFallback m).header.id = m.header.id ∧
    (servfailFallback m).header.isResponse = m.header.isResponse ∧
    (servfailFallback m).header.opcode = m.header.opcode ∧
    (servfailFallback m).header.isAuthoritative = false ∧
    (servfailFallback m).header.isTruncated = m.header.isTruncated ∧
    (servfailFallback m).header.recursionDesired = m.header.recursionDesired ∧
    (servfailFallback m).header.recursionAvailable = m.header.recursionAvailable ∧
    (servfailFallback m).questions = m.questions ∧ (servfailFallback m).answers = [] ∧
    (servfailFallback m).authority = [] ∧ (servfailFallback m).additional = [] := by
  refine ⟨?_, ?_, rfl, rfl, rfl, rfl, rfl, rfl, rfl, rfl, rfl, rfl, rfl, rfl⟩
  · intro m' bs h
    obtain ⟨h1, h2 | ⟨h2, _⟩⟩ := serialiseResponse_some h
    · subst h2; rw [he] at h1; cases h1
    · subst h2; exact ⟨rfl, h1⟩
  · intro bs hf
    have hs : serialiseResponse m = some (servfailFallback m, bs) := by
      rw [serialiseResponse_err he, hf]
    exact ⟨hs, srv_send_of_serialise hs⟩

/-- what `serialise_response` returns: the message or its SERVFAIL fallback, and the octets of that. -/
theorem C09_serialise_result (m m' : Message) (bs : List UInt8)
    (h : serialiseResponse m = some (m', bs)) :
    encodeMessage m' = .ok bs ∧ 12 ≤ bs.length ∧
    (m' = m ∨ (m' = servfailFallback m ∧ ∃ e, encodeMessage m = .error e)) :=
  have ⟨h1, h2⟩ := serialiseResponse_some h
  ⟨h1, encodeMessage_length_ge h1, h2⟩

/-- **Key lemma: every reply goes out.**  For every reply `handle_raw_message` builds — whatever
    the resolver put into it — `serialise_response` yields a message and at least twelve octets:
    the question section is echoed from a decoded query (or empty, FORMERR), so the fallback's
    counts fit 16 bits and `to_octets` cannot fail on it. -/
theorem C09_serialise_reply_total (authOnly : Bool) (resolver : ServerResolver) (buf : List UInt8)
    (reply : Message) (h : handleRawMessage authOnly resolver buf = some reply) :
    (∃ bs, encodeMessage (servfailFallback reply) = .ok bs) ∧
    ∃ m' bs, serialiseResponse reply = some (m', bs) ∧ encodeMessage m' = .ok bs ∧
      12 ≤ bs.length ∧ (m' = reply ∨ (m' = servfailFallback reply ∧ ∃ e, encodeMessage reply = .error e)) := by
  have hq := (srv_every_reply h).qdcount
  obtain ⟨m', bs, hs⟩ := serialiseResponse_total reply hq
  exact ⟨srv_fallback_encodes reply hq, m', bs, hs, C09_serialise_result reply m' bs hs⟩

/-- The `< 12 octets` panic of `send_udp_bytes_to` / `send_tcp_bytes` is unreachable from the
    server, and so is the "could not serialise fallback message" branch: whatever
    `handle_raw_message` returns is serialised (itself or its fallback) and framed. -/
theorem C09_senders_never_panic (authOnly : Bool) (resolver : ServerResolver) (buf : List UInt8)
    (m : Message) (h : handleRawMessage authOnly resolver buf = some m) :
    ∃ m' bs, serialiseResponse m = some (m', bs) ∧
      (udpFrame bs).isSome = true ∧ (tcpFrame bs).isSome = true := by
  obtain ⟨_, m', bs, hs, _, h12, _⟩ := C09_serialise_reply_total authOnly resolver buf m h
  refine ⟨m', bs, hs, ?_, ?_⟩
  · cases hf : udpFrame bs with
    | none => have := (srv_udpFrame_none_iff bs).mp hf; omega
    | some _ => rfl
  · cases hf : tcpFrame bs with
    | none => have := (srv_tcpFrame_none_iff bs).mp hf; omega
    | some _ => rfl

theorem C09_send_some (authOnly : Bool) (resolver : ServerResolver) (buf : List UInt8)
    (m : Message) (h : handleRawMessage authOnly resolver buf = some m) :
    (srvSendUdp (some m)).isSome = true ∧ (srvSendTcp (some m)).isSome = true := by
  obtain ⟨m', bs, hs, hu, ht⟩ := C09_senders_never_panic authOnly resolver buf m h
  obtain ⟨su, st⟩ := srv_send_of_serialise hs
  rw [su, st]
  exact ⟨hu, ht⟩

/-- **Nothing goes out exactly when there is no reply message**, i.e. exactly on buffers of fewer
    than two octets and on decodable responses — for every resolver. -/
theorem C09_udp_silent_iff (authOnly : Bool) (resolver : ServerResolver) (buf : List UInt8) :
    (serveUdp authOnly resolver buf = none ↔ handleRawMessage authOnly resolver buf = none) ∧
    (serveUdp authOnly resolver buf = none ↔
      buf.length < 2 ∨ ∃ m, decodeMessage buf = .ok m ∧ m.header.isResponse = true) := by
  have key : serveUdp authOnly resolver buf = none ↔ handleRawMessage authOnly resolver buf = none := by
    rw [srv_serveUdp_eq]
    cases hh : handleRawMessage authOnly resolver buf with
    | none => simp [srvSendUdp]
    | some m =>
      have := (C09_send_some authOnly resolver buf m hh).1
      constructor
      · intro hn; rw [hn] at this; cases this
      · intro hn; cases hn
  exact ⟨key, key.trans (C09_reply_iff authOnly resolver buf)⟩

/-- The fallback of a reply to a standard query is precisely the SERVFAIL reply the server sends
    when the resolver fails: an unserialisable result and a resolver error look the same. -/
theorem C09_fallback_is_servfail_reply (authOnly : Bool) (resolver : ServerResolver) (m : Message) :
    servfailFallback (resolveAndBuildResponse authOnly resolver m)
      = srvRcodeReply authOnly m RCODE_SERVFAIL := by
  have h := resolveAndBuildResponse_answerTo authOnly resolver m
  generalize resolveAndBuildResponse authOnly resolver m = reply at h ⊢
  cases h with
  | refused => exact srv_fallback_rcodeReply authOnly m _
  | noQuestion => exact srv_fallback_rcodeReply authOnly m _
  | question q => exact (srv_replyOf_fields authOnly m _).fallback

/-- When the reply does not serialise, the fallback's octets are what is framed; it has TC clear,
    so up to 512 octets (65 535 for TCP) they go out unchanged. -/
theorem C09_fallback_sent (authOnly : Bool) (resolver : ServerResolver) (buf : List UInt8)
    (m : Message) (e : EErr) (h : handleRawMessage authOnly resolver buf = some m)
    (he : encodeMessage m = .error e) :
    ∃ bs, encodeMessage (servfailFallback m) = .ok bs ∧
      serialiseResponse m = some (servfailFallback m, bs) ∧
      serveUdp authOnly resolver buf = udpFrame bs ∧
      (bs.length ≤ 512 → serveUdp authOnly resolver buf = some bs) ∧
      (bs.length ≤ 65535 → ∀ n received, n ≤ received.length → received.take n = buf →
        serveTcp authOnly resolver n received = some (u16Bytes bs.length ++ bs)) := by
  obtain ⟨⟨bs, hf⟩, _⟩ := C09_serialise_reply_total authOnly resolver buf m h
  obtain ⟨hs, hu, ht⟩ := (C09_fallback_shape m e he).2.1 bs hf
  obtain ⟨fu, ft⟩ := srv_frame_fitting hf (srv_every_reply h).tc
  refine ⟨bs, hf, hs, ?_, ?_, ?_⟩
  · rw [srv_serveUdp_eq, h, hu]
  · intro hle
    rw [srv_serveUdp_eq, h, hu, fu hle]
  · intro hle n received hn htake
    rw [srv_serveTcp_full _ _ hn, htake, h, ht, ft hle]

/-! ## 12. TCP reads -/

/-- A TCP read that ends before the announced length: FORMERR for the ID in the first two octets
    received when there are two, nothing otherwise; on a complete read the FIRST `expected` octets
    (`read_tcp_bytes` allocates exactly the announced capacity; anything queued behind them is
    not part of the message) are handled like a datagram and framed for TCP. -/
theorem C09_tcp_short_read (authOnly : Bool) (resolver : ServerResolver) (expected : Nat)
    (received : List UInt8) :
    (received.length < expected →
      serveTcp authOnly resolver expected received =
        if h2 : 2 ≤ received.length then
          srvSendTcp (some (makeFormatErrorResponse
            ((received[0]'(by omega)).toNat * 256 + (received[1]'(by omega)).toNat)))
        else none) ∧
    (expected ≤ received.length →
      serveTcp authOnly resolver expected received =
        srvSendTcp (handleRawMessage authOnly resolver (received.take expected))) := by
  constructor
  · intro h
    rw [srv_serveTcp_eq, tcpRead_short h]
    by_cases h2 : 2 ≤ received.length
    · simp only [dif_pos h2]; rfl
    · simp only [dif_neg h2]; rfl
  · intro h
    exact srv_serveTcp_full _ _ h

/-- the short-read FORMERR on the wire: `00 0C`, the ID, `80 81` and eight zero octets -/
theorem C09_tcp_short_read_wire (authOnly : Bool) (resolver : ServerResolver) (expected : Nat)
    (received : List UInt8) (h : received.length < expected) (h2 : 2 ≤ received.length) :
    serveTcp authOnly resolver expected received =
      some (([0, 12] : List UInt8) ++
        (u16Bytes ((received[0]'(by omega)).toNat * 256 + (received[1]'(by omega)).toNat)
          ++ [128, 129, 0, 0, 0, 0, 0, 0, 0, 0])) := by
  rw [(C09_tcp_short_read authOnly resolver expected received).1 h, dif_pos h2]
  exact (C09_formerr_wire _ _ rfl).2.2

/-- `srvSendTcp`/`srvSendUdp` are what `serveTcp`/`serveUdp` do after the message is chosen;
    over TCP the message is the announced prefix `buf.take n` of the octets delivered. -/
theorem C09_serve_is_send (authOnly : Bool) (resolver : ServerResolver) (buf : List UInt8) :
    serveUdp authOnly resolver buf = srvSendUdp (handleRawMessage authOnly resolver buf) ∧
    ∀ n, n ≤ buf.length →
      serveTcp authOnly resolver n buf =
        srvSendTcp (handleRawMessage authOnly resolver (buf.take n)) :=
  ⟨srv_serveUdp_eq _ _ _, fun n hn => (C09_tcp_short_read authOnly resolver n buf).2 hn⟩

/-- **The TCP message is the announced prefix.**  Octets delivered beyond the announced length
    never influence the reply. -/
theorem C09_tcp_message_is_the_announced_prefix (authOnly : Bool) (resolver : ServerResolver)
    (n : Nat) (buf : List UInt8) (hn : n ≤ buf.length) :
    serveTcp authOnly resolver n buf = serveTcp authOnly resolver n (buf.take n) := by
  have hl : n ≤ (buf.take n).length := by rw [List.length_take]; omega
  rw [srv_serveTcp_full _ _ hn, srv_serveTcp_full _ _ hl, List.take_take, Nat.min_self]

/-- Two streams that agree on the announced prefix get the same reply. -/
theorem C09_tcp_same_prefix_same_reply (authOnly : Bool) (resolver : ServerResolver) (n : Nat)
    (buf1 buf2 : List UInt8) (h1 : n ≤ buf1.length) (h2 : n ≤ buf2.length)
    (h : buf1.take n = buf2.take n) :
    serveTcp authOnly resolver n buf1 = serveTcp authOnly resolver n buf2 := by
  rw [srv_serveTcp_full _ _ h1, srv_serveTcp_full _ _ h2, h]

/-- An announced length below two octets (with that much delivered): nothing is sent — there is
    no ID to answer to. -/
theorem C09_tcp_tiny_prefix_silent (authOnly : Bool) (resolver : ServerResolver) (n : Nat)
    (buf : List UInt8) (hn : n ≤ buf.length) (h2 : n < 2) :
    serveTcp authOnly resolver n buf = none := by
  have hl : (buf.take n).length < 2 := by rw [List.length_take]; omega
  rw [srv_serveTcp_full _ _ hn,
    (C09_reply_iff authOnly resolver (buf.take n)).mpr (.inl hl)]
  rfl

/-- "Over TCP the whole delivered buffer is handled, whatever length was announced"; false, see
    the next theorem. -/
def C09_serve_is_send_statement_before_tcpread_fix : Prop :=
  ∀ (authOnly : Bool) (resolver : ServerResolver) (buf : List UInt8) (n : Nat), n ≤ buf.length →
    serveTcp authOnly resolver n buf = srvSendTcp (handleRawMessage authOnly resolver buf)

/-- Refutation: announce 3 octets and deliver the 12-octet header `AB CD 01 00 …` (a query with
    no question, answered SERVFAIL as a whole): the message is `AB CD 01`, which gets FORMERR. -/
theorem C09_serve_is_send_before_tcpread_fix_false :
    ¬ C09_serve_is_send_statement_before_tcpread_fix := by
  intro hall
  have h := hall false (fun _ _ => .error .timeout) C09ex.emptyQueryBytes 3 (by decide)
  have hd3 : decodeMessage [0xAB, 0xCD, 1] = .error (.headerTooShort 0xABCD) := by decide +kernel
  rw [srv_serveTcp_full _ _ (by decide)] at h
  rw [show List.take 3 C09ex.emptyQueryBytes = [0xAB, 0xCD, 1] from rfl,
    C09_formerr false _ _ _ hd3 (by decide),
    handleRawMessage_no_question C09ex.emptyQuery_decodes rfl rfl rfl] at h
  revert h
  decide +kernel

/-! ## 13. One reply, and it reads back as the reply -/

/-- Pointwise equal resolvers give the same octets over UDP and TCP (they are equal functions), and
    `serveUdp`, being a function, has at most one value.  That the resolver matters at one input
    only is `C09_resolver_input_handle`. -/
theorem C09_one_reply_function (authOnly : Bool) (r1 r2 : ServerResolver)
    (hext : ∀ q b, r1 q b = r2 q b) (buf : List UInt8) (n : Nat) :
    serveUdp authOnly r1 buf = serveUdp authOnly r2 buf ∧
    serveTcp authOnly r1 n buf = serveTcp authOnly r2 n buf ∧
    (∀ o1 o2, serveUdp authOnly r1 buf = some o1 → serveUdp authOnly r1 buf = some o2 → o1 = o2) := by
  have : r1 = r2 := funext fun q => funext fun b => hext q b
  subst this
  exact ⟨rfl, rfl, fun o1 o2 h1 h2 => by rw [h1] at h2; cases h2; rfl⟩

/-- Every reply message of the server has TC clear, so framing a reply that fits changes nothing. -/
theorem C09_frames_of_fitting_reply (authOnly : Bool) (resolver : ServerResolver)
    (buf : List UInt8) (m : Message) (bs : List UInt8)
    (h : handleRawMessage authOnly resolver buf = some m) (he : encodeMessage m = .ok bs) :
    (bs.length ≤ 512 → serveUdp authOnly resolver buf = some bs) ∧
    (bs.length ≤ 65535 → ∀ n received, n ≤ received.length → received.take n = buf →
      serveTcp authOnly resolver n received = some (u16Bytes bs.length ++ bs)) := by
  obtain ⟨su, st⟩ := srv_send_of_serialise (serialiseResponse_ok he)
  obtain ⟨fu, ft⟩ := srv_frame_fitting he (srv_every_reply h).tc
  constructor
  · intro hle
    rw [srv_serveUdp_eq, h, su, fu hle]
  · intro hle n received hn htake
    rw [srv_serveTcp_full _ _ hn, htake, h, st, ft hle]

/-- **The datagram reads back as the reply.**  If the resolver's records are serialisable
    (`srvResultWF`: well-formed names, 16/32-bit fields, RDATA matching the type's layout — what
    every decoded or zone-file record satisfies), then a reply that fits 512 octets is received
    by `Message::from_octets` as exactly the message `handle_raw_message` built. -/
theorem C09_udp_reply_decodes (authOnly : Bool) (resolver : ServerResolver)
    (hres : ∀ q b, srvResultWF (resolver q b))
    (buf : List UInt8) (m : Message) (bs : List UInt8)
    (h : handleRawMessage authOnly resolver buf = some m) (he : encodeMessage m = .ok bs)
    (hle : bs.length ≤ 512) :
    serveUdp authOnly resolver buf = some bs ∧ decodeMessage bs = .ok m :=
  ⟨(C09_frames_of_fitting_reply authOnly resolver buf m bs h he).1 hle,
    C04_roundtrip m bs (srv_reply_wf (fun _ _ _ _ => hres _ _) h) he⟩

/-! ## 14. Every query is answered — for every resolver; when the fallback is needed -/

/-- A TCP read cut short after two or more octets is answered (FORMERR), whatever the content. -/
theorem C09_tcp_short_read_answered (authOnly : Bool) (resolver : ServerResolver) (expected : Nat)
    (received : List UInt8) (h : received.length < expected) (h2 : 2 ≤ received.length) :
    (serveTcp authOnly resolver expected received).isSome = true := by
  rw [C09_tcp_short_read_wire authOnly resolver expected received h h2]; rfl

/-- **Every query is answered.**  For EVERY resolver (no hypothesis on what it returns), both
    settings of `authoritative_only` and every buffer of two or more octets that does not decode
    to a message flagged as a response: a datagram is sent; over TCP a message is sent whenever
    that buffer is the announced prefix of what the connection delivered (`received.take n = buf`
    — anything queued behind it is irrelevant); and a TCP read cut short after two or more
    octets gets its (FORMERR) message too.  (The SERVFAIL fallback of `serialise_response` is what
    makes this hold for a resolver result with 65 536 records.) -/
theorem C09_every_query_answered (authOnly : Bool) (resolver : ServerResolver) (buf : List UInt8)
    (h2 : 2 ≤ buf.length)
    (hq : ∀ m, decodeMessage buf = .ok m → m.header.isResponse = false) :
    (serveUdp authOnly resolver buf).isSome = true ∧
    (∀ n received, n ≤ received.length → received.take n = buf →
      (serveTcp authOnly resolver n received).isSome = true) ∧
    (∀ n, buf.length < n → (serveTcp authOnly resolver n buf).isSome = true) := by
  obtain ⟨reply, hreply, _⟩ := C09_one_reply authOnly resolver buf h2 hq
  obtain ⟨hu, ht⟩ := C09_send_some authOnly resolver buf reply hreply
  refine ⟨?_, ?_, ?_⟩
  · rw [srv_serveUdp_eq, hreply]; exact hu
  · intro n received hn htake
    rw [srv_serveTcp_full _ _ hn, htake, hreply]; exact ht
  · exact fun n hn => C09_tcp_short_read_answered authOnly resolver n buf hn h2

/-- The TCP clause said from the side of the connection (`C09_tcp_tiny_prefix_silent`: for `n < 2`
    nothing is sent). -/
theorem C09_every_query_answered_tcp (authOnly : Bool) (resolver : ServerResolver)
    (buf : List UInt8) (n : Nat) (hn : n ≤ buf.length) (h2 : 2 ≤ (buf.take n).length)
    (hq : ∀ m, decodeMessage (buf.take n) = .ok m → m.header.isResponse = false) :
    (serveTcp authOnly resolver n buf).isSome = true :=
  (C09_every_query_answered authOnly resolver (buf.take n) h2 hq).2.1 n buf hn rfl

/-- "A delivered buffer of two or more octets that is no decodable response is answered over TCP
    whatever length up to its own was announced"; false, see the next theorem. -/
def C09_every_query_answered_tcp_statement_before_tcpread_fix : Prop :=
  ∀ (authOnly : Bool) (resolver : ServerResolver) (buf : List UInt8), 2 ≤ buf.length →
    (∀ m, decodeMessage buf = .ok m → m.header.isResponse = false) →
    ∀ n, n ≤ buf.length → (serveTcp authOnly resolver n buf).isSome = true

/-- Refutation: announce one octet in front of the root query — nothing is sent. -/
theorem C09_every_query_answered_tcp_before_tcpread_fix_false :
    ¬ C09_every_query_answered_tcp_statement_before_tcpread_fix := by
  intro hall
  have h := hall false (fun _ _ => .error .timeout) C09ex.rootQueryBytes (by decide)
    (fun m hm => by rw [C09ex.rootQuery_decodes] at hm; cases hm; rfl) 1 (by decide)
  rw [C09_tcp_tiny_prefix_silent false _ 1 _ (by decide) (by decide)] at h
  cases h

/-- When the resolver's results are serialisable and stay below 65 536 records the reply itself
    serialises: the fallback is never used. -/
theorem C09_no_fallback_for_serialisable_resolver (authOnly : Bool) (resolver : ServerResolver)
    (hres : ∀ q b, srvResultWF (resolver q b))
    (hcount : ∀ q b rec, resolver q b = .ok rec → rec.rrs.length < 65536)
    (buf : List UInt8) (reply : Message)
    (hreply : handleRawMessage authOnly resolver buf = some reply) :
    ∃ bs, encodeMessage reply = .ok bs ∧ serialiseResponse reply = some (reply, bs) := by
  have henc : ∃ bs, encodeMessage reply = .ok bs := by
    rcases handleRawMessage_cases hreply with ⟨_, id, _, _, rfl⟩ | ⟨m, hd, h'⟩
    · exact ⟨_, srv_formerr_encode id⟩
    · have ev := srv_every_reply hreply
      rcases h'.sections with ⟨ha, hn⟩ | ⟨q, _, ha, hn⟩
      · exact encodeMessage_questions_only reply ev.qdcount ha hn ev.additional
      · refine C04_encode_total _ (h'.wf (C04_decode_wf buf m hd) fun _ _ => hres _ _) ev.qdcount ?_
          (by rw [hn]; exact Nat.lt_of_le_of_lt (srv_authorityOf_length _) (by decide))
          (by rw [ev.additional]; decide)
        rw [ha]
        cases hr : resolver q (m.header.recursionDesired && !authOnly) with
        | error _ => exact Nat.zero_lt_succ _
        | ok rec => exact hcount _ _ rec hr
  obtain ⟨bs, he⟩ := henc
  exact ⟨bs, he, serialiseResponse_ok he⟩

/-- The fallback can only be needed for a reply that carries resolver data: FORMERR, NOTIMP,
    REFUSED and the SERVFAIL replies always serialise themselves. -/
theorem C09_fallback_only_with_records (authOnly : Bool) (resolver : ServerResolver)
    (buf : List UInt8) (reply : Message) (e : EErr)
    (h : handleRawMessage authOnly resolver buf = some reply)
    (he : encodeMessage reply = .error e) : reply.answers ≠ [] ∨ reply.authority ≠ [] := by
  by_cases ha : reply.answers = []
  · by_cases hb : reply.authority = []
    · have ev := srv_every_reply h
      obtain ⟨bs, hok⟩ := encodeMessage_questions_only reply ev.qdcount ha hb ev.additional
      rw [hok] at he; cases he
    · exact .inr hb
  · exact .inl ha

/-- 65 536 (or more) records from the resolver: the reply does not serialise
    (`CounterTooLarge`), and what goes out — over UDP and TCP — is the SERVFAIL fallback
    `12 34 81 82 | 0 1 0 0 0 0 0 0 | 00 0001 0001`: question echoed, no records. -/
theorem C09ex.too_many_records_servfail (rrs : List RR) (hlen : 65536 ≤ rrs.length) :
    (∃ e, encodeMessage (resolveAndBuildResponse false (fun _ _ => .ok (.nonAuthoritative rrs none))
      C09ex.rootQuery) = .error e) ∧
    serveUdp false (fun _ _ => .ok (.nonAuthoritative rrs none)) C09ex.rootQueryBytes =
      some [0x12, 0x34, 0x81, 0x82, 0, 1, 0, 0, 0, 0, 0, 0, 0, 0, 1, 0, 1] ∧
    serveTcp false (fun _ _ => .ok (.nonAuthoritative rrs none)) 17 C09ex.rootQueryBytes =
      some [0, 17, 0x12, 0x34, 0x81, 0x82, 0, 1, 0, 0, 0, 0, 0, 0, 0, 0, 1, 0, 1] := by
  have hr : resolveAndBuildResponse false (fun _ _ => .ok (.nonAuthoritative rrs none)) C09ex.rootQuery
      = srvReplyOf false C09ex.rootQuery (.ok (.nonAuthoritative rrs none)) :=
    resolveAndBuildResponse_question false _ _ _ (triage_one_known rfl (by decide))
  have hq : handleRawMessage false (fun _ _ => .ok (.nonAuthoritative rrs none)) C09ex.rootQueryBytes
      = some (srvReplyOf false C09ex.rootQuery (.ok (.nonAuthoritative rrs none))) :=
    handleRawMessage_question C09ex.rootQuery_decodes rfl rfl rfl (by decide)
  have f := srv_replyOf_fields false C09ex.rootQuery (.ok (.nonAuthoritative rrs none))
  have he := encodeMessage_too_many_answers
    (m := srvReplyOf false C09ex.rootQuery (.ok (.nonAuthoritative rrs none)))
    (by rw [f.echoes.questions]; decide) (by rw [f.answers]; exact hlen)
  have hfb := C09_fallback_is_servfail_reply false (fun _ _ => .ok (.nonAuthoritative rrs none))
    C09ex.rootQuery
  rw [hr] at hfb
  obtain ⟨bs, hf, _, _, hu, ht⟩ := C09_fallback_sent false _ _ _ _ hq he
  rw [hfb] at hf
  have hbs : bs = [0x12, 0x34, 0x81, 0x82, 0, 1, 0, 0, 0, 0, 0, 0, 0, 0, 1, 0, 1] :=
    Except.ok.inj (hf.symm.trans C09ex.rootQuery_servfail_encodes)
  subst hbs
  exact ⟨⟨_, hr ▸ he⟩, hu (by decide), ht (by decide) 17 _ (by decide) rfl⟩

/-- the concrete instance: exactly 65 536 copies of one A record -/
example : serveUdp false (fun _ _ => .ok (.nonAuthoritative
      (List.replicate 65536 ⟨Name.root, 1, [.a 0], 1, 0⟩) none)) C09ex.rootQueryBytes =
    some [0x12, 0x34, 0x81, 0x82, 0, 1, 0, 0, 0, 0, 0, 0, 0, 0, 1, 0, 1] :=
  (C09ex.too_many_records_servfail _ (Nat.le_of_eq List.length_replicate.symm)).2.1

/-! ## 15. Non-vacuity: concrete buffers through the theorems -/

/-- zero questions: SERVFAIL `AB CD 81 82 0…` on the wire, for every resolver -/
example (r : ServerResolver) :
    serveUdp false r C09ex.emptyQueryBytes = some [0xAB, 0xCD, 0x81, 0x82, 0, 0, 0, 0, 0, 0, 0, 0] := by
  rw [srv_serveUdp_eq, handleRawMessage_no_question C09ex.emptyQuery_decodes rfl rfl rfl]
  decide +kernel

/-- the same query to an authoritative-only server: RA clear (`02` instead of `82`) -/
example (r : ServerResolver) :
    serveUdp true r C09ex.emptyQueryBytes = some [0xAB, 0xCD, 0x81, 0x02, 0, 0, 0, 0, 0, 0, 0, 0] := by
  rw [srv_serveUdp_eq, handleRawMessage_no_question C09ex.emptyQuery_decodes rfl rfl rfl]
  decide +kernel

/-- the 17-octet root query, answered authoritatively: ID echoed, `85` = QR AA RD, `80` = RA +
    NOERROR, 1 question / 1 answer / 1 authority record, 65 octets; the datagram decodes back to
    exactly the reply message (through `C09_udp_reply_decodes`) -/
def C09ex.authReplyBytes : List UInt8 :=
  [18, 52, 133, 128, 0, 1, 0, 1, 0, 1, 0, 0, 0, 0, 1, 0, 1, 0, 0, 1, 0, 1, 0, 0, 1, 44, 0, 4, 127, 0,
   0, 1, 0, 0, 6, 0, 1, 0, 0, 1, 44, 0, 22, 0, 0, 0, 0, 0, 1, 0, 0, 0, 2, 0, 0, 0, 3, 0, 0, 0, 4, 0,
   0, 0, 5]

example : serveUdp false C09ex.authResolver C09ex.rootQueryBytes = some C09ex.authReplyBytes ∧
    decodeMessage C09ex.authReplyBytes =
      .ok (srvReplyOf false C09ex.rootQuery (.ok (.authoritative [C09ex.aRec] C09ex.soa))) := by
  have hq : handleRawMessage false C09ex.authResolver C09ex.rootQueryBytes
      = some (srvReplyOf false C09ex.rootQuery (.ok (.authoritative [C09ex.aRec] C09ex.soa))) :=
    handleRawMessage_question C09ex.rootQuery_decodes rfl rfl rfl (by decide)
  have he : encodeMessage (srvReplyOf false C09ex.rootQuery
      (.ok (.authoritative [C09ex.aRec] C09ex.soa))) = .ok C09ex.authReplyBytes := by decide +kernel
  exact C09_udp_reply_decodes false C09ex.authResolver C09ex.authResolver_wf _ _ _ hq he (by decide)

/-- the root query with a failing resolver: SERVFAIL, question echoed -/
example : serveUdp false C09ex.failResolver C09ex.rootQueryBytes =
    some [0x12, 0x34, 0x81, 0x82, 0, 1, 0, 0, 0, 0, 0, 0, 0, 0, 1, 0, 1] :=
  (C09_frames_of_fitting_reply false _ _ _ _ C09ex.failResolver_reply
    C09ex.rootQuery_servfail_encodes).1 (by decide)

/-- unknown query type: REFUSED (`85` = RA + RCODE 5), whatever the resolver -/
example (r : ServerResolver) : serveUdp false r C09ex.oddTypeBytes =
    some [0x12, 0x34, 0x81, 0x85, 0, 1, 0, 0, 0, 0, 0, 0, 0, 0xFF, 0, 0, 1] := by
  rw [srv_serveUdp_eq, handleRawMessage_refused C09ex.oddType_decodes rfl rfl
    (triage_one_unknown rfl (by decide))]
  decide +kernel
/-- the hypotheses of `C09_refused` are satisfiable -/
example : ∃ q, C09ex.oddTypeQuery.questions = [q] ∧ questionIsUnknown q = true :=
  ⟨_, rfl, by decide⟩

/-- opcode 2: NOTIMP (`10` = opcode echoed; `84` = RA + RCODE 4) -/
example (r : ServerResolver) : serveUdp true r C09ex.statusBytes =
    some [0, 5, 0x90, 0x84, 0, 0, 0, 0, 0, 0, 0, 0] := by
  have hd : decodeMessage C09ex.statusBytes =
      .ok ⟨⟨5, false, 2, false, false, false, false, 0⟩, [], [], [], []⟩ := by decide +kernel
  rw [srv_serveUdp_eq, handleRawMessage_notimp hd rfl (by decide)]
  decide +kernel

/-- three octets, QR bit set in the third: undecodable, FORMERR for ID 0xABCD -/
example (a : Bool) (r : ServerResolver) : serveUdp a r [0xAB, 0xCD, 0x80] =
    some [0xAB, 0xCD, 0x80, 0x81, 0, 0, 0, 0, 0, 0, 0, 0] := by
  rw [srv_serveUdp_eq, C09_formerr a r _ _ C09ex.qrOctets_undecodable (by decide)]
  exact (C09_formerr_wire _ _ rfl).2.1

/-- one octet: silence; a decodable response: silence -/
example (a : Bool) (r : ServerResolver) : serveUdp a r [7] = none := by
  rw [srv_serveUdp_eq, (C09_reply_iff a r [7]).mpr (.inl (by decide))]; rfl
example (a : Bool) (r : ServerResolver) : serveUdp a r C09ex.responseBytes = none := by
  have hd : decodeMessage C09ex.responseBytes =
      .ok ⟨⟨1, true, 0, false, false, false, false, 0⟩, [], [], [], []⟩ := by decide +kernel
  rw [srv_serveUdp_eq, (C09_reply_iff a r _).mpr (.inr ⟨_, hd, rfl⟩)]; rfl

/-- TCP: 17 octets announced, three delivered → FORMERR behind `00 0C`; one delivered → nothing;
    all delivered → the reply behind its length -/
example (a : Bool) (r : ServerResolver) : serveTcp a r 17 [0x12, 0x34, 1] =
    some [0, 12, 0x12, 0x34, 0x80, 0x81, 0, 0, 0, 0, 0, 0, 0, 0] := by
  rw [C09_tcp_short_read_wire a r 17 [0x12, 0x34, 1] (by decide) (by decide)]
  decide +kernel
example (a : Bool) (r : ServerResolver) : serveTcp a r 17 [0x12] = none := by
  rw [(C09_tcp_short_read a r 17 [0x12]).1 (by decide)]; rfl
example : serveTcp false C09ex.failResolver 17 C09ex.rootQueryBytes =
    some [0, 17, 0x12, 0x34, 0x81, 0x82, 0, 1, 0, 0, 0, 0, 0, 0, 0, 0, 1, 0, 1] :=
  (C09_frames_of_fitting_reply false _ _ _ _ C09ex.failResolver_reply
    C09ex.rootQuery_servfail_encodes).2 (by decide) 17 _ (by decide) rfl

/-- the announced prefix is the message: 5 octets announced in front of the complete 17-octet
    root query (which as a whole decodes and is answered, see above) — `12 34 01 00 00` is
    undecodable, FORMERR; and the reply is that of the 5 octets alone -/
example (a : Bool) (r : ServerResolver) : serveTcp a r 5 C09ex.rootQueryBytes =
    some [0, 12, 0x12, 0x34, 0x80, 0x81, 0, 0, 0, 0, 0, 0, 0, 0] := by
  have hd : decodeMessage [0x12, 0x34, 1, 0, 0] = .error (.headerTooShort 0x1234) := by decide
  rw [(C09_tcp_short_read a r 5 _).2 (by decide),
    show C09ex.rootQueryBytes.take 5 = [0x12, 0x34, 1, 0, 0] from rfl,
    C09_formerr a r _ _ hd (by decide)]
  exact (C09_formerr_wire _ _ rfl).2.2
example (a : Bool) (r : ServerResolver) :
    serveTcp a r 5 C09ex.rootQueryBytes = serveTcp a r 5 [0x12, 0x34, 1, 0, 0] :=
  C09_tcp_message_is_the_announced_prefix a r 5 _ (by decide)
example : ∃ m, decodeMessage C09ex.rootQueryBytes = .ok m := ⟨_, C09ex.rootQuery_decodes⟩
/-- fewer than two octets announced: silence -/
example (a : Bool) (r : ServerResolver) : serveTcp a r 1 C09ex.rootQueryBytes = none :=
  C09_tcp_tiny_prefix_silent a r 1 _ (by decide) (by decide)

/-- framing hypotheses are satisfiable on both sides of each limit -/
example : ∃ out, udpFrame (List.replicate 600 0) = some out :=
  ⟨_, srv_udpFrame_big (by rw [List.length_replicate]; decide)⟩
example : ∃ out, udpFrame (List.replicate 512 0) = some out :=
  ⟨_, srv_udpFrame_small (by rw [List.length_replicate]; decide) (by rw [List.length_replicate]; decide)⟩
example : ∃ out, tcpFrame (List.replicate 70000 0) = some out :=
  ⟨_, srv_tcpFrame_big (by rw [List.length_replicate]; decide)⟩
example : udpFrame [1, 2, 7, 4, 5, 6, 7, 8, 9, 10, 11, 12] = some [1, 2, 5, 4, 5, 6, 7, 8, 9, 10, 11, 12] := by
  decide +kernel
/-- the resolver hypotheses of `C09_udp_reply_decodes` / `C09_no_fallback_for_serialisable_resolver` -/
example : ∀ q b, srvResultWF (C09ex.authResolver q b) := C09ex.authResolver_wf
example : ∀ q b rec, C09ex.authResolver q b = .ok rec → rec.rrs.length < 65536 := by
  intro q b rec h; cases h; decide

/-! ## 16. The server's decision logic as translated from the source

`bin/extract.py` regenerates `Gen.triageLogic`, `Gen.buildResponseLogic`, `Gen.handleRawMessageLogic`
and `Gen.serialiseResponseLogic` from `crates/resolved/src/main.rs` on every run: the bodies of the
four functions, line by line, with logging and metrics removed.  The theorems below equate them with the
text the hand-written model (`Model/Server.lean`: `triage`, `resolveAndBuildResponse`,
`handleRawMessage`, `serialiseResponse`) was written from, so that an edit of the Rust decision
logic breaks a proof obligation even where no generated datagram reaches the changed branch; the
check then searches model and implementation for a failing input (streams `server`, `server-real`). -/

theorem C09_triage_logic_from_source : Gen.triageLogic = [
  "if query.questions.is_empty() {",
  "Ok(None)",
  "} else if query.questions.len() == 1 {",
  "let question = &query.questions[0];",
  "if question.is_unknown() {",
  "Err(REFUSED_FOR_UNKNOWN_QTYPE_OR_QCLASS)",
  "} else {",
  "Ok(Some(question))",
  "}",
  "} else {",
  "Err(REFUSED_FOR_MULTIPLE_QUESTIONS)",
  "}"] := rfl

theorem C09_build_response_logic_from_source : Gen.buildResponseLogic = [
  "let mut response = query.make_response();",
  "response.header.recursion_available = !args.authoritative_only;",
  "match triage(&query) {",
  "Err(reason) => {",
  "response.header.rcode = Rcode::Refused;",
  "}",
  "Ok(None) => {}",
  "Ok(Some(question)) => {",
  "let zones = args.zones_lock.read().await;",
  "let (metrics, answer) = resolve(",
  "query.header.recursion_desired && response.header.recursion_available,",
  "args.protocol_mode,",
  "args.upstream_dns_port,",
  "args.forward_address,",
  "&zones,",
  "&args.cache,",
  "question,",
  ")",
  ".await;",
  "let message = match answer {",
  "Ok(rr) => {",
  "match rr {",
  "ResolvedRecord::Authoritative { mut rrs, soa_rr } => {",
  "response.answers.append(&mut rrs);",
  "response.authority.push(soa_rr);",
  "response.header.is_authoritative = true;",
  "}",
  "ResolvedRecord::AuthoritativeNameError { soa_rr } => {",
  "response.authority.push(soa_rr);",
  "response.header.rcode = Rcode::NameError;",
  "response.header.is_authoritative = true;",
  "}",
  "ResolvedRecord::NonAuthoritative { mut rrs, soa_rr } => {",
  "response.answers.append(&mut rrs);",
  "if let Some(soa_rr) = soa_rr {",
  "response.authority.push(soa_rr);",
  "}",
  "response.header.is_authoritative = false;",
  "}",
  "}",
  "\"ok\".to_string()",
  "}",
  "Err(err) => format!(\"error: {err}\"),",
  "};",
  "}",
  "}",
  "prune_cache_and_update_metrics(&args.cache);",
  "if response.answers.is_empty()",
  "&& response.authority.is_empty()",
  "&& response.header.rcode == Rcode::NoError",
  "{",
  "response.header.rcode = Rcode::ServerFailure;",
  "response.header.is_authoritative = false;",
  "}",
  "response"] := rfl

theorem C09_handle_raw_message_logic_from_source : Gen.handleRawMessageLogic = [
  "let res = Message::from_octets(buf);",
  "match res {",
  "Ok(msg) => {",
  "if msg.header.is_response {",
  "None",
  "} else if msg.header.opcode == Opcode::Standard {",
  "Some(resolve_and_build_response(args, msg).await)",
  "} else {",
  "let mut response = msg.make_response();",
  "response.header.rcode = Rcode::NotImplemented;",
  "Some(response)",
  "}",
  "}",
  "Err(err) => err.id().map(Message::make_format_error_response),",
  "}"] := rfl

theorem C09_serialise_response_logic_from_source : Gen.serialiseResponseLogic = [
  "match message.to_octets() {",
  "Ok(serialised) => Some((message, serialised)),",
  "Err(error) => {",
  "let mut fallback = message;",
  "fallback.answers.clear();",
  "fallback.authority.clear();",
  "fallback.additional.clear();",
  "fallback.header.rcode = Rcode::ServerFailure;",
  "fallback.header.is_authoritative = false;",
  "match fallback.to_octets() {",
  "Ok(serialised) => Some((fallback, serialised)),",
  "Err(error) => {",
  "None",
  "}",
  "}",
  "}",
  "}"] := rfl

end Resolved
