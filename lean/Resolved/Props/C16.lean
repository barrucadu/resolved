/-
  C16 — Domain names are always well-formed and compared case-insensitively: every constructor (labels, dotted
  text, relative text, origin join, wire) yields a `WFName`, `from_labels` and `from_dotted_string` accept exactly
  what their specifications say, labels are lower-cased.  The lemmas about the model are in Proofs/NameLemmas.lean
  and Proofs/WireDecodeLemmas.lean.
-/
import Resolved.Proofs.WireDecodeLemmas

namespace Resolved

open Gen

/-- The property's notion of a well-formed name: absolute (last label empty), no other empty label,
    labels ≤ 63 octets, ≤ 255 octets in all, recorded length = encoded length, no upper-case ASCII.
    (`NameWF` of Spec/Wire.lean has the same body.) -/
def WFName (n : Name) : Prop :=
  LabelsShape n.labels ∧ (∀ l ∈ n.labels, LabelOK l) ∧
  n.len = n.labels.length + sumLen n.labels ∧ n.len ≤ DOMAINNAME_MAX_LEN

/-- The limits are the RFC 1035 ones (re-checked against the generated constants on every run). -/
theorem C16_limits : LABEL_MAX_LEN = 63 ∧ DOMAINNAME_MAX_LEN = 255 := ⟨LABEL_MAX_LEN_eq, DOMAINNAME_MAX_LEN_eq⟩

/-- `Label::try_from` rejects exactly the octet strings longer than 63. -/
theorem C16_label_rejects (bs : List UInt8) : Label.tryFrom bs = none ↔ bs.length > 63 := by
  rw [Label.tryFrom_eq]
  by_cases h : bs.length ≤ 63
  · rw [if_pos h]; exact ⟨fun h' => (nomatch h'), fun h' => absurd h (Nat.not_le_of_gt h')⟩
  · rw [if_neg h]; exact ⟨fun _ => Nat.lt_of_not_le h, fun _ => rfl⟩

/-- What `Label::try_from` accepts comes out at most 63 octets long with every ASCII letter lower-cased. -/
theorem C16_label_ok (bs : List UInt8) (l : Label) (h : Label.tryFrom bs = some l) :
    LabelOK l ∧ l = bs.map lowerByte := by
  have := Label.tryFrom_some h; exact ⟨this.2.2, this.1⟩

/-- Labels differing only in ASCII letter case become the same label. -/
theorem C16_label_case_insensitive (bs bs' : List UInt8)
    (h : bs.map lowerByte = bs'.map lowerByte) : Label.tryFrom bs = Label.tryFrom bs' := by
  have hl : bs.length = bs'.length := by simpa using congrArg List.length h
  unfold Label.tryFrom; rw [hl, h]

theorem C16_lower_idempotent (b : UInt8) : lowerByte (lowerByte b) = lowerByte b :=
  lowerByte_of_not_upper _ (lowerByte_not_upper b)

/-- `from_labels` accepts exactly the label sequences of the right shape within 255 octets,
    for *every* label sequence (not only at sampled boundaries). -/
theorem C16_fromLabels_rejects (ls : List Label) :
    Name.fromLabels ls = none ↔ ¬ (LabelsShape ls ∧ ls.length + sumLen ls ≤ 255) := by
  rw [Name.fromLabels_eq, DOMAINNAME_MAX_LEN_eq]
  by_cases h : LabelsShape ls ∧ ls.length + sumLen ls ≤ 255
  · rw [if_pos h]; exact ⟨fun h' => (nomatch h'), fun h' => absurd h h'⟩
  · rw [if_neg h]; exact ⟨fun _ => h, fun _ => rfl⟩

/-- Every name `from_labels` builds from `LabelOK` labels (in Rust a `Label` is that by construction, in the model
    any octet list) is well-formed, with `len` = its encoded length. -/
theorem C16_fromLabels_wf (ls : List Label) (n : Name) (hok : ∀ l ∈ ls, LabelOK l)
    (h : Name.fromLabels ls = some n) : WFName n ∧ n.labels = ls := by
  obtain ⟨hs, hle, rfl⟩ := Name.fromLabels_eq_some.mp h
  exact ⟨⟨hs, hok, rfl, DOMAINNAME_MAX_LEN_eq ▸ hle⟩, rfl⟩

theorem C16_root_wf : WFName Name.root := by unfold WFName; decide

theorem C16_fromDotted_wf (s : List UInt8) (n : Name) (h : Name.fromDotted s = some n) : WFName n := by
  rcases Name.fromDotted_inv h with rfl | ⟨hf, h63⟩
  · exact C16_root_wf
  · refine (C16_fromLabels_wf _ n (fun l hl => ?_) hf).1
    obtain ⟨c, hc, rfl⟩ := List.mem_map.mp hl
    exact labelOK_map_lowerByte (h63 c hc)

theorem C16_makeSubdomainOf_wf (a o n : Name) (ha : WFName a) (ho : WFName o)
    (h : a.makeSubdomainOf o = some n) : WFName n := by
  unfold Name.makeSubdomainOf at h
  refine (C16_fromLabels_wf _ n ?_ h).1
  intro l hl
  simp at hl
  rcases hl with hl | hl
  · exact ha.2.1 l (List.dropLast_subset _ hl)
  · exact ho.2.1 l hl

theorem C16_fromRelativeDotted_wf (o : Name) (s : List UInt8) (n : Name) (ho : WFName o)
    (h : Name.fromRelativeDotted o s = some n) : WFName n := by
  rcases Name.fromRelativeDotted_inv h with rfl | ⟨t, _, h⟩
  · exact ho
  · exact C16_fromDotted_wf t n h

theorem C16_subdomain_iff_suffix (a b : Name) : a.isSubdomainOf b = true ↔ b.labels <:+ a.labels :=
  Name.isSubdomainOf_iff

/-- Names that come off the wire (with or without compression pointers) are well-formed. -/
theorem C16_wire_wf (id : Nat) (buf : List UInt8) (pos : Nat) (n : Name) (e : Nat)
    (h : decodeName id buf pos = .ok (n, e)) : WFName n :=
  decodeName_wf h

/-- non-vacuity: a concrete mixed-case 3-label name goes through `try_from`/`from_labels`. -/
example : Name.fromDotted [87, 119, 87, 46, 69, 120, 46] =
    some ⟨[[119, 119, 119], [101, 120], []], 8⟩ := by decide +kernel

/-! ## exact acceptance of the text form

`dottedOk` (Spec/NameTextSpec.lean) is an independent description of the texts
`DomainName::from_dotted_string` accepts: `.` and the empty text (the root); otherwise the text must
end with a dot and, that dot removed, split at the dots into chunks that are all non-empty, at most 63
octets each, with `Σ (len + 1) + 1 ≤ 255`. -/

theorem C16_fromDotted_root : Name.fromDotted [46] = some Name.root ∧ Name.fromDotted [] = some Name.root :=
  ⟨by decide, by decide⟩

/-- `from_dotted_string` accepts exactly the texts of the specification. -/
theorem C16_fromDotted_accepts_iff (s : List UInt8) : (Name.fromDotted s).isSome = dottedOk s := by
  rw [Name.fromDotted_eq_spec]; cases dottedOk s <;> rfl

/-- The name an accepted text denotes: the lower-cased chunks followed by the root label (just the root
    label for `.` and the empty text), with the wire length of those labels. -/
theorem C16_fromDotted_labels (s : List UInt8) (n : Name) (h : Name.fromDotted s = some n) :
    n.labels = dottedSpecLabels s ∧ n.len = dottedSpecLen s := by
  rw [Name.fromDotted_eq_spec] at h
  split at h
  · cases h; exact ⟨rfl, rfl⟩
  · cases h

/-- the same with the model's `lowerByte`, for a text other than `.` and the empty one. -/
theorem C16_fromDotted_labels_chunks (s : List UInt8) (n : Name) (h : Name.fromDotted s = some n)
    (h1 : s ≠ [46]) (h2 : s ≠ []) :
    n.labels = (splitDots s.dropLast).map (fun c => c.map lowerByte) ++ [[]] := by
  rw [(C16_fromDotted_labels s n h).1]
  unfold dottedSpecLabels
  rw [dottedGuard_false h1 h2, asciiLower_fun_eq]
  rfl

theorem C16_fromDotted_rejects_no_final_dot (s : List UInt8) (hne : s ≠ [])
    (h : s.getLast? ≠ some 46) : Name.fromDotted s = none := by
  rcases dottedText_cases s with rfl | rfl | ⟨t, _, rfl⟩ | ⟨t, b, hb, rfl⟩
  · exact absurd rfl hne
  · exact absurd rfl h
  · exact absurd (by simp) h
  · exact Name.fromDotted_snoc_of_ne t b hb

/-- two consecutive dots anywhere (an empty label inside the name, or two trailing dots): rejected. -/
theorem C16_fromDotted_rejects_double_dot (a b : List UInt8) :
    Name.fromDotted (a ++ 46 :: 46 :: b) = none := by
  have := Name.fromDotted_dot_after_dot (a ++ [46]) b (.inr List.getLast?_concat) (.inl (List.concat_ne_nil _ _))
  rwa [List.append_assoc] at this

theorem C16_fromDotted_rejects_leading_dot (t : List UInt8) (ht : t ≠ []) :
    Name.fromDotted (46 :: t) = none :=
  Name.fromDotted_dot_after_dot [] t (.inl rfl) (.inr ht)

/-! ### non-vacuity (`a` = 97, `b` = 98, `.` = 46) -/

/-- `a..` (two trailing dots), `.a.`, `a..b.` and `a.b` (no final dot) are rejected — by the model and
    by the specification. -/
example : Name.fromDotted [97, 46, 46] = none ∧ dottedOk [97, 46, 46] = false := by decide
example : Name.fromDotted [46, 97, 46] = none ∧ dottedOk [46, 97, 46] = false := by decide
example : Name.fromDotted [97, 46, 46, 98, 46] = none ∧ dottedOk [97, 46, 46, 98, 46] = false := by decide
example : Name.fromDotted [97, 46, 98] = none ∧ dottedOk [97, 46, 98] = false := by decide
example : Name.fromDotted [46, 46] = none ∧ dottedOk [46, 46] = false := by decide

/-- `.` and the empty text give the root; `A.b.` gives `a.b.`. -/
example : Name.fromDotted [46] = some Name.root ∧ Name.fromDotted [] = some Name.root ∧
    dottedOk [46] = true ∧ dottedOk [] = true := by decide
example : Name.fromDotted [65, 46, 98, 46] = some ⟨[[97], [98], []], 5⟩ ∧ dottedOk [65, 46, 98, 46] = true ∧
    dottedSpecLabels [65, 46, 98, 46] = [[97], [98], []] ∧ dottedSpecLen [65, 46, 98, 46] = 5 := by decide +kernel

/-- the limits are met exactly: a 63-octet label is accepted, a 64-octet one is not. -/
example : dottedOk (List.replicate 63 97 ++ [46]) = true ∧ dottedOk (List.replicate 64 97 ++ [46]) = false := by
  decide +kernel

end Resolved
