/-
  C07 — Recursive resolution finds the authoritative answer in any delegation tree: correctness over
  consistent universes (`Spec/UniverseSpec.lean`).  All hypotheses are explicit; the decidable ones are
  discharged by `decide` in the examples at the end.
  * `UniOK U cfg`: a universe `U` of authoritative servers, one name server per zone, glue-complete
    referrals; the resolver runs in only-v4 or prefer-v4 mode and its oracle is FAITHFUL to the universe
    (`authReply`); one address per host, one host per apex, delays under 5 s, glue TTL > 0 (necessary:
    `C07_glue_ttl0_counterexample`).
  * `DelegPath U q R rest Z`: the referrals for `q` lead from the root server `R` through `rest` to `Z`; in a
    `Consistent` universe such a path exists for every question.
  * `UniStart zs q R rest`: the local zones hold the root hints for `R` and nothing else that matters, the
    delays sum up to less than 60 s (the cache is empty: every statement starts from `startCtx`).
  * `QuestionOK q`: an ordinary record type (not AXFR/MAILA/MAILB/ANY), request fits UDP.
  Warm caches and referrals without glue: `Props/C07Universe2.lean`.
-/
import Resolved.Proofs.UniverseExamples

namespace Resolved

open Gen

set_option autoImplicit false

/-- The general form: the result is the expected result of the last server of the path
    (`expectedAt`), the log is one exchange per server of the path, the clock shows the sum of the
    delays, and the question stack is empty again. -/
theorem C07_universe_result {U : Universe} {cfg : RecCfg} (h : UniOK U cfg) {q : Question} (hq : QuestionOK q)
    (hk : rtypeIsUnknown q.qtype = false)
    {R Z : UEntry} {rest : List UEntry} (hp : DelegPath U q R rest Z) (hty : Z.zone.records.Typed)
    {zs : Zones} (hs : UniStart zs q R rest) (d now : Nat) (res : ResolvedRecord)
    (hexp : expectedAt Z q = some res) :
    (resolveRecursive cfg (startCtx zs d now) q).2 = .ok res ∧
    (resolveRecursive cfg (startCtx zs d now) q).1.run.log = (R :: rest).map (·.exchange cfg.port q) ∧
    (resolveRecursive cfg (startCtx zs d now) q).1.run.elapsedMs = totalDelay (R :: rest) ∧
    (resolveRecursive cfg (startCtx zs d now) q).1.run.timedOut = false ∧
    (resolveRecursive cfg (startCtx zs d now) q).1.ctx.stack = [] := by
  obtain ⟨st', h1, hd⟩ := resolveRecursive_coldPath (m := 1) h (Nat.le_refl 1) h.glueTtl hq hk hp hty hexp hs
    (fun _ _ _ _ _ _ hpos => hpos) d now
  rw [h1]
  simp [hd.run, hd.stack, planLog_leg, planDelay_leg]

/-- C07 (happy path).  The zone `Z` at the end of the referrals holds the records `rrs ≠ []` for
    the question's name and type: the resolver returns exactly these records (same owners, types,
    data, TTLs as served), as a non-authoritative answer without SOA. -/
theorem C07_universe_answer {U : Universe} {cfg : RecCfg} (h : UniOK U cfg) {q : Question} (hq : QuestionOK q)
    (hk : rtypeIsUnknown q.qtype = false)
    {R Z : UEntry} {rest : List UEntry} (hp : DelegPath U q R rest Z) (hty : Z.zone.records.Typed)
    {zs : Zones} (hs : UniStart zs q R rest) (d now : Nat) (rrs : List RR) (soa : RR)
    (hres : Z.zone.resolve q.name q.qtype = some (.answer rrs)) (hne : rrs ≠ [])
    (hsoa : Z.zone.soaRR = some soa) :
    (resolveRecursive cfg (startCtx zs d now) q).2 = .ok (.nonAuthoritative rrs none) :=
  (C07_universe_result h hq hk hp hty hs d now _ (expectedAt_answer hres hne hsoa)).1

/-- C07 (NODATA).  The name exists in `Z` but holds no record of the asked type: an empty answer
    with `Z`'s SOA record. -/
theorem C07_universe_nodata {U : Universe} {cfg : RecCfg} (h : UniOK U cfg) {q : Question} (hq : QuestionOK q)
    (hk : rtypeIsUnknown q.qtype = false)
    {R Z : UEntry} {rest : List UEntry} (hp : DelegPath U q R rest Z) (hty : Z.zone.records.Typed)
    {zs : Zones} (hs : UniStart zs q R rest) (d now : Nat) (soa : RR)
    (hres : Z.zone.resolve q.name q.qtype = some (.answer [])) (hsoa : Z.zone.soaRR = some soa) :
    (resolveRecursive cfg (startCtx zs d now) q).2 = .ok (.nonAuthoritative [] (some soa)) :=
  (C07_universe_result h hq hk hp hty hs d now _ (expectedAt_empty Z q soa (Or.inl hres) hsoa)).1

/-- C07 (NXDOMAIN).  The name does not exist in `Z`: an empty answer with `Z`'s SOA record. -/
theorem C07_universe_nxdomain {U : Universe} {cfg : RecCfg} (h : UniOK U cfg) {q : Question} (hq : QuestionOK q)
    (hk : rtypeIsUnknown q.qtype = false)
    {R Z : UEntry} {rest : List UEntry} (hp : DelegPath U q R rest Z) (hty : Z.zone.records.Typed)
    {zs : Zones} (hs : UniStart zs q R rest) (d now : Nat) (soa : RR)
    (hres : Z.zone.resolve q.name q.qtype = some .nameError) (hsoa : Z.zone.soaRR = some soa) :
    (resolveRecursive cfg (startCtx zs d now) q).2 = .ok (.nonAuthoritative [] (some soa)) :=
  (C07_universe_result h hq hk hp hty hs d now _ (expectedAt_empty Z q soa (Or.inr hres) hsoa)).1

/-- C07 (exchanges).  Whatever the last zone says (answer, NODATA or NXDOMAIN), the log of
    exchanges is exactly: the root server, then each server on the path down to `Z` — one UDP
    exchange each, with the question itself, RD = 0, on the configured port — and the resolution
    takes the sum of the servers' delays. -/
theorem C07_universe_exchanges {U : Universe} {cfg : RecCfg} (h : UniOK U cfg) {q : Question} (hq : QuestionOK q)
    (hk : rtypeIsUnknown q.qtype = false)
    {R Z : UEntry} {rest : List UEntry} (hp : DelegPath U q R rest Z) (hty : Z.zone.records.Typed)
    {zs : Zones} (hs : UniStart zs q R rest) (d now : Nat) (hexp : (expectedAt Z q).isSome = true) :
    (resolveRecursive cfg (startCtx zs d now) q).1.run.log =
      (R :: rest).map (fun E => { addr := .a E.addr, port := cfg.port, tcp := false, question := q,
                                  recursionDesired := false }) ∧
    (resolveRecursive cfg (startCtx zs d now) q).1.run.log.length = rest.length + 1 ∧
    (resolveRecursive cfg (startCtx zs d now) q).1.run.elapsedMs = totalDelay (R :: rest) := by
  cases he : expectedAt Z q with
  | none => rw [he] at hexp; cases hexp
  | some res =>
    obtain ⟨_, h2, h3, _, _⟩ := C07_universe_result h hq hk hp hty hs d now res he
    refine ⟨h2, by rw [h2]; simp, h3⟩

/-- … and along the path each server's zone is strictly deeper than the previous one's and encloses
    the question name (when the last zone has an answer for the question at all). -/
theorem C07_universe_strictly_deeper {U : Universe} {q : Question} {Y Z : UEntry} {rest : List UEntry}
    (hp : DelegPath U q Y rest Z) (hz : (Z.zone.resolve q.name q.qtype).isSome = true) :
    List.Pairwise (fun (A B : UEntry) => A.apex.labels.length < B.apex.labels.length) (Y :: rest) ∧
    ∀ E ∈ Y :: rest, q.name.isSubdomainOf E.apex = true :=
  path_strictly_deeper hp hz

/-! ## The single steps, in general form (any oracle, any universe) -/

/-- Completeness of the reply filter for answers (the converse direction of C06's soundness): a
    non-empty answer section made of records owned by the question name, of the asked (ordinary)
    type, of known type and class, is accepted unchanged. -/
theorem C07_filter_accepts_answer (q : Question) (m : Message) (mc : Nat)
    (hq : lookupNat queryTypeFromU16 q.qtype = none) (hne : m.answers ≠ [])
    (hall : ∀ rr ∈ m.answers, rr.name = q.name ∧ rr.rtype = q.qtype ∧ rrIsUnknown rr = false) :
    validateNameserverResponse q m mc = some (.answer m.answers none) :=
  uni_validate_answer q m mc hq hne hall

/-- … for NODATA / NXDOMAIN replies: empty answer, the SOA of a zone enclosing the question name,
    at least as deep as the delegation in use, as the only authority record. -/
theorem C07_filter_accepts_nodata (q : Question) (m : Message) (mc : Nat) (soa : RR)
    (hans : m.answers = []) (hauth : m.authority = [soa]) (hsoa : soa.rtype = RT_SOA)
    (hrc : m.header.rcode = RCODE_NOERROR ∨ m.header.rcode = RCODE_NAMEERROR)
    (hsub : q.name.isSubdomainOf soa.name = true) (hmc : mc ≤ soa.name.labels.length) :
    validateNameserverResponse q m mc = some (.answer [] (some soa)) :=
  uni_validate_nodata q m mc soa hans hauth hsoa hrc hsub hmc

/-- … for referrals: one NS record for a zone enclosing the question name, strictly deeper than the
    delegation in use, with `A` and/or `AAAA` glue for its host: accepted whole (NS + glue), host
    and zone extracted. -/
theorem C07_filter_accepts_referral (q : Question) (m : Message) (mc : Nat) (ns : RR) (zone host : Name)
    (hans : m.answers = []) (hauth : m.authority = [ns])
    (hnsn : ns.name = zone) (hnst : ns.rtype = RT_NS) (hnsf : ns.fields = [.name host])
    (hglue : ∀ g ∈ m.additional, (g.rtype = RT_A ∨ g.rtype = RT_AAAA) ∧ g.name = host)
    (hsub : q.name.isSubdomainOf zone = true) (hmc : mc < zone.labels.length) :
    validateNameserverResponse q m mc = some (.delegation ([ns] ++ m.additional) [host] zone) := by
  have hns : nsTarget ns = some host := nsTarget_eq_some_iff.mpr ⟨hnst, hnsf⟩
  have hh : nsHosts m.authority = [host] := by rw [hauth]; simp [nsHosts, hns, insertSet]
  rw [uni_validate_referral_multi q m mc zone hans (by rw [hauth]; simp)
    (by rw [hauth]; intro rr hr; rw [List.mem_singleton.mp hr]; exact ⟨hnsn, by rw [hns]; rfl⟩)
    (fun g hg => ⟨(hglue g hg).1, by rw [hh, (hglue g hg).2]; simp⟩) hsub hmc, hh, hauth]

/-- One iteration of the candidate loop with SEVERAL candidates: the loop tries the LAST one first;
    if its address is known locally (glue cached) and its server answers in time with a reply the
    filter accepts as an answer, the loop ends there — the other candidates are never contacted. -/
theorem C07_answer_step_multi (cfg : RecCfg) (f : Nat) (st : St) (q : Question) (mc : Nat) (E : UEntry)
    (cands : List Name) (hlast : cands.getLast? = some E.host) (m : Message) (rrs : List RR) (soa : Option RR)
    (hmode : cfg.mode = .onlyV4 ∨ cfg.mode = .preferV4) (hlive : st.run.timedOut = false)
    (hk : UniAddrKnown st.ctx E.host E.addr)
    (ho : cfg.oracle { addr := .a E.addr, port := cfg.port, tcp := false, question := q, recursionDesired := false } =
      { delayMs := E.delayMs, reply := some m })
    (hfit : udpFits q = true) (hd : E.delayMs < EXCHANGE_TIMEOUT_MS)
    (ht : st.run.elapsedMs + E.delayMs < RESOLVE_TIMEOUT_MS)
    (hm : responseMatchesRequest (requestFor q false) m = true)
    (hv : validateNameserverResponse q m mc = some (.answer rrs soa)) :
    candidateLoop cfg (f + 2) st q [] mc cands [] true =
      (⟨((resolveLocal (RECURSION_LIMIT + 1) st.ctx (uniHostQ E.host)).1).cacheInsertAll rrs,
        { log := st.run.log ++ [E.exchange cfg.port q], elapsedMs := st.run.elapsedMs + E.delayMs,
          timedOut := false }⟩, .ok (.nonAuthoritative rrs soa)) := by
  rw [candidateLoop_known_reply cfg f st q mc E.host E.addr E.delayMs cands hlast m hmode hlive hk ho hfit hd ht hm, hv,
    loopAfterReply_answer, prioritisingMerge_nil]
  rfl

/-- … and if the filter accepts the reply as a referral (no glue short-cut), the next iteration
    runs with the referral's hosts, in the order `cfg.hostOrder` gives them, as candidates. -/
theorem C07_referral_accept_step_multi (cfg : RecCfg) (f : Nat) (st : St) (q : Question) (mc : Nat)
    (E : UEntry) (cands : List Name) (hlast : cands.getLast? = some E.host) (m : Message) (rrs : List RR)
    (hosts : List Name) (zone : Name)
    (hmode : cfg.mode = .onlyV4 ∨ cfg.mode = .preferV4) (hlive : st.run.timedOut = false)
    (hk : UniAddrKnown st.ctx E.host E.addr)
    (ho : cfg.oracle { addr := .a E.addr, port := cfg.port, tcp := false, question := q, recursionDesired := false } =
      { delayMs := E.delayMs, reply := some m })
    (hfit : udpFits q = true) (hd : E.delayMs < EXCHANGE_TIMEOUT_MS)
    (ht : st.run.elapsedMs + E.delayMs < RESOLVE_TIMEOUT_MS)
    (hm : responseMatchesRequest (requestFor q false) m = true)
    (hv : validateNameserverResponse q m mc = some (.delegation rrs hosts zone))
    (hg : uni_glueFor q rrs = none) :
    candidateLoop cfg (f + 2) st q [] mc cands [] true =
      candidateLoop cfg (f + 1)
        ⟨((resolveLocal (RECURSION_LIMIT + 1) st.ctx (uniHostQ E.host)).1).cacheInsertAll rrs,
          { log := st.run.log ++ [E.exchange cfg.port q], elapsedMs := st.run.elapsedMs + E.delayMs,
            timedOut := false }⟩ q [] zone.labels.length (cfg.hostOrder hosts) [] true := by
  rw [candidateLoop_known_reply cfg f st q mc E.host E.addr E.delayMs cands hlast m hmode hlive hk ho hfit hd ht hm, hv,
    loopAfterReply_follow _ _ _ _ hosts zone hg]
  rfl

/-- Answer, NODATA and NXDOMAIN alike: the candidate loop with the single candidate `host`
    whose address `addr` the local lookup knows, the server answering in time with a matching
    reply `m` that the filter accepts as an answer (`rrs`, `soa`): the loop ends with exactly these
    records (and SOA), which are cached; one exchange is logged. -/
theorem C07_answer_step (cfg : RecCfg) (f : Nat) (st : St) (q : Question) (mc : Nat) (E : UEntry)
    (m : Message) (rrs : List RR) (soa : Option RR)
    (hmode : cfg.mode = .onlyV4 ∨ cfg.mode = .preferV4) (hlive : st.run.timedOut = false) (hk : UniAddrKnown st.ctx E.host E.addr)
    (ho : cfg.oracle { addr := .a E.addr, port := cfg.port, tcp := false, question := q, recursionDesired := false } =
      { delayMs := E.delayMs, reply := some m })
    (hfit : udpFits q = true) (hd : E.delayMs < EXCHANGE_TIMEOUT_MS)
    (ht : st.run.elapsedMs + E.delayMs < RESOLVE_TIMEOUT_MS)
    (hm : responseMatchesRequest (requestFor q false) m = true)
    (hv : validateNameserverResponse q m mc = some (.answer rrs soa)) :
    candidateLoop cfg (f + 2) st q [] mc [E.host] [] true =
      (⟨((resolveLocal (RECURSION_LIMIT + 1) st.ctx (uniHostQ E.host)).1).cacheInsertAll rrs,
        { log := st.run.log ++ [E.exchange cfg.port q], elapsedMs := st.run.elapsedMs + E.delayMs,
          timedOut := false }⟩, .ok (.nonAuthoritative rrs soa)) :=
  C07_answer_step_multi cfg f st q mc E [E.host] List.getLast?_singleton m rrs soa hmode hlive hk ho hfit hd ht hm hv

/-- … the filter accepts the reply as a referral (no glue short-cut):
    its records are cached and the next iteration runs with the referral's hosts as candidates and
    the referral zone's depth as `match_count`. -/
theorem C07_referral_accept_step (cfg : RecCfg) (f : Nat) (st : St) (q : Question) (mc : Nat)
    (E : UEntry) (m : Message) (rrs : List RR) (hosts : List Name) (zone : Name)
    (hmode : cfg.mode = .onlyV4 ∨ cfg.mode = .preferV4) (hlive : st.run.timedOut = false) (hk : UniAddrKnown st.ctx E.host E.addr)
    (ho : cfg.oracle { addr := .a E.addr, port := cfg.port, tcp := false, question := q, recursionDesired := false } =
      { delayMs := E.delayMs, reply := some m })
    (hfit : udpFits q = true) (hd : E.delayMs < EXCHANGE_TIMEOUT_MS)
    (ht : st.run.elapsedMs + E.delayMs < RESOLVE_TIMEOUT_MS)
    (hm : responseMatchesRequest (requestFor q false) m = true)
    (hv : validateNameserverResponse q m mc = some (.delegation rrs hosts zone))
    (hg : uni_glueFor q rrs = none) :
    candidateLoop cfg (f + 2) st q [] mc [E.host] [] true =
      candidateLoop cfg (f + 1)
        ⟨((resolveLocal (RECURSION_LIMIT + 1) st.ctx (uniHostQ E.host)).1).cacheInsertAll rrs,
          { log := st.run.log ++ [E.exchange cfg.port q], elapsedMs := st.run.elapsedMs + E.delayMs,
            timedOut := false }⟩ q [] zone.labels.length (cfg.hostOrder hosts) [] true :=
  C07_referral_accept_step_multi cfg f st q mc E [E.host] List.getLast?_singleton m rrs hosts zone hmode hlive hk ho hfit hd
    ht hm hv hg

/-! ## Aliases crossing zones -/

/-- C07 (CNAME chains crossing zones, any length).  A resolution PLAN (`UniPlan`) describes how a
    question is resolved leg by leg: each leg follows the referrals for its question from the
    deepest zone whose NS set is cached by then (the root hints for the first leg) down to a zone
    that either holds the answer / NODATA / NXDOMAIN (last leg) or an alias, whose target is the
    question of the next leg (same type and class).  For every plan from the start state (root
    hints, empty cache, empty stack) that fits the fuel and the 60 s budget, `resolveRecursive`
    returns the plan's result — the alias records in order followed by what the last zone holds
    for the final target — after exactly the plan's exchanges, in order, in the plan's time. -/
theorem C07_universe_plan {U : Universe} {cfg : RecCfg} (h : UniOK U cfg) {zs : Zones} {q : Question}
    {ex : List (UEntry × Question)} {n : Nat} {res : ResolvedRecord}
    (hplan : UniPlan U zs [] [] [] q ex n res) (hn : n ≤ REC_FUEL) (ht : planDelay ex < RESOLVE_TIMEOUT_MS)
    (d now : Nat) :
    (resolveRecursive cfg (startCtx zs d now) q).2 = .ok res ∧
    (resolveRecursive cfg (startCtx zs d now) q).1.run.log = planLog cfg.port ex ∧
    (resolveRecursive cfg (startCtx zs d now) q).1.run.elapsedMs = planDelay ex ∧
    (resolveRecursive cfg (startCtx zs d now) q).1.ctx.stack = [] := by
  obtain ⟨K', V', G', A, hr⟩ := RecRuns.plan (cfg := cfg) h hplan (fun _ hC => nomatch hC)
  obtain ⟨st', h1, hd⟩ := hr.recursive hn ht (UniAt.start U zs d now (Nat.le_refl 1))
  rw [h1]
  simp [hd.run, hd.stack]

/-- `UniLeg.says` of a plan and the `hsays` of `UniWalk.last` hold for every zone that files each record under its
    own type: by this lemma a user of `C07_universe_plan` discharges them. -/
theorem C07_zone_says_wf {z : Zone} (ht : z.records.Typed) (q : Question)
    (hq : lookupNat queryTypeFromU16 q.qtype = none) (hk : rtypeIsUnknown q.qtype = false) : ZoneSaysWF z q :=
  uni_zoneSaysWF_of_typed ht q hq hk

/-- C07 (CNAME chains crossing zones, one alias: a plan of two legs).  The referrals for `q` end at
    a zone `Z` where `q`'s name is an alias (`CNAME` record `rr`) for `tn`; the target's own delegation path starts
    at `Y'` — the deepest zone of the first path whose cached NS set encloses the target, or the
    root — and ends at `Z'`.  The resolver returns the alias record followed by exactly what `Z'`
    holds for the target (its records, or nothing and `Z'`'s SOA), after one UDP exchange with each
    server of the first path (question `q`) and then each server of the second (question
    `aliasQ q tn`: the same type and class for the target name) — the cached referrals are
    re-used, the root is not asked again unless `Y'` is the root. -/
theorem C07_universe_cname {U : Universe} {cfg : RecCfg} (h : UniOK U cfg) {q : Question} (hq : QuestionOK q)
    {R Z : UEntry} {rest : List UEntry} (hp : DelegPath U q R rest Z) (hty : Z.zone.records.Typed)
    {tn : Name} {rr : RR} (hcres : Z.zone.resolve q.name q.qtype = some (.cname tn rr))
    (hq' : QuestionOK (aliasQ q tn)) (hk : rtypeIsUnknown q.qtype = false)
    {Y' Z' : UEntry} {rest' : List UEntry} (hp' : DelegPath U (aliasQ q tn) Y' rest' Z')
    (hty' : Z'.zone.records.Typed) {res' : ResolvedRecord} (hexp' : expectedAt Z' (aliasQ q tn) = some res')
    {zs : Zones} (hs : UniStartAlias U zs q tn R rest Y' rest') (d now : Nat) :
    (resolveRecursive cfg (startCtx zs d now) q).2 = .ok (.nonAuthoritative ([rr] ++ res'.rrs) res'.soaRR) ∧
    (resolveRecursive cfg (startCtx zs d now) q).1.run.log =
      (R :: rest).map (·.exchange cfg.port q) ++ (Y' :: rest').map (·.exchange cfg.port (aliasQ q tn)) ∧
    (resolveRecursive cfg (startCtx zs d now) q).1.run.elapsedMs =
      totalDelay (R :: rest) + totalDelay (Y' :: rest') := by
  have hplan := UniPlan.ofAlias hq (uni_cnameOK hty q tn rr hcres).2 hp (uni_zoneSaysWF_of_typed hty q hq.qtype hk)
    hcres hq' hp' (uni_zoneSaysWF_of_typed hty' (aliasQ q tn) hq'.qtype hk) hexp' hs
  have hfuel := hs.fuel
  obtain ⟨h1, h2, h3, _⟩ := C07_universe_plan h hplan (by omega)
    (by rw [planDelay_append, planDelay_leg, planDelay_leg]; exact hs.time) d now
  refine ⟨h1, ?_, ?_⟩
  · rw [h2]; simp only [planLog, List.map_append, legExchanges, List.map_map, Function.comp_def]
  · rw [h3, planDelay_append, planDelay_leg, planDelay_leg]

/-- … in particular when `Z'` holds records `rrs' ≠ []` for the target: the result is the alias
    record followed by exactly these records. -/
theorem C07_universe_cname_answer {U : Universe} {cfg : RecCfg} (h : UniOK U cfg) {q : Question} (hq : QuestionOK q)
    {R Z : UEntry} {rest : List UEntry} (hp : DelegPath U q R rest Z) (hty : Z.zone.records.Typed)
    {tn : Name} {rr : RR} (hcres : Z.zone.resolve q.name q.qtype = some (.cname tn rr))
    (hq' : QuestionOK (aliasQ q tn)) (hk : rtypeIsUnknown q.qtype = false)
    {Y' Z' : UEntry} {rest' : List UEntry} (hp' : DelegPath U (aliasQ q tn) Y' rest' Z')
    (hty' : Z'.zone.records.Typed) {rrs' : List RR} {soa' : RR}
    (hres' : Z'.zone.resolve tn q.qtype = some (.answer rrs')) (hne : rrs' ≠ []) (hsoa' : Z'.zone.soaRR = some soa')
    {zs : Zones} (hs : UniStartAlias U zs q tn R rest Y' rest') (d now : Nat) :
    (resolveRecursive cfg (startCtx zs d now) q).2 = .ok (.nonAuthoritative (rr :: rrs') none) := by
  have hexp' : expectedAt Z' (aliasQ q tn) = some (.nonAuthoritative rrs' none) :=
    expectedAt_answer (q := aliasQ q tn) hres' hne hsoa'
  exact (C07_universe_cname h hq hp hty hcres hq' hk hp' hty' hexp' hs d now).1

/-! ## Several name servers per zone -/

/-- Completeness of the filter for referrals naming SEVERAL name servers: the NS set of a zone that
    encloses the question name and is strictly deeper than the delegation in use, with `A` / `AAAA`
    glue for hosts it names, is accepted whole; the candidates are all the hosts named (`nsHosts`:
    in order of first occurrence, without duplicates). -/
theorem C07_filter_accepts_multi_referral (q : Question) (m : Message) (mc : Nat) (zone : Name)
    (hans : m.answers = []) (hne : m.authority ≠ [])
    (hns : ∀ rr ∈ m.authority, rr.name = zone ∧ (nsTarget rr).isSome = true)
    (hglue : ∀ g ∈ m.additional, (g.rtype = RT_A ∨ g.rtype = RT_AAAA) ∧ g.name ∈ nsHosts m.authority)
    (hsub : q.name.isSubdomainOf zone = true) (hmc : mc < zone.labels.length) :
    validateNameserverResponse q m mc =
      some (.delegation (m.authority ++ m.additional) (nsHosts m.authority) zone) :=
  uni_validate_referral_multi q m mc zone hans hne hns hglue hsub hmc

/-- C07 with SEVERAL NAME SERVERS PER ZONE (glue-complete).  Zones may be served by
    several servers (entries with the same zone); referrals carry the whole NS set and glue for all
    of it; nothing is assumed about the order `cfg.hostOrder` in which the resolver tries the hosts
    of a referral (a Rust `HashSet` iteration order): at each level the server contacted is the
    one whose host comes last in that order (`DelegPathM`).  The resolver returns what the last
    zone holds for the question, after exactly one UDP exchange per level — the other name servers
    of a zone are never contacted. -/
theorem C07_universe_multi {U : Universe} {cfg : RecCfg} (h : UniOKM U cfg) {q : Question} (hq : QuestionOK q)
    (hk : rtypeIsUnknown q.qtype = false)
    {R Z : UEntry} {rest vis : List UEntry} (hp : DelegPathM U cfg.hostOrder q R rest vis Z)
    (hty : Z.zone.records.Typed) {zs : Zones} (hs : UniStartM zs q R rest vis) (d now : Nat)
    (res : ResolvedRecord) (hexp : expectedAt Z q = some res) :
    (resolveRecursive cfg (startCtx zs d now) q).2 = .ok res ∧
    (resolveRecursive cfg (startCtx zs d now) q).1.run.log = (R :: rest).map (·.exchange cfg.port q) ∧
    (resolveRecursive cfg (startCtx zs d now) q).1.run.elapsedMs = totalDelay (R :: rest) ∧
    (resolveRecursive cfg (startCtx zs d now) q).1.ctx.stack = [] := by
  obtain ⟨st', h1, hd⟩ := resolveRecursive_coldPathM (m := 1) (UniNet.ofOKM h) (Nat.le_refl 1) h.glueTtl hq hp hexp
    (uni_zoneSaysWF_of_typed hty q hq.qtype hk) hs (fun _ _ _ _ _ _ hpos => hpos) d now
  rw [h1]
  simp [hd.run, hd.stack, planLog_leg, planDelay_leg]

/-! ## Consistent universes: no path in the hypotheses -/

/-- In a consistent universe (every referral of every zone is the single NS record of a strictly
    deeper zone of the universe, naming that zone's host — `Consistent`, for which
    `universeConsistent` is a decidable check: `C07_universe_consistent_check`) the referrals for
    any question, followed from any server, end at a server of the universe that does not refer
    further. -/
theorem C07_universe_path_exists {U : Universe} (hU : Consistent U) (q : Question) (Y : UEntry) (hY : Y ∈ U) :
    ∃ rest Z, DelegPath U q Y rest Z ∧ ∀ ns, Z.zone.resolve q.name q.qtype ≠ some (.delegation ns) :=
  uni_path_exists hU q Y hY

theorem C07_universe_consistent_check (U : Universe) (fuel : Nat) (h : universeConsistent U fuel = true) :
    Consistent U :=
  uni_consistent_of_check U fuel h

/-- C07 over consistent universes.  Root hints for the root server `R`, empty cache, a faithful
    IPv4 resolver, zones keyed consistently, every server answering within `D` ms with
    `D · labels(q) < 60 s`: the referrals for `q` from the root end at a zone `Z` of the universe
    that does not refer further, and whatever `Z` holds for the question — its records for the name
    and type, or nothing (then: empty answer with `Z`'s SOA) — is what `resolveRecursive` returns,
    after exactly one UDP exchange with each server on the way.  (Nothing is said when `Z` holds an alias for the
    question or has no SOA record: `expectedAt Z q` is `none` then; aliases are `C07_universe_plan`.) -/
theorem C07_universe_consistent {U : Universe} {cfg : RecCfg} (h : UniOK U cfg) (hc : Consistent U)
    {q : Question} (hq : QuestionOK q) (hk : rtypeIsUnknown q.qtype = false)
    {R : UEntry} (hR : R ∈ U) (hty : ∀ E ∈ U, E.zone.records.Typed)
    {zs : Zones} {D : Nat} (hs : UniStartAll U zs q R D) (d now : Nat) :
    ∃ rest Z, DelegPath U q R rest Z ∧ Z ∈ U ∧
      (∀ ns, Z.zone.resolve q.name q.qtype ≠ some (.delegation ns)) ∧
      ∀ res, expectedAt Z q = some res →
        (resolveRecursive cfg (startCtx zs d now) q).2 = .ok res ∧
        (resolveRecursive cfg (startCtx zs d now) q).1.run.log = (R :: rest).map (·.exchange cfg.port q) := by
  obtain ⟨rest, Z, hp, hz⟩ := uni_path_exists hc q R hR
  have hZ : Z ∈ U := path_end_mem_universe hp
  refine ⟨rest, Z, hp, hZ, hz, ?_⟩
  intro res hexp
  have hs' := uni_start_of_all hs hp (expectedAt_isSome hexp)
  obtain ⟨h1, h2, _⟩ := C07_universe_result h hq hk hp (hty Z hZ) hs' d now res hexp
  exact ⟨h1, h2⟩

/-- C07 over consistent universes, with the LOCAL ZONES BEING EXACTLY THE ROOT HINTS as
    `Zone::insert` builds them (`. NS host`, `host A addr` for the root server `R`): all hypotheses
    about the local zones reduce to facts about names — the names involved are well-formed
    (`from_labels` accepts them), the question is not one the hints answer (`. NS`, `host A`), no
    other server is called like the root server, and (for `A` questions) the question name is not
    a server's host name.  (As in `C07_universe_consistent`, nothing is said when `Z` holds an alias.) -/
theorem C07_universe_root_hints {U : Universe} {cfg : RecCfg} (h : UniOK U cfg) (hc : Consistent U)
    {q : Question} (hq : QuestionOK q) (hk : rtypeIsUnknown q.qtype = false)
    {R : UEntry} (hR : R ∈ U) (hroot : R.apex = Name.root) (hty : ∀ E ∈ U, E.zone.records.Typed)
    {ttl : Nat} {hz : Zone} (hb : rootHintsZone R.host R.addr ttl = some hz)
    (hRwf : Name.fromLabels R.host.labels = some R.host) (hRne : R.host ≠ Name.root)
    (hqwf : Name.fromLabels q.name.labels = some q.name)
    (hq1 : ¬ (q.name = Name.root ∧ q.qtype = RT_NS)) (hq2 : ¬ (q.name = R.host ∧ q.qtype = RT_A))
    (hhosts : ∀ C ∈ U, C.apex.labels.length ≠ 1 → Name.fromLabels C.host.labels = some C.host ∧ C.host ≠ R.host)
    (hnot : isAddrQ q → ∀ C ∈ U, C.apex.labels.length ≠ 1 → q.name ≠ C.host)
    {D : Nat} (hdelay : ∀ E ∈ U, E.delayMs ≤ D) (htime : D * q.name.labels.length < RESOLVE_TIMEOUT_MS)
    (hfuel : q.name.labels.length + 2 ≤ REC_FUEL) (d now : Nat) :
    ∃ rest Z, DelegPath U q R rest Z ∧ Z ∈ U ∧
      (∀ ns, Z.zone.resolve q.name q.qtype ≠ some (.delegation ns)) ∧
      ∀ res, expectedAt Z q = some res →
        (resolveRecursive cfg (startCtx (Zones.empty.insert hz) d now) q).2 = .ok res ∧
        (resolveRecursive cfg (startCtx (Zones.empty.insert hz) d now) q).1.run.log =
          (R :: rest).map (·.exchange cfg.port q) :=
  have miss := uni_hints_miss R.host R.addr ttl hz hb hRwf hRne
  C07_universe_consistent h hc hq hk hR hty
    ⟨hroot, uni_hints_rootHints R.host R.addr ttl hz hb hRwf hRne, miss q.name hqwf q.qtype hq.qtype hq1 hq2,
      uni_hints_candMiss R.host R.addr ttl hz hb hRwf hRne _,
      fun C hC hd => miss C.host (hhosts C hC hd).1 RT_A (by decide) (fun hh => absurd hh.2 (by decide))
        (fun hh => (hhosts C hC hd).2 hh.1),
      hnot, hdelay, htime, hfuel⟩ d now

/-! ## A hypothesis that cannot be dropped: glue with TTL 0

    `UniOK.glueTtl` asks for glue records with a non-zero TTL.  Without it the statement is FALSE for
    the model — and for the Rust code: the referral branch of `resolve_with_nameserver_response`
    hands the glue to the next iteration only through `context.cache.insert_all(&rrs)`, and
    `SharedCache::insert` drops records with TTL 0; `resolve_hostname_to_ip` then finds no address
    for the in-bailiwick name server locally, tries to resolve it recursively, is referred to the
    very same name server again (duplicate question) and gives up.  (RFC 1035 §3.2.1 / RFC 2181 §8:
    a zero TTL means "use for the transaction in progress, do not cache".) -/

open UniEx in
/-- the example universe with the glue of `n.e.` served with TTL 0 — everything else unchanged, the
    oracle still faithful: `w.x.e. A` is NOT resolved; a dead end after one exchange (the root). -/
theorem C07_glue_ttl0_counterexample :
    Faithful uni0 cfg0 ∧
    (resolveRecursive cfg0 (startCtx UniEx.zones 512 0) qA).2 = .error (.deadEnd qA) ∧
    (resolveRecursive cfg0 (startCtx UniEx.zones 512 0) qA).1.run.log = [eRoot.exchange 53 qA] :=
  ⟨uniCfg_faithful uni0 53 (by decide), by decide +kernel, by decide +kernel⟩

/-! ## Left open

    * Referrals without glue are proved for zones with one name server (`C07_universe_glueless`,
      `Props/C07Universe2.lean`), not inside alias chains (`UniPlan` has no glueless leg).  Several
      name servers per zone are covered for plain resolutions (`C07_universe_multi`), not inside
      alias chains (the restart after an alias uses the cached NS set of a zone, whose order in the
      cache is not tracked: `UniPlan` asks for one host per apex) nor together with glueless referrals.
    * ANY / AXFR / MAILA / MAILB questions, NS questions through aliases, truncated UDP replies with
      TCP retry, more than one question on the stack at the start. -/

/-- NOT PROVED (no lemma about the size of `encodeMessage` is available to this file): the request
    for a question with a well-formed name (`from_labels` accepts it: at most 255 octets) always
    fits a UDP datagram (12 + 255 + 4 ≤ 512), i.e. the hypothesis `QuestionOK.fits` follows from
    the well-formedness of the question name.  It is decidable for every concrete question
    (`decide +kernel` in the examples). -/
def C07_request_fits_udp_statement : Prop :=
  ∀ q : Question, Name.fromLabels q.name.labels = some q.name → udpFits q = true

/-! ## Non-vacuity: the three-level universe `UniEx`

    `.` (server `a.` 1.2.3.4) → `e.` (server `n.e.` 2.2.2.2) → `x.e.` (server `m.x.e.` 3.3.3.3): two
    referrals.  All hypotheses of the theorems hold for the questions `w.x.e. A` (answer: two
    records), `w.x.e. AAAA` (NODATA) and `y.x.e. A` (NXDOMAIN); the theorems' conclusions are
    moreover re-checked by evaluating the model in the kernel. -/

open UniEx in
/-- the hypotheses are satisfiable (all of them, simultaneously, for each of the three questions);
    the root hints zone is the one `Zone::insert` builds. -/
example : UniOK uni UniEx.cfg ∧ rootHintsZone nA 16909060 3600 = some hintsZone ∧
    ∀ q, q = qA ∨ q = qAAAA ∨ q = qNx →
      QuestionOK q ∧ rtypeIsUnknown q.qtype = false ∧ DelegPath uni q eRoot [eE, eXE] eXE ∧
      eXE.zone.records.Typed ∧ UniStart UniEx.zones q eRoot [eE, eXE] := by
  refine ⟨uni_ex_ok, uni_ex_hints_built, ?_⟩
  intro q hq
  have hq5 : q = qA ∨ q = qAAAA ∨ q = qNx ∨ q = qC ∨ q = aliasQ qC nWYE ∨ q = qD := by
    rcases hq with h | h | h <;> simp [h]
  exact ⟨(uni_ex_question q hq5).1, (uni_ex_question q hq5).2, uni_ex_path_three q hq, uni_ex_xe_typed, uni_ex_start q hq⟩

open UniEx in
/-- `w.x.e. A`: by the theorem, exactly the two records of the zone `x.e.` … -/
example (d now : Nat) : (resolveRecursive UniEx.cfg (startCtx UniEx.zones d now) qA).2 =
    .ok (.nonAuthoritative [rrW1, rrW2] none) :=
  C07_universe_answer uni_ex_ok (uni_ex_question qA (Or.inl rfl)).1 (uni_ex_question qA (Or.inl rfl)).2
    (uni_ex_path qA (Or.inl rfl) (Or.inl rfl)) uni_ex_xe_typed (uni_ex_start qA (Or.inl rfl)) d now
    [rrW1, rrW2] soaRRXE uni_ex_resolve_A (by simp) rfl

open UniEx in
/-- … `w.x.e. AAAA`: NODATA with the SOA of `x.e.` … -/
example (d now : Nat) : (resolveRecursive UniEx.cfg (startCtx UniEx.zones d now) qAAAA).2 =
    .ok (.nonAuthoritative [] (some soaRRXE)) :=
  C07_universe_nodata uni_ex_ok (uni_ex_question qAAAA (Or.inr (Or.inl rfl))).1
    (uni_ex_question qAAAA (Or.inr (Or.inl rfl))).2
    (uni_ex_path qAAAA (Or.inl rfl) (Or.inr rfl)) uni_ex_xe_typed (uni_ex_start qAAAA (Or.inr (Or.inl rfl))) d now
    soaRRXE uni_ex_resolve_AAAA rfl

open UniEx in
/-- … `y.x.e. A`: NXDOMAIN with the SOA of `x.e.` … -/
example (d now : Nat) : (resolveRecursive UniEx.cfg (startCtx UniEx.zones d now) qNx).2 =
    .ok (.nonAuthoritative [] (some soaRRXE)) :=
  C07_universe_nxdomain uni_ex_ok (uni_ex_question qNx (Or.inr (Or.inr (Or.inl rfl)))).1
    (uni_ex_question qNx (Or.inr (Or.inr (Or.inl rfl)))).2
    (uni_ex_path qNx (Or.inr (Or.inl rfl)) (Or.inl rfl)) uni_ex_xe_typed (uni_ex_start qNx (Or.inr (Or.inr rfl))) d now
    soaRRXE uni_ex_resolve_nx rfl

open UniEx in
/-- … and the same three results, the three exchanges (1.2.3.4, 2.2.2.2, 3.3.3.3: two referrals, then the answer) and
    the 60 ms of virtual time, by evaluating the model. -/
example :
    (resolveRecursive UniEx.cfg (startCtx UniEx.zones 512 0) qA).2 = .ok (.nonAuthoritative [rrW1, rrW2] none) ∧
    (resolveRecursive UniEx.cfg (startCtx UniEx.zones 512 0) qAAAA).2 = .ok (.nonAuthoritative [] (some soaRRXE)) ∧
    (resolveRecursive UniEx.cfg (startCtx UniEx.zones 512 0) qNx).2 = .ok (.nonAuthoritative [] (some soaRRXE)) ∧
    (resolveRecursive UniEx.cfg (startCtx UniEx.zones 512 0) qA).1.run.log =
      [⟨.a 16909060, 53, false, qA, false⟩, ⟨.a 33686018, 53, false, qA, false⟩, ⟨.a 50529027, 53, false, qA, false⟩] ∧
    (resolveRecursive UniEx.cfg (startCtx UniEx.zones 512 0) qA).1.run.elapsedMs = 60 := by
  decide +kernel

open UniEx in
/-- the hypotheses of `C07_universe_consistent` hold for the example universe (checked by
    `universeConsistent`, `decide`) and the three questions. -/
example : universeConsistent uni 2 = true ∧ Consistent uni ∧ (∀ E ∈ uni, E.zone.records.Typed) ∧ eRoot ∈ uni ∧
    ∀ q, q = qA ∨ q = qAAAA ∨ q = qNx → UniStartAll uni UniEx.zones q eRoot 30 :=
  ⟨uni_ex_consistent_check, uni_ex_consistent, uni_ex_typed, by simp [uni], uni_ex_startAll⟩

open UniEx in
/-- the alias `c.x.e. CNAME w.y.e.` crossing from `x.e.` into `y.e.`: all hypotheses of
    `C07_universe_cname_answer` hold; the result is the alias record followed by `w.y.e. A 9.9.9.9` … -/
example (d now : Nat) : (resolveRecursive UniEx.cfg (startCtx UniEx.zones d now) qC).2 =
    .ok (.nonAuthoritative [rrC, rrWY] none) :=
  C07_universe_cname_answer uni_ex_ok (uni_ex_question qC (by simp)).1
    (uni_ex_path qC (Or.inr (Or.inr rfl)) (Or.inl rfl)) uni_ex_xe_typed uni_ex_resolve_C
    (uni_ex_question (aliasQ qC nWYE) (by simp)).1 (by decide) uni_ex_path_y (uni_ex_typed eYE (by simp [uni]))
    uni_ex_resolve_WY (by simp) (soa' := ⟨nYE, 6, soaYE.toFields, 1, 60⟩) rfl uni_ex_startAlias d now

open UniEx in
/-- … after five exchanges: root, `e.`, `x.e.` for `c.x.e.`, then `e.` (its NS set and glue are
    cached: the root is not asked again) and `y.e.` for `w.y.e.`; checked by evaluating the model. -/
example :
    (resolveRecursive UniEx.cfg (startCtx UniEx.zones 512 0) qC).2 = .ok (.nonAuthoritative [rrC, rrWY] none) ∧
    (resolveRecursive UniEx.cfg (startCtx UniEx.zones 512 0) qC).1.run.log =
      [⟨.a 16909060, 53, false, qC, false⟩, ⟨.a 33686018, 53, false, qC, false⟩, ⟨.a 50529027, 53, false, qC, false⟩,
       ⟨.a 33686018, 53, false, aliasQ qC nWYE, false⟩, ⟨.a 67372036, 53, false, aliasQ qC nWYE, false⟩] := by
  decide +kernel

open UniEx in
/-- the name-level hypotheses of `C07_universe_root_hints` hold for the example universe and
    `w.x.e. A` (the local zones of the example ARE `Zones.empty.insert hintsZone`). -/
example (d now : Nat) : ∃ rest Z, DelegPath uni qA eRoot rest Z ∧ Z ∈ uni ∧
    (∀ ns, Z.zone.resolve qA.name qA.qtype ≠ some (.delegation ns)) ∧
    ∀ res, expectedAt Z qA = some res →
      (resolveRecursive UniEx.cfg (startCtx UniEx.zones d now) qA).2 = .ok res ∧
      (resolveRecursive UniEx.cfg (startCtx UniEx.zones d now) qA).1.run.log =
        (eRoot :: rest).map (·.exchange UniEx.cfg.port qA) :=
  C07_universe_root_hints uni_ex_ok uni_ex_consistent (uni_ex_question qA (by simp)).1 (by decide)
    (by simp [uni]) rfl uni_ex_typed uni_ex_hints_built (by decide) (by decide) (by decide) (by decide) (by decide)
    (by decide +kernel) (fun _ => by decide +kernel) (D := 30) (by decide +kernel) (by decide) (by decide) d now

open UniEx in
/-- an alias of an alias: `d.x.e. CNAME c.x.e.`, `c.x.e. CNAME w.y.e.`, `w.y.e. A 9.9.9.9` — a plan
    of three legs exists, so by `C07_universe_plan` the result is the two alias records followed by
    the address record, after six exchanges … -/
example (d now : Nat) :
    (resolveRecursive UniEx.cfg (startCtx UniEx.zones d now) qD).2 = .ok (.nonAuthoritative [rrD, rrC, rrWY] none) ∧
    (resolveRecursive UniEx.cfg (startCtx UniEx.zones d now) qD).1.run.log =
      [eRoot.exchange 53 qD, eE.exchange 53 qD, eXE.exchange 53 qD, eXE.exchange 53 qC,
       eE.exchange 53 (aliasQ qC nWYE), eYE.exchange 53 (aliasQ qC nWYE)] := by
  obtain ⟨ex, n, hplan, hn, ht, hlog⟩ := uni_ex_plan_D
  obtain ⟨h1, h2, _, _⟩ := C07_universe_plan uni_ex_ok hplan hn ht d now
  exact ⟨h1, by rw [h2]; exact hlog⟩

open UniEx in
/-- … as evaluating the model confirms. -/
example :
    (resolveRecursive UniEx.cfg (startCtx UniEx.zones 512 0) qD).2 = .ok (.nonAuthoritative [rrD, rrC, rrWY] none) ∧
    (resolveRecursive UniEx.cfg (startCtx UniEx.zones 512 0) qD).1.run.log.length = 6 := by
  decide +kernel

open UniEx in
/-- the same in prefer-v4 mode, the referral to `x.e.` carrying `A` and `AAAA` glue
    (its server is dual-stack): by the theorem, and by evaluating the model — the server is
    contacted over IPv4. -/
example (d now : Nat) : (resolveRecursive cfgPrefer (startCtx UniEx.zones d now) qA).2 =
    .ok (.nonAuthoritative [rrW1, rrW2] none) :=
  C07_universe_answer uni_ex_prefer_ok (uni_ex_question qA (Or.inl rfl)).1 (uni_ex_question qA (Or.inl rfl)).2
    (uni_ex_path qA (Or.inl rfl) (Or.inl rfl)) uni_ex_xe_typed (uni_ex_start qA (Or.inl rfl)) d now
    [rrW1, rrW2] soaRRXE uni_ex_resolve_A (by simp) rfl

open UniEx in
example :
    (resolveRecursive cfgPrefer (startCtx UniEx.zones 512 0) qA).2 = .ok (.nonAuthoritative [rrW1, rrW2] none) ∧
    (resolveRecursive cfgPrefer (startCtx UniEx.zones 512 0) qA).1.run.log =
      [eRoot.exchange 53 qA, eE.exchange 53 qA, eXE.exchange 53 qA] ∧
    eXE.glue6RR [8193, 3512, 0, 0, 0, 0, 0, 3] ∈ uniGlue uni [eXE.nsRR 3600] := by
  decide +kernel

open UniEx in
/-- `x.e.` served by `m.x.e.` and `m2.x.e.`; the zone `e.` refers to both, with glue;
    with `hostOrder = id` the loop contacts the host named last, `m2.x.e.` (3.3.3.4), and only that
    one: by the theorem, and by evaluating the model. -/
example (d now : Nat) :
    (resolveRecursive cfgM (startCtx UniEx.zones d now) qA).2 = .ok (.nonAuthoritative [rrW1, rrW2] none) ∧
    (resolveRecursive cfgM (startCtx UniEx.zones d now) qA).1.run.log =
      [eRoot.exchange 53 qA, eEM.exchange 53 qA, eXE2.exchange 53 qA] := by
  obtain ⟨h1, h2, _, _⟩ := C07_universe_multi uni_ex_okM (uni_ex_question qA (Or.inl rfl)).1 (by decide) uni_ex_pathM
    uni_ex_xe_typed uni_ex_startM d now (.nonAuthoritative [rrW1, rrW2] none)
    (expectedAt_answer (soa := soaRRXE) uni_ex_resolve_A (by simp) rfl)
  exact ⟨h1, h2⟩

open UniEx in
example :
    (resolveRecursive cfgM (startCtx UniEx.zones 512 0) qA).2 = .ok (.nonAuthoritative [rrW1, rrW2] none) ∧
    (resolveRecursive cfgM (startCtx UniEx.zones 512 0) qA).1.run.log =
      [eRoot.exchange 53 qA, eEM.exchange 53 qA, eXE2.exchange 53 qA] := by
  decide +kernel

end Resolved
