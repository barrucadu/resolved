/-
  C10 (machine part) — CNAME chains are returned whole, in order, and loops end safely.

  For the recursive and the forwarding machine, any oracle, zones, cache, question:
  * bounded depth: with the question stack at the recursion limit `resolveRec` / `resolveFwd`
    refuse (`RecursionLimit`) without touching anything; a question is only ever pushed while
    the stack is below the limit and does not contain it, so a stack that is within the limit
    and duplicate-free stays so through every primitive step (`C10_recursive_depth_bound`,
    `C10_forwarding_depth_bound`, `C10_stack_discipline`, `C10_stack_invariant`);
  * no alias is followed twice: a question already on the stack is refused
    (`C10_recursive_no_alias_twice`, `C10_forwarding_no_alias_twice`);
  * every function returns with the stack exactly as it got it (`C10_stack_restored`,
    `C10_stack_restored_forwarding`);
  * order: across resolution steps the records of the alias come first, then those of the alias target
    (`C10_combined_order`, `C10_recursive_local_alias_order`, `C10_upstream_alias_order`,
    `C10_forwarding_local_alias_order`).
-/
import Resolved.Proofs.ResolverMachineReach
import Resolved.Proofs.ResolverMachineExample

namespace Resolved

open Gen

set_option autoImplicit false

/-- With the question stack at the recursion limit the recursive resolver refuses, leaving its
    state (context, log, clock) untouched. -/
theorem C10_recursive_depth_bound (cfg : RecCfg) (fuel : Nat) (st : St) (q : Question)
    (ht : st.run.timedOut = false) (h : st.ctx.stack.length = RECURSION_LIMIT) :
    resolveRec cfg (fuel + 1) st q = (st, .error .recursionLimit) :=
  resolveRec_succ .. ▸ machineEntry_atLimit ht h

theorem C10_forwarding_depth_bound (cfg : FwdCfg) (fuel : Nat) (st : St) (q : Question)
    (ht : st.run.timedOut = false) (h : st.ctx.stack.length = RECURSION_LIMIT) :
    resolveFwd cfg (fuel + 1) st q = (st, .error .recursionLimit) :=
  resolveFwd_succ .. ▸ machineEntry_atLimit ht h

/-- A question already on the stack (an alias loop, or a name server whose address depends on
    the question being resolved) is refused instead of being followed again. -/
theorem C10_recursive_no_alias_twice (cfg : RecCfg) (fuel : Nat) (st : St) (q : Question)
    (ht : st.run.timedOut = false) (hl : st.ctx.stack.length ≠ RECURSION_LIMIT) (h : q ∈ st.ctx.stack) :
    resolveRec cfg (fuel + 1) st q = (st, .error (.duplicateQuestion q)) :=
  resolveRec_succ .. ▸ machineEntry_duplicate ht hl h

theorem C10_forwarding_no_alias_twice (cfg : FwdCfg) (fuel : Nat) (st : St) (q : Question)
    (ht : st.run.timedOut = false) (hl : st.ctx.stack.length ≠ RECURSION_LIMIT) (h : q ∈ st.ctx.stack) :
    resolveFwd cfg (fuel + 1) st q = (st, .error (.duplicateQuestion q)) :=
  resolveFwd_succ .. ▸ machineEntry_duplicate ht hl h

/-- Every function of the machine returns with the question stack exactly as it got it (every
    push is matched by a pop on every path, including all error paths). -/
theorem C10_stack_restored (cfg : RecCfg) (fuel : Nat) :
    (∀ st q, (resolveRec cfg fuel st q).1.ctx.stack = st.ctx.stack) ∧
    (∀ st q combined mc cands next locally,
      (candidateLoop cfg fuel st q combined mc cands next locally).1.ctx.stack = st.ctx.stack) ∧
    (∀ st rrs q, (resolveCombined cfg fuel st rrs q).1.ctx.stack = st.ctx.stack) ∧
    (∀ st locally host types, (tryTypes cfg fuel st locally host types).1.ctx.stack = st.ctx.stack) :=
  machine_good_imp cfg fuel (P := fun a b => b.ctx.stack = a.ctx.stack) fun h => h.stack

theorem C10_stack_restored_forwarding (cfg : FwdCfg) (fuel : Nat) (st : St) (q : Question) :
    (resolveFwd cfg fuel st q).1.ctx.stack = st.ctx.stack :=
  (resolveFwd_good cfg fuel st q).stack

/-- Every primitive step (`Reach`: a question is pushed only under the guards "stack below the limit"
    and "question not on the stack") keeps a stack within the limit and without repeated question. -/
theorem C10_stack_discipline (n : Net) (a b : St) (h : Reach n a b)
    (hs : a.ctx.stack.length ≤ RECURSION_LIMIT ∧ a.ctx.stack.Nodup) :
    b.ctx.stack.length ≤ RECURSION_LIMIT ∧ b.ctx.stack.Nodup :=
  h.stackOK hs

/-- … and every function of the machine only makes such steps. -/
theorem C10_stack_invariant (cfg : RecCfg) (fuel : Nat) :
    (∀ st q, Reach cfg.net st (resolveRec cfg fuel st q).1) ∧
    (∀ st q combined mc cands next locally,
      Reach cfg.net st (candidateLoop cfg fuel st q combined mc cands next locally).1) ∧
    (∀ st rrs q, Reach cfg.net st (resolveCombined cfg fuel st rrs q).1) ∧
    (∀ st locally host types, Reach cfg.net st (tryTypes cfg fuel st locally host types).1) :=
  machine_good_imp cfg fuel (P := Reach cfg.net) fun h => h.reach

/-- `resolve_combined_recursive`: the records given (the alias chain so far) come first, then the
    records of the rest of the resolution, with its SOA; `Timeout` is passed on, every other
    failure of the rest becomes a dead end for the alias target. -/
theorem C10_combined_order (cfg : RecCfg) (fuel : Nat) (st : St) (rrs : List RR) (q : Question) :
    (∀ st1 resolved, resolveRec cfg fuel st q = (st1, .ok resolved) →
      resolveCombined cfg (fuel + 1) st rrs q = (st1, .ok (.nonAuthoritative (rrs ++ resolved.rrs) resolved.soaRR))) ∧
    (∀ st1 e, resolveRec cfg fuel st q = (st1, .error e) →
      (resolveCombined cfg (fuel + 1) st rrs q).2 = .error .timeout ∨
      (resolveCombined cfg (fuel + 1) st rrs q).2 = .error .outOfFuel ∨
      (resolveCombined cfg (fuel + 1) st rrs q).2 = .error (.deadEnd q)) := by
  constructor
  · exact fun st1 resolved h => resolveCombined_ok h
  · intro st1 e h
    rw [resolveCombined_succ, h]
    cases e <;> simp [combinedResult]

/-- An alias found in local data: the result is the local alias records followed by the records
    the resolution of the alias target returns. -/
theorem C10_recursive_local_alias_order (cfg : RecCfg) (fuel : Nat) (st : St) (q : Question)
    (rrs : List RR) (cq : Question) (st1 : St) (resolved : ResolvedRecord)
    (ht : st.run.timedOut = false)
    (hloc : (resolveLocal (RECURSION_LIMIT + 1) st.ctx q).2 = .ok (.cname rrs cq))
    (hrest : resolveRec cfg fuel ⟨(resolveLocal (RECURSION_LIMIT + 1) st.ctx q).1.push q, st.run⟩ cq
      = (st1, .ok resolved)) :
    (resolveRec cfg (fuel + 2) st q).2 = .ok (.nonAuthoritative (rrs ++ resolved.rrs) resolved.soaRR) := by
  rw [resolveRec_succ, machineEntry_local_alias ht hloc, resolveCombined_ok hrest]

/-- An alias learnt from an upstream reply: `combined_rrs` merged with the reply's alias records
    come first, then the records of the alias target's resolution. -/
theorem C10_upstream_alias_order (cfg : RecCfg) (fuel : Nat) (st2 : St) (q : Question) (combined rrs : List RR)
    (cname : Name) (st1 : St) (resolved : ResolvedRecord)
    (hrest : resolveRec cfg fuel ⟨st2.ctx.cacheInsertAll rrs, st2.run⟩
      { name := cname, qclass := q.qclass, qtype := q.qtype } = (st1, .ok resolved)) :
    loopAfterReply cfg (fuel + 1) st2 q combined (some (.cname rrs cname)) =
      (st1, .ok (.nonAuthoritative (prioritisingMerge combined rrs ++ resolved.rrs) resolved.soaRR)) := by
  rw [loopAfterReply_alias, resolveCombined_ok hrest]

/-- Forwarding mode, alias found in local data: local alias records first, then the rest. -/
theorem C10_forwarding_local_alias_order (cfg : FwdCfg) (fuel : Nat) (st : St) (q : Question)
    (rrs : List RR) (cq : Question) (st1 : St) (resolved : ResolvedRecord)
    (ht : st.run.timedOut = false)
    (hloc : (resolveLocal (RECURSION_LIMIT + 1) st.ctx q).2 = .ok (.cname rrs cq))
    (hrest : resolveFwd cfg fuel ⟨(resolveLocal (RECURSION_LIMIT + 1) st.ctx q).1.push q, st.run⟩ cq
      = (st1, .ok resolved)) :
    (resolveFwd cfg (fuel + 1) st q).2 = .ok (.nonAuthoritative (rrs ++ resolved.rrs) resolved.soaRR) := by
  rw [resolveFwd_succ, machineEntry_local_alias ht hloc, hrest]
  rfl

/-! ### Non-vacuity -/

/-- a stack at the limit / a repeated question do occur as inputs: -/
example : (resolveRec exCfg 1 ⟨{ exCtx with stack := List.replicate 32 exQ }, Run.empty⟩ exQ).2
    = .error .recursionLimit := by decide +kernel

example : (resolveRec exCfg 1 ⟨{ exCtx with stack := [exQ] }, Run.empty⟩ exQ).2
    = .error (.duplicateQuestion exQ) := by decide +kernel

/-- COUNTEREXAMPLE to "chains are returned in order" for upstream-supplied chains: the records of
    ONE upstream reply are passed on in the order of the reply's answer section (the filter
    `validate_nameserver_response` keeps that order; forwarding passes `response.answers` on
    verbatim).  An upstream that lists `y. A` before `x. CNAME y.` gets exactly that order back:
    the alias record comes AFTER the record of its target.  (Order is by chain only across
    separate resolution steps: `C10_combined_order` and the `…_alias_order` theorems.) -/
example : (resolveRecursive exCfgUnordered exCtx exQ).2 = .ok (.nonAuthoritative [exTargetRR, exCnameRR] none) ∧
    (resolveForwarding exFwdUnordered exCtx exQ).2 = .ok (.nonAuthoritative [exTargetRR, exCnameRR] none) := by
  decide +kernel

/-- the empty stack the wrappers start from satisfies the stack invariant. -/
example : exCtx.stack.length ≤ RECURSION_LIMIT ∧ exCtx.stack.Nodup := by
  constructor
  · decide
  · exact List.nodup_nil

end Resolved
