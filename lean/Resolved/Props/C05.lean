/-
  C05 — The cache never serves a record past its TTL.
  Serving-side clauses for every cache state (under `Inv` where they speak of stored keys); an insertion
  restarts the lifetime of its key without duplicating it; along any history the cache stores, for each key,
  the expiry of its LAST insertion (abstract map of Spec/CacheSpec.lean); the resolver only uses live records.
-/
import Resolved.Proofs.CacheHistory
import Resolved.Proofs.CacheUse

namespace Resolved

/-- Every record `get` returns has a TTL of at least one second. -/
theorem C05_get_ttl_pos (c : PCache) (name : Name) (qtype now : Nat) :
    ∀ rr ∈ (cacheGet c name qtype now).2, rr.ttl > 0 := by
  intro rr h
  obtain ⟨t, _, hl, rfl⟩ := mem_cacheGet.mp h
  exact (mkRR_ttl_pos_iff name now t).mpr hl

/-- TTL-0 records are never stored by the shared cache. -/
theorem C05_ttl0_not_stored (c : PCache) (rr : RR) (now : Nat) (h : rr.ttl = 0) :
    sharedInsert c rr now = c :=
  sharedInsert_zero c now h

/-! ## Insertion (re)starts the lifetime, without duplicating

`tuplesAt c k rk` is the tuple list filed under name `k`, record type `rk` (empty if none);
`storedExpiry c name rtype fields` is the expiry stored for the key `(name, rtype, fields)`. -/

/-- After `upsert k rk v ttl now` the list under `(k, rk)` holds `v` exactly once, with expiry
    `now + ttl` (whatever expiry `v` had before is gone); every other tuple of that list, and every
    other list of the cache, is unchanged. -/
theorem C05_upsert_expiry (c : PCache) (k : Name) (rk : Nat) (v : CRec) (ttl now : Nat)
    (h : Inv c) (hrt : v.rtype = rk) :
    (∀ e, (v, e) ∈ tuplesAt (c.upsert k rk v ttl now) k rk ↔ e = now + ttl) ∧
    ((tuplesAt (c.upsert k rk v ttl now) k rk).map (·.1)).Nodup ∧
    (∀ w e, w ≠ v → ((w, e) ∈ tuplesAt (c.upsert k rk v ttl now) k rk ↔ (w, e) ∈ tuplesAt c k rk)) ∧
    (∀ k' rk', (k' ≠ k ∨ rk' ≠ rk) → tuplesAt (c.upsert k rk v ttl now) k' rk' = tuplesAt c k' rk') := by
  refine ⟨fun e => ?_, (h.upsert k ttl now hrt).tuplesAt_nodup k rk, fun w e hw => ?_,
    fun k' rk' hne => by rw [tuplesAt_upsert, if_neg fun h => hne.elim (· h.1) (· h.2)]⟩
  · rw [mem_tuplesAt_upsert h k ttl now]
    simp
  · rw [mem_tuplesAt_upsert h k ttl now]
    simp [hw]

/-- The same in terms of keys: an insertion sets the stored expiry of its own key to
    `now + ttl` and leaves every other key's stored expiry alone. -/
theorem C05_upsert_storedExpiry (c : PCache) (k : Name) (rk : Nat) (v : CRec) (ttl now : Nat)
    (h : Inv c) (hrt : v.rtype = rk) (k' : Name) (rt : Nat) (fs : List FieldVal) :
    storedExpiry (c.upsert k rk v ttl now) k' rt fs =
      if k' = k ∧ (⟨rt, fs⟩ : CRec) = v then some (now + ttl) else storedExpiry c k' rt fs :=
  storedExpiry_upsert h k ttl now hrt k' rt fs

/-- … and for `Cache::insert`: the record's key expires `ttl` seconds after this insertion. -/
theorem C05_insert_storedExpiry (c : PCache) (rr : RR) (now : Nat) (h : Inv c)
    (k' : Name) (rt : Nat) (fs : List FieldVal) :
    storedExpiry (cacheInsert c rr now) k' rt fs =
      if k' = rr.name ∧ rt = rr.rtype ∧ fs = rr.fields then some (now + rr.ttl * NANOS)
      else storedExpiry c k' rt fs :=
  storedExpiry_cacheInsert h rr now k' rt fs

/-! ## Serving -/

/-- The unchecked lookup (which may return expired records, with TTL 0) still never overstates the
    time left and only returns stored records of the right name and type. -/
theorem C05_unchecked_ttl_le (c : PCache) (name : Name) (qtype now : Nat) (h : Inv c) :
    ∀ rr ∈ (cacheGetUnchecked c name qtype now).2,
      ∃ e, storedExpiry c name rr.rtype rr.fields = some e ∧ rr.ttl * NANOS ≤ e - now ∧
        rr.name = name ∧ rtypeMatches rr.rtype qtype = true := by
  intro rr hu
  rw [cacheGetUnchecked_snd] at hu
  obtain ⟨t, ht, rfl⟩ := List.mem_map.mp hu
  exact ⟨t.2, (h.storedExpiry_of_mem_hits ht).2, mkRR_ttl_le name now t, rfl, (h.storedExpiry_of_mem_hits ht).1⟩

/-- C05, safety: every record `get` returns is stored, its stored expiry is strictly in the
    future, the TTL it reports is at least one second and no more than the time left, and it
    answers the question asked. -/
theorem C05_never_stale (c : PCache) (name : Name) (qtype now : Nat) (h : Inv c) :
    ∀ rr ∈ (cacheGet c name qtype now).2,
      ∃ e, storedExpiry c name rr.rtype rr.fields = some e ∧ now < e ∧ 1 ≤ rr.ttl ∧
        rr.ttl * NANOS ≤ e - now ∧ rr.name = name ∧ rtypeMatches rr.rtype qtype = true := by
  intro rr hrr
  obtain ⟨t, ht, rfl, hlt, hpos, hle⟩ := mem_cacheGet_live hrr
  exact ⟨t.2, (h.storedExpiry_of_mem_hits ht).2, hlt, hpos, hle, rfl, (h.storedExpiry_of_mem_hits ht).1⟩

/-- C05, liveness: a stored record with at least one full second left is returned by every
    lookup whose query type it matches (no invariant needed: the lookup is keyed the same way). -/
theorem C05_live_is_returned (c : PCache) (name : Name) (qtype now : Nat) (rt : Nat)
    (fs : List FieldVal) (e : Nat) (hst : storedExpiry c name rt fs = some e) (hlive : now + NANOS ≤ e)
    (hm : rtypeMatches rt qtype = true) :
    ∃ rr ∈ (cacheGet c name qtype now).2, rr.rtype = rt ∧ rr.fields = fs ∧ rr.name = name := by
  rw [storedExpiry_eq] at hst
  exact ⟨mkRR name now (⟨rt, fs⟩, e), mem_cacheGet.mpr ⟨_, mem_hits_of hm (AL.mem_of_get hst), hlive, rfl⟩, rfl, rfl, rfl⟩

/-- No (type, data) is returned twice by one lookup. -/
theorem C05_get_nodup (c : PCache) (name : Name) (qtype now : Nat) (h : Inv c) :
    ((cacheGet c name qtype now).2.map (fun rr => (rr.rtype, rr.fields))).Nodup ∧
    ((cacheGetUnchecked c name qtype now).2.map (fun rr => (rr.rtype, rr.fields))).Nodup :=
  ⟨((List.filter_sublist).map _).nodup (h.cacheGetUnchecked_nodup name qtype now),
    h.cacheGetUnchecked_nodup name qtype now⟩

/-- Lookups never change what is stored (values, expiries, the expiry queue, the counters):
    they only refresh `last_read` and its queue priority. -/
theorem C05_get_preserves_store (c : PCache) (name : Name) (qtype now : Nat) :
    (∀ k rt fs, storedExpiry (cacheGet c name qtype now).1 k rt fs = storedExpiry c k rt fs) ∧
    (∀ k rt fs, storedExpiry (cacheGetUnchecked c name qtype now).1 k rt fs = storedExpiry c k rt fs) ∧
    (∀ k rk, tuplesAt (cacheGet c name qtype now).1 k rk = tuplesAt c k rk) ∧
    (cacheGet c name qtype now).1.expiryPriority = c.expiryPriority ∧
    (cacheGet c name qtype now).1.currentSize = c.currentSize := by
  have hts := cacheGetUnchecked_touches c name qtype now
  have ht := (cacheGetUnchecked_touched_step c name qtype now).expiry_and_size
  exact ⟨fun k rt fs => hts.storedExpiry k rt fs, fun k rt fs => hts.storedExpiry k rt fs,
    fun k rk => hts.tuplesAt k rk, ht.1, ht.2⟩

/-! ## Pruning and whole histories -/

/-- `prune` and the stored expiries: a key is still stored afterwards iff its partition survived
    and its expiry is in the future, and then with the same expiry — pruning never alters a lifetime. -/
theorem C05_prune_stored (c c' : PCache) (now : Nat) (r : Bool × Nat × Nat × Nat) (h : Inv c)
    (hp : c.prune now = some (c', r)) (k : Name) (rt : Nat) (fs : List FieldVal) :
    storedExpiry c' k rt fs =
      if k ∈ AL.keys c'.partitions then
        (storedExpiry c k rt fs).bind (fun e => if e > now then some e else none)
      else none :=
  h.storedExpiry_prune hp k rt fs

/-- The abstract map (`CSpec.State.entries`) after an insertion: the inserted key maps to
    `now + ttl` seconds (TTL 0: nothing changes), every other key is unchanged — so the abstract
    entry of a key is always the expiry of its LAST insertion. -/
theorem C05_abs_insert (m : List (CSpec.Key × Nat)) (rr : RR) (now : Nat) (k : CSpec.Key) :
    absFind (absInsert m rr now) k =
      if rr.ttl > 0 ∧ k = ⟨rr.name, rr.rtype, rr.fields⟩ then some (now + rr.ttl * NANOS) else absFind m k :=
  absFind_insert m rr now k

/-- C05, history level: run any history from the empty cache, concretely (`run`) and abstractly
    (`runBoth … .2`: insertions overwrite the key's entry with `now + ttl`, lookups change nothing,
    a prune only drops the entries the cache dropped).  Then for every key the cache stores exactly
    the abstract entry: the expiry of the key's last insertion, unless pruned since. -/
theorem C05_history (d : Nat) (ops : List CacheOp) (k : CSpec.Key) :
    (runBoth (PCache.new d) [] ops).1 = run d ops ∧
    storedExpiry (run d ops) k.name k.rtype k.fields = absFind (runBoth (PCache.new d) [] ops).2 k := by
  have h1 := runBoth_fst (PCache.new d) [] ops
  refine ⟨h1, ?_⟩
  have := (CacheSim.new d).runBoth (Inv.new d) ops k
  rw [h1] at this
  exact this

/-- … in particular every record served along a history is served within `ttl` seconds of its
    last insertion (never-stale at history level). -/
theorem C05_history_never_stale (d : Nat) (ops : List CacheOp) (name : Name) (qtype now : Nat) :
    ∀ rr ∈ (cacheGet (run d ops) name qtype now).2,
      ∃ e, absFind (runBoth (PCache.new d) [] ops).2 ⟨name, rr.rtype, rr.fields⟩ = some e ∧ now < e ∧
        rr.ttl * NANOS ≤ e - now := by
  intro rr hrr
  obtain ⟨e, hst, hlt, _, hle, _, _⟩ :=
    C05_never_stale (run d ops) name qtype now ((Inv.new d).runFrom ops) rr hrr
  refine ⟨e, ?_, hlt, hle⟩
  rw [← (C05_history d ops ⟨name, rr.rtype, rr.fields⟩).2]; exact hst

/-! ## Non-vacuity on a concrete state -/

/-- `a.` A 1.2.3.4-like record (empty field list stands for the data) with TTL 5 s inserted at
    t = 0: served at 3.5 s with TTL 1, not served at 4.5 s (less than a second left), and a
    re-insertion at 2 s moves the expiry to 7 s without duplicating. -/
example :
    let rr : RR := ⟨⟨[[97], []], 3⟩, 1, [], 1, 5⟩
    let c := sharedInsert (PCache.new 10) rr 0
    storedExpiry c rr.name 1 [] = some (5 * NANOS) ∧
    ((cacheGet c rr.name 1 (3 * NANOS + NANOS / 2)).2.map (·.ttl)) = [1] ∧
    (cacheGet c rr.name 1 (4 * NANOS + NANOS / 2)).2 = [] ∧
    storedExpiry (sharedInsert c rr (2 * NANOS)) rr.name 1 [] = some (7 * NANOS) ∧
    (sharedInsert c rr (2 * NANOS)).currentSize = 1 := by
  decide

/-- a history with a re-insertion, a lookup and a prune at t = 8 s: the abstract map ends with the
    second record only (the first expired at 7 s and was dropped by the prune) -/
example :
    let a : RR := ⟨⟨[[97], []], 3⟩, 1, [], 1, 5⟩
    let b : RR := ⟨⟨[[98], []], 3⟩, 1, [], 1, 60⟩
    let ops : List CacheOp := [.insert a 0, .insert b NANOS, .insert a (2 * NANOS), .get a.name 1 (3 * NANOS),
      .prune (8 * NANOS)]
    (runBoth (PCache.new 10) [] ops).2 = [(⟨b.name, 1, []⟩, 61 * NANOS)] ∧
    storedExpiry (run 10 ops) b.name 1 [] = some (61 * NANOS) ∧
    storedExpiry (run 10 ops) a.name 1 [] = none := by
  decide

/-! ## The resolver never uses an expired cached record

`resolve_local` reads the cache through `SharedCache::get` only (`Ctx.cacheGet`), at the clock
reading `ctx.now`.  Two statements: (B1) every record of an `ok` local result stems from the zones or is
a live record of the cache; (B2) a cached alias is followed only while its CNAME tuple is live.
Vocabulary (Proofs/CacheUse.lean):
* `cu_localRrs r` — ALL the records of a local result `r`, whatever its kind (spelled out in
  `C05_local_result_records`);
* `cu_FromZones zs rr` — `rr` is the SOA record of a configured zone, or `zr.toRR owner` for a zone record
  `zr` held in the exact-name or wildcard map of a node of its tree (`owner` = the query name or the node's);
* `cu_FollowsCachedCname fuel ctx q cnameRR cname` — the level of `resolve_local` at `(ctx, q)`
  follows the cached alias `cnameRR → cname` (`C05_cached_cname_follow_is_the_recursive_call`). -/

/-- the records of each kind of local result: answer, authority (SOA) and referral NS records alike -/
theorem C05_local_result_records :
    (∀ rrs soa, cu_localRrs (.done (.authoritative rrs soa)) = rrs ++ [soa]) ∧
    (∀ soa, cu_localRrs (.done (.authoritativeNameError soa)) = [soa]) ∧
    (∀ rrs soa, cu_localRrs (.done (.nonAuthoritative rrs soa)) = rrs ++ soa.toList) ∧
    (∀ rrs, cu_localRrs (.partialAnswer rrs) = rrs) ∧
    (∀ rrs soa d, cu_localRrs (.delegation rrs soa d) = rrs ++ soa.toList) ∧
    (∀ rrs cq, cu_localRrs (.cname rrs cq) = rrs) :=
  ⟨fun _ _ => rfl, fun _ => rfl, fun _ _ => rfl, fun _ => rfl, fun _ _ _ => rfl, fun _ _ => rfl⟩

/-- B1 without the structural invariant (every cache state, reachable or not): the cache-side
    disjunct then reads "the partition of the record's name holds a tuple with the record's type and
    data whose expiry is strictly later than the clock". -/
theorem C05_resolveLocal_cache_records_live_any_state (fuel : Nat) (ctx : Ctx) (q : Question)
    (r : LocalResult) (h : (resolveLocal fuel ctx q).2 = .ok r) :
    ∀ rr ∈ cu_localRrs r,
      cu_FromZones ctx.zones rr ∨
      ∃ kv ∈ recsAt ctx.cache rr.name, ∃ t ∈ kv.2, t.1.rtype = rr.rtype ∧ t.1.fields = rr.fields ∧
        ctx.now < t.2 ∧ 1 ≤ rr.ttl ∧ rr.ttl * NANOS ≤ t.2 - ctx.now :=
  cu_localRrs_eq r ▸ (resolveLocal_walk h).all_rrs
    (fun hz => ⟨fun rr hrr => .inl ((cu_zones_resolve_fromZones hz).1 rr hrr),
      fun soa hs => .inl ((cu_zones_resolve_fromZones hz).2 soa hs)⟩)
    (fun n t rr hrr => .inr (mem_cacheGet_recsAt ctx.cache n t ctx.now rr hrr))

/-- B1: every record of every `ok` outcome of `resolve_local` (done / partial answer / alias chain /
    referral) either stems from the local zones, or is a record the cache stores under its own
    `(name, type, data)` with an expiry STRICTLY LATER than the clock, and is reported with a TTL of
    at least one second and of no more than the time it has left.  The cache is the one the
    resolution started with (lookups along the way only refresh `last_read`:
    `C05_resolveLocal_store_unchanged`). -/
theorem C05_resolveLocal_cache_records_live (fuel : Nat) (ctx : Ctx) (q : Question) (hinv : Inv ctx.cache)
    (r : LocalResult) (h : (resolveLocal fuel ctx q).2 = .ok r) :
    ∀ rr ∈ cu_localRrs r,
      cu_FromZones ctx.zones rr ∨
      ∃ e, storedExpiry ctx.cache rr.name rr.rtype rr.fields = some e ∧ ctx.now < e ∧ 1 ≤ rr.ttl ∧
        rr.ttl * NANOS ≤ e - ctx.now := by
  intro rr hrr
  rcases C05_resolveLocal_cache_records_live_any_state fuel ctx q r h rr hrr with
    hz | ⟨kv, hkv, t, ht, hrt, hfs, hlt, hpos, hle⟩
  · exact Or.inl hz
  · obtain ⟨_, hst⟩ := hinv.storedExpiry_of_mem (rk := kv.1) (by rw [hinv.tuplesAt_eq_of_mem hkv]; exact ht)
    exact Or.inr ⟨t.2, by rw [← hrt, ← hfs]; exact hst, hlt, hpos, hle⟩

/-- Local resolution changes no stored expiry (it only refreshes `last_read`), so "the cache" in
    B1 is unambiguous. -/
theorem C05_resolveLocal_store_unchanged (fuel : Nat) (ctx : Ctx) (q : Question) (k : Name) (rt : Nat)
    (fs : List FieldVal) :
    storedExpiry (resolveLocal fuel ctx q).1.cache k rt fs = storedExpiry ctx.cache k rt fs :=
  (resolveLocal_looked fuel ctx q).touches.storedExpiry k rt fs

/-- B1 for the authoritative-only mode of `resolve` (what the server sends when recursion is off). -/
theorem C05_auth_only_records_live (ctx : Ctx) (q : Question) (hinv : Inv ctx.cache) (res : ResolvedRecord)
    (h : (resolveAuthoritativeOnly ctx q).2 = .ok res) :
    ∀ rr ∈ res.rrs ++ res.soaRR.toList,
      cu_FromZones ctx.zones rr ∨
      ∃ e, storedExpiry ctx.cache rr.name rr.rtype rr.fields = some e ∧ ctx.now < e ∧ 1 ≤ rr.ttl ∧
        rr.ttl * NANOS ≤ e - ctx.now := by
  obtain ⟨lr, hl, rfl⟩ := resolveAuthoritativeOnly_ok h
  intro rr hrr
  exact C05_resolveLocal_cache_records_live _ ctx q hinv lr hl rr (cu_localRrs_eq lr ▸ LocalResult.allRrs_toResolved lr ▸ hrr)

/-- B2, adequacy of the vocabulary: `cu_FollowsCachedCname` is exactly the situation in which the
    level makes its recursive call for a cached alias — the outcome is then the wrapped outcome of
    resolving the alias target (same type and class) with the question pushed on the stack. -/
theorem C05_cached_cname_follow_is_the_recursive_call (fuel : Nat) (ctx : Ctx) (q : Question) (cnameRR : RR)
    (cname : Name) (hf : cu_FollowsCachedCname fuel ctx q cnameRR cname) :
    ∃ rz, zonePart (resolveLocal fuel) ctx q = (ctx, .inr rz) ∧
      resolveLocal (fuel + 1) ctx q =
        finishPart q rz (cacheCnameFinish cnameRR cname
          (resolveLocal fuel
            ((((ctx.cacheGet q.name q.qtype).1.cacheGet q.name CNAME_QTYPE).1).push q)
            { name := cname, qtype := q.qtype, qclass := q.qclass })) := by
  obtain ⟨rz, hz⟩ := hf.zoneFalls
  obtain ⟨hl, hd, h0, rest, hc⟩ := hf.premises
  exact ⟨rz, hz, by
    rw [cacheCnameFinish_eq _ _ q.qtype q.qclass]
    exact resolveLocal_cache_alias_eq fuel hl hd (ZoneFalls.of_zonePart hz) h0 hf.notCname hc hf.target⟩

/-- B2 in any state: the followed alias is `to_rrs` of a tuple filed under CNAME for the
    question name whose expiry is strictly later than the clock. -/
theorem C05_cached_cname_followed_only_while_live_any_state (fuel : Nat) (ctx : Ctx) (q : Question)
    (cnameRR : RR) (cname : Name) (hf : cu_FollowsCachedCname fuel ctx q cnameRR cname) :
    ∃ t ∈ tuplesAt ctx.cache q.name RT_CNAME, cnameRR = mkRR q.name ctx.now t ∧ ctx.now < t.2 ∧
      1 ≤ cnameRR.ttl ∧ cnameRR.ttl * NANOS ≤ t.2 - ctx.now := by
  obtain ⟨_, _, _, rest, hc⟩ := hf.premises
  obtain ⟨t, ht, he, hlt, hpos, hle⟩ :=
    mem_cacheGet_live (show cnameRR ∈ ctx.reads q.name CNAME_QTYPE from hc ▸ List.mem_cons_self)
  exact ⟨t, hits_typed (qtype := CNAME_QTYPE) rfl ▸ ht, he, hlt, hpos, hle⟩

/-- B2: if `resolve_local` follows a cached CNAME for `q.name`, that CNAME record is the stored key
    `(q.name, CNAME, data)` and its expiry is strictly later than the clock (and its TTL is ≥ 1 and ≤
    the time left). -/
theorem C05_cached_cname_followed_only_while_live (fuel : Nat) (ctx : Ctx) (q : Question) (cnameRR : RR)
    (cname : Name) (hinv : Inv ctx.cache) (hf : cu_FollowsCachedCname fuel ctx q cnameRR cname) :
    cnameRR.name = q.name ∧ cnameRR.rtype = RT_CNAME ∧
    ∃ e, storedExpiry ctx.cache q.name RT_CNAME cnameRR.fields = some e ∧ ctx.now < e ∧
      1 ≤ cnameRR.ttl ∧ cnameRR.ttl * NANOS ≤ e - ctx.now := by
  obtain ⟨t, ht, he, hlt, hpos, hle⟩ :=
    C05_cached_cname_followed_only_while_live_any_state fuel ctx q cnameRR cname hf
  obtain ⟨hrk, hst⟩ := hinv.storedExpiry_of_mem ht
  subst he
  exact ⟨rfl, hrk, t.2, hrk ▸ hst, hlt, hpos, hle⟩

/-- B2, contrapositive: once no CNAME tuple of the question name has a full second left, no cached
    alias is followed (whatever the rest of the cache holds). -/
theorem C05_stale_cached_cname_not_followed (fuel : Nat) (ctx : Ctx) (q : Question)
    (hst : ∀ t ∈ tuplesAt ctx.cache q.name RT_CNAME, t.2 < ctx.now + NANOS) (cnameRR : RR) (cname : Name) :
    ¬ cu_FollowsCachedCname fuel ctx q cnameRR cname := by
  intro hf
  obtain ⟨t, ht, _, _, hpos, hle⟩ :=
    C05_cached_cname_followed_only_while_live_any_state fuel ctx q cnameRR cname hf
  exact absurd (full_second_of_ttl hpos hle) (Nat.not_le.mpr (hst t ht))

/-- non-vacuity (no zones; `k.` CNAME `o.` with TTL 100 s and `o.` A with TTL 50 s cached at t = 0;
    question `k. A`): at 40 s both are live — the alias is followed and the TTLs reported are the
    seconds left; at 70 s only the alias is live — the result is the alias and the question to
    continue with; at 100 s (the alias's expiry reached) nothing is used: dead end.  The fuel 33 is
    `RECURSION_LIMIT + 1`, what `resolve` gives `resolve_local`. -/
example :
    let nK : Name := ⟨[[107], []], 3⟩
    let nO : Name := ⟨[[111], []], 3⟩
    let rrK : RR := ⟨nK, 5, [.name nO], 1, 100⟩
    let rrO : RR := ⟨nO, 1, [.a 7], 1, 50⟩
    let cache := sharedInsertAll (PCache.new 10) [rrK, rrO] 0
    let q : Question := ⟨nK, 1, 1⟩
    let ctx (now : Nat) : Ctx := { zones := Zones.empty, cache := cache, now := now, stack := [] }
    (resolveLocal 33 (ctx (40 * NANOS)) q).2.toOption =
      some (.done (.nonAuthoritative [{ rrK with ttl := 60 }, { rrO with ttl := 10 }] none)) ∧
    (resolveLocal 33 (ctx (70 * NANOS)) q).2.toOption = some (.cname [{ rrK with ttl := 30 }] ⟨nO, 1, 1⟩) ∧
    (match (resolveLocal 33 (ctx (100 * NANOS)) q).2 with | .error e => some e | .ok _ => none)
      = some (.deadEnd q) := by
  decide +kernel

/-- non-vacuity of the hypothesis of B2: in the state above at 40 s the level does follow the cached
    alias (reported with the 60 s it has left), whose stored expiry is 100 s.  (`cu_FollowsCachedCname fuel`
    speaks of the level run with `fuel + 1`: 32 here is the 33 of the example above.) -/
example :
    let nK : Name := ⟨[[107], []], 3⟩
    let nO : Name := ⟨[[111], []], 3⟩
    let rrK : RR := ⟨nK, 5, [.name nO], 1, 100⟩
    let rrO : RR := ⟨nO, 1, [.a 7], 1, 50⟩
    let cache := sharedInsertAll (PCache.new 10) [rrK, rrO] 0
    let q : Question := ⟨nK, 1, 1⟩
    let ctx : Ctx := { zones := Zones.empty, cache := cache, now := 40 * NANOS, stack := [] }
    cu_FollowsCachedCname 32 ctx q { rrK with ttl := 60 } nO ∧
    storedExpiry ctx.cache nK 5 [.name nO] = some (100 * NANOS) ∧ Inv ctx.cache := by
  intro nK nO rrK rrO cache q ctx
  exact ⟨⟨by decide, by decide, ⟨[], rfl⟩, by decide +kernel, by decide, ⟨[], by decide +kernel⟩, by decide +kernel⟩,
    by decide +kernel, (Inv.new 10).sharedInsertAll _ _⟩

end Resolved
