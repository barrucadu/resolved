/-
  C17 — Configuration parsers never crash on any text: the zone-file part (the hosts-file part, `C17_parse_line_total` and
  `C17_hosts_deserialise_total`, is in Props/C14.lean).

  `ZoneText.deserialise` (Model/ZoneText.lean) is a total Lean function: every recursion in the model is
  structural (the tokeniser on the stream, `parseEntry` / `deserialiseLoop` on an explicit fuel), with no
  `partial`, `unsafe` or `implemented_by`; termination with a result or an error holds by construction.
  What is proved: the fuel is never exhausted, because each `tokenise_entry` call consumes a char (so the
  Rust `loop` / `while let` terminate); the escape arithmetic cannot overflow and rejects values above 255;
  the indexing of `parse_rr` & co. is pattern matching under the guards of the Rust, and the one partial
  operation reachable, `from_labels(..).unwrap()` in `ZoneRecords::insert`, is the `DResult.panic` outcome.
  The model is tied to the Rust by the streams `ztext`, `ztext-fuzz`, `ztext-roundtrip` (Impl ≡ Model on
  each case, `catch_unwind` around every call), not by proof.
-/
import Resolved.Proofs.ZoneTextBasics

namespace Resolved

open ZoneText IpText

theorem C17_deserialise_no_fuel (data : List Char) : (deserialise data).isOutOfFuel = false := by
  rw [deserialise_eq_run]
  cases runLoop {} data with
  | error e => rfl
  | ok st => exact buildZone_not_outOfFuel st

/-- By construction the model of `Zone::deserialise` returns a value for every input (a zone, an `Error`, or the
    modelled `unwrap` panic of `ZoneRecords::insert`); the content is that this value is never the model's
    out-of-fuel marker: `C17_deserialise_no_fuel` in these words. -/
theorem C17_zone_parser_total (data : List Char) :
    ∃ r : DResult, deserialise data = r ∧ r.isOutOfFuel = false :=
  ⟨_, rfl, C17_deserialise_no_fuel data⟩

/-- **Progress**: a `tokenise_entry` call on a non-empty stream consumes at least one char
    (and on the empty stream returns no tokens). -/
theorem C17_tokenise_progress (cs : List Char) (toks : List Token) (rest : List Char)
    (h : tokeniseEntry cs = .ok (toks, rest)) :
    (cs ≠ [] → rest.length < cs.length) ∧ (cs = [] → toks = [] ∧ rest = []) := by
  refine ⟨tokeniseEntry_progress h, ?_⟩
  intro hc
  subst hc
  rw [tokeniseEntry_nil] at h
  cases h
  exact ⟨rfl, rfl⟩

/-- the chars `tokenise_escape` takes from the shared iterator are really there (the `skip` counter
    of the structural tokeniser loop never runs past the end of the stream). -/
theorem C17_escape_count (cs : List Char) (o : UInt8) (n : Nat) (h : tokeniseEscape cs = .ok (o, n)) :
    1 ≤ n ∧ n ≤ cs.length := by
  unfold tokeniseEscape at h
  split at h
  · cases h                        -- empty stream
  · rename_i c1 r1
    split at h
    · -- `c1` is a digit: `\DDD`, an error unless two more digits follow and the value fits
      split at h
      · cases h
      · split at h
        · split at h
          · cases h
          · split at h
            · split at h
              · cases h; simp      -- three digits, value ≤ 255: count 3
              · cases h
            · cases h
        · cases h
    · -- `c1` is not a digit: `\X`, count 1 if ASCII
      split at h
      · cases h; simp
      · cases h

/-- **the `loop` of `parse_entry` terminates**: with more fuel than chars in the stream the model
    never runs out of fuel … -/
theorem C17_parse_entry_fuel_suffices (fuel : Nat) (o : Option Name) (pd : Option MaybeWildcard)
    (pt : Option Nat) (s : List Char) (h : s.length < fuel) : parseEntry fuel o pd pt s ≠ .outOfFuel :=
  ((parseEntry_spec fuel o pd pt s).1 h).1

/-- … and an entry it returns has consumed at least one char, so the `while let` of
    `Zone::deserialise` terminates as well. -/
theorem C17_parse_entry_progress (fuel : Nat) (o : Option Name) (pd : Option MaybeWildcard)
    (pt : Option Nat) (s : List Char) (e : Entry) (rest : List Char)
    (h : parseEntry fuel o pd pt s = .ok (some e) rest) : rest.length < s.length :=
  ((parseEntry_spec fuel o pd pt s).2 _ _ h).2 rfl

/-- **`d1 * 100 + d2 * 10 + d3` cannot overflow** (`u32`; at most 999) and values above 255 are
    rejected with `TokeniserUnexpectedEscape` rather than truncated. -/
theorem C17_escape_no_overflow (c1 c2 c3 : Char) (d1 d2 d3 : Nat) (rest : List Char)
    (h1 : toDigit10 c1 = some d1) (h2 : toDigit10 c2 = some d2) (h3 : toDigit10 c3 = some d3) :
    d1 * 100 + d2 * 10 + d3 ≤ 999 ∧
    (d1 * 100 + d2 * 10 + d3 > 255 →
      tokeniseEscape (c1 :: c2 :: c3 :: rest) = .error .tokeniserUnexpectedEscape) ∧
    (d1 * 100 + d2 * 10 + d3 ≤ 255 →
      tokeniseEscape (c1 :: c2 :: c3 :: rest) = .ok (UInt8.ofNat (d1 * 100 + d2 * 10 + d3), 3)) := by
  have := toDigit10_le h1
  have := toDigit10_le h2
  have := toDigit10_le h3
  rw [tokeniseEscape_digits rest h1 h2 h3]
  exact ⟨by omega, fun hgt => if_neg (by omega), fun hle => if_pos hle⟩

/-- a truncated escape (`\`, `\1`, `\12` at the end of the input) is an error, not a panic. -/
theorem C17_escape_truncated :
    tokeniseEscape [] = .error .tokeniserUnexpectedEscape ∧
    tokeniseEscape ['1'] = .error .tokeniserUnexpectedEscape ∧
    tokeniseEscape ['1', '2'] = .error .tokeniserUnexpectedEscape := by
  exact ⟨rfl, rfl, rfl⟩

/-- By construction: `parse_rr` on ANY token vector is an `Ok` or an `Err` — the model has no
    index operation; `tokens[0]`, `tokens[1]`, `tokens[2]`, `tokens[3..]` … are list patterns that
    exist exactly under the Rust's `len() >=` guards.  In particular the empty vector is `WrongLen`. -/
theorem C17_parse_rr_total (o : Option Name) (pd : Option MaybeWildcard) (pt : Option Nat) :
    parseRr o pd pt [] = .error .wrongLen ∧
    ∀ tokens, ∃ r : Except Error Entry, parseRr o pd pt tokens = r :=
  ⟨rfl, fun _ => ⟨_, rfl⟩⟩

/-- `dotted_string_vec[dotted_string_vec.len() - 1]` in `parse_domain` is only reached for a
    non-empty string: the empty string is `ExpectedDomainName`. -/
theorem C17_parse_domain_empty (o : Option Name) : parseDomain o [] = .error .expectedDomainName := rfl

/-- non-vacuity: a concrete record line goes through tokeniser and entry parser
    (`a. 5 IN A 1.2.3.4`). -/
example :
    parseEntry 19 none none none
      ['a', '.', ' ', '5', ' ', 'I', 'N', ' ', 'A', ' ', '1', '.', '2', '.', '3', '.', '4', '\n']
      = .ok (some (.rr { name := ⟨[[97], []], 3⟩, rtype := 1, fields := [.a 16909060], rclass := 1, ttl := 5 })) [] := by
  decide +kernel

end Resolved
