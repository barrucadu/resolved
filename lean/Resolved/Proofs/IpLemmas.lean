/-
  The `Ip` model (std `IpAddr::from_str` / `Display`): parsing inverts printing, and what a parse returns is in range.
  Numbers: the printers emit a numeral (`Numeral`), `readNumber` reads any numeral back.
  Addresses: one step lemma per loop (`readIpv4Loop`, `readGroups`), then the three shapes of IPv6 text.
-/
import Resolved.Proofs.ByteChars

namespace Resolved

namespace Ip

/-! ## digits -/

/-- empty, or starting with a byte that is no digit in the radix: where `readDigits` stops -/
def NoDigitHead (radix : Nat) : List UInt8 → Prop
  | [] => True
  | b :: _ => toDigit radix b = none

theorem decDigit_toNat {d : Nat} (h : d < 10) : (decDigit d).toNat = 48 + d :=
  UInt8.toNat_ofNat_of_lt' (show 48 + d < 256 by omega)

theorem toDigit_decDigit {radix d : Nat} (h : d < 10) (hr : d < radix) :
    toDigit radix (decDigit d) = some d := by
  unfold toDigit
  rw [decDigit_toNat h]
  simp only [Nat.add_sub_cancel_left, Nat.le_add_right, true_and, hr, if_true]
  exact if_neg (fun h' => by omega)

theorem hexDigit_of_lt {d : Nat} (h : d < 10) : hexDigit d = decDigit d := if_pos h

theorem hexDigit_toNat {d : Nat} (h : 10 ≤ d) (h16 : d < 16) : (hexDigit d).toNat = 87 + d :=
  (congrArg UInt8.toNat (if_neg (Nat.not_lt.2 h))).trans
    (UInt8.toNat_ofNat_of_lt' (show 87 + d < 256 by omega))

theorem toDigit16_hexDigit {d : Nat} (h : d < 16) : toDigit 16 (hexDigit d) = some d := by
  by_cases h10 : d < 10
  · rw [hexDigit_of_lt h10]
    exact toDigit_decDigit h10 h
  · simp only [toDigit, hexDigit_toNat (by omega) h, Nat.add_sub_cancel_left]
    rw [if_pos (by omega), if_neg (by omega), if_pos (by omega), if_pos h]

theorem toDigit_48 {radix : Nat} (h : 0 < radix) : toDigit radix 48 = some 0 := by
  have : (48 : UInt8).toNat = 48 := rfl
  simp only [toDigit, this]
  rw [if_neg (by omega), if_pos (by omega)]

theorem readDigits_digit {radix m : Nat} {b : UInt8} {d : Nat} (hd : toDigit radix b = some d)
    (rest : List UInt8) (r c : Nat) (hc : c < m) :
    readDigits radix m (b :: rest) r c = readDigits radix m rest (r * radix + d) (c + 1) := by
  simp only [readDigits, hd]
  rw [if_neg (by omega)]

theorem readDigits_stop {radix : Nat} {rest : List UInt8} (h : NoDigitHead radix rest) (m r c : Nat) :
    readDigits radix m rest r c = some (r, c, rest) := by
  cases rest with
  | nil => rfl
  | cons b t => simp only [readDigits, show toDigit radix b = none from h]

/-! ## numerals: `readNumber` reads back what a digit printer writes -/

/-- `ds` are the digits of `n` in `radix`, most significant first, no leading zero unless it is the only digit, at
    most `m` of them (`m`: the most digits `read_number` accepts) -/
structure Numeral (radix m : Nat) (ds : List Nat) (n : Nat) : Prop where
  lt : ∀ d ∈ ds, d < radix
  length_pos : 0 < ds.length
  length_le : ds.length ≤ m
  head_ne_zero : 1 < ds.length → ds.head? ≠ some 0
  value : ds.foldl (fun r d => r * radix + d) 0 = n

theorem Numeral.single {radix m d : Nat} (hd : d < radix) (hm : 0 < m) : Numeral radix m [d] d where
  lt := fun _ hx => List.mem_singleton.1 hx ▸ hd
  length_pos := Nat.one_pos
  length_le := hm
  head_ne_zero := fun h => absurd h (Nat.lt_irrefl 1)
  value := by rw [List.foldl_cons, List.foldl_nil, Nat.zero_mul, Nat.zero_add]

theorem Numeral.snoc {radix m n : Nat} {ds : List Nat} (h : Numeral radix m ds (n / radix))
    (hn : 0 < n / radix) : Numeral radix (m + 1) (ds ++ [n % radix]) n where
  lt := fun d hd => (List.mem_append.1 hd).elim (h.lt d) fun hd =>
    List.mem_singleton.1 hd ▸ Nat.mod_lt _ (Nat.pos_of_ne_zero fun e => by
      rw [e, Nat.div_zero] at hn
      cases hn)
  length_pos := by rw [List.length_append]; exact Nat.succ_pos _
  length_le := by rw [List.length_append]; exact Nat.succ_le_succ h.length_le
  head_ne_zero := fun _ e => by
    match ds, h with
    | [], h => exact absurd h.length_pos (Nat.lt_irrefl 0)
    | [d], h =>
      have hv : 0 * radix + d = n / radix := h.value
      rw [← hv, Option.some.inj e, Nat.zero_mul] at hn
      exact Nat.lt_irrefl 0 hn
    | d :: d' :: ds, h => exact h.head_ne_zero (Nat.succ_lt_succ (Nat.succ_pos _)) e
  value := by
    rw [List.foldl_append, h.value, List.foldl_cons, List.foldl_nil]
    exact Nat.div_add_mod' n radix

/-- `Numeral.snoc` for a middle digit, in the shape `n / p % radix` the printers write. -/
theorem Numeral.snoc_div {radix m n p : Nat} {ds : List Nat} (h : Numeral radix m ds (n / (p * radix)))
    (hn : 0 < n / (p * radix)) : Numeral radix (m + 1) (ds ++ [n / p % radix]) (n / p) := by
  rw [← Nat.div_div_eq_div_mul] at h hn
  exact h.snoc hn

theorem readDigits_map {radix m : Nat} {dig : Nat → UInt8}
    (hdig : ∀ d, d < radix → toDigit radix (dig d) = some d) (s : List UInt8) :
    ∀ (ds : List Nat) (r c : Nat), (∀ d ∈ ds, d < radix) → c + ds.length ≤ m →
      readDigits radix m (ds.map dig ++ s) r c
        = readDigits radix m s (ds.foldl (fun r d => r * radix + d) r) (c + ds.length)
  | [], _, _, _, _ => rfl
  | d :: ds, r, c, hd, hc => by
    rw [List.length_cons] at hc
    rw [List.map_cons, List.cons_append,
      readDigits_digit (hdig d (hd d List.mem_cons_self)) _ _ _ (by omega),
      readDigits_map hdig s ds _ _ (fun x hx => hd x (List.mem_cons_of_mem _ hx)) (by omega),
      List.foldl_cons, List.length_cons, Nat.add_assoc, Nat.add_comm 1]

theorem readNumber_numeral {radix m mx n : Nat} {z : Bool} {dig : Nat → UInt8}
    (hdig : ∀ d, d < radix → toDigit radix (dig d) = some d) {ds : List Nat}
    (h : Numeral radix m ds n) (hmx : n ≤ mx) {rest : List UInt8} (hr : NoDigitHead radix rest) :
    readNumber radix m z mx (ds.map dig ++ rest) = some (n, rest) := by
  have hrd := readDigits_map (m := m) hdig rest ds 0 0 h.lt (by have := h.length_le; omega)
  rw [readDigits_stop hr, h.value, Nat.zero_add] at hrd
  -- a numeral of two or more digits does not start with '0' = 48, the one byte that reads as digit 0
  have hz : ((ds.map dig ++ rest).head? == some 48 && decide (ds.length > 1)) = false := by
    by_cases h1 : 1 < ds.length
    · have h0 := h.head_ne_zero h1
      cases ds with
      | nil => cases h1
      | cons d ds =>
        have hlt := h.lt d List.mem_cons_self
        have hd := hdig d hlt
        rw [Bool.and_eq_false_iff]
        refine .inl (beq_false_of_ne (fun e => h0 ?_))
        rw [show dig d = 48 from Option.some.inj e, toDigit_48 (Nat.zero_lt_of_lt hlt)] at hd
        rw [List.head?_cons, ← Option.some.inj hd]
    · rw [decide_eq_false h1, Bool.and_false]
  simp only [readNumber, hrd]
  rw [if_neg (Nat.pos_iff_ne_zero.1 h.length_pos), Bool.and_assoc, hz, Bool.and_false,
    if_neg Bool.false_ne_true, if_pos hmx]

theorem readNumber_nondigit {radix : Nat} {s : List UInt8} (h : NoDigitHead radix s)
    (m : Nat) (z : Bool) (mx : Nat) : readNumber radix m z mx s = none := by
  simp only [readNumber, readDigits_stop h]
  rfl

/-! ## separators -/

/-- the separator `read_separator` expects before the item at index `i`: none before the first -/
def sepAt (sep : UInt8) : Nat → List UInt8
  | 0 => []
  | _ + 1 => [sep]

theorem readSeparator_sepAt {α : Type} (sep : UInt8) (i : Nat)
    (f : List UInt8 → Option (α × List UInt8)) (s : List UInt8) :
    readSeparator sep i f (sepAt sep i ++ s) = f s := by
  cases i with
  | zero => rfl
  | succ i => simp only [readSeparator, sepAt, List.cons_append, List.nil_append, readGivenChar,
      Nat.zero_lt_succ, if_true]

theorem readSeparator_zero {α : Type} (sep : UInt8) (f : List UInt8 → Option (α × List UInt8))
    (s : List UInt8) : readSeparator sep 0 f s = f s :=
  readSeparator_sepAt sep 0 f s

theorem readSeparator_succ_cons {α : Type} (sep : UInt8) (i : Nat)
    (f : List UInt8 → Option (α × List UInt8)) (s : List UInt8) :
    readSeparator sep (i + 1) f (sep :: s) = f s :=
  readSeparator_sepAt sep (i + 1) f s

/-! ## IPv4: reading back `showIpv4` -/

theorem showOctet_numeral {n : Nat} (hn : n < 1000) :
    ∃ ds, Numeral 10 3 ds n ∧ showOctet n = ds.map decDigit :=
  if h1 : n < 10 then ⟨_, .single h1 (by decide), if_pos h1⟩
  else if h2 : n < 100 then
    ⟨_, (Numeral.single (Nat.div_lt_of_lt_mul h2) (by decide)).snoc
      (Nat.div_pos (Nat.le_of_not_lt h1) (by decide)), (if_neg h1).trans (if_pos h2)⟩
  else
    ⟨_, ((Numeral.single (Nat.div_lt_of_lt_mul hn) (by decide)).snoc_div (p := 10)
      (Nat.div_pos (Nat.le_of_not_lt h2) (by decide))).snoc
      (Nat.div_pos (Nat.le_of_not_lt h1) (by decide)), (if_neg h1).trans (if_neg h2)⟩

theorem readNumber_showOctet {n : Nat} (hn : n < 256) {rest : List UInt8} (hr : NoDigitHead 10 rest) :
    readNumber 10 3 false 255 (showOctet n ++ rest) = some (n, rest) := by
  obtain ⟨ds, hds, e⟩ := showOctet_numeral (by omega : n < 1000)
  rw [e]
  exact readNumber_numeral (fun d h => toDigit_decDigit h h) hds (by omega) hr

theorem noDigitHead10_dot (i : Nat) (t : List UInt8) : NoDigitHead 10 (sepAt 46 (i + 1) ++ t) := by
  show toDigit 10 46 = none
  decide

theorem readIpv4Loop_showOctet {o : Nat} (ho : o < 256) {s : List UInt8} (hs : NoDigitHead 10 s)
    (n i : Nat) :
    readIpv4Loop (n + 1) i (sepAt 46 i ++ (showOctet o ++ s)) =
      match readIpv4Loop n (i + 1) s with
      | none => none
      | some (gs, s'') => some (o :: gs, s'') := by
  rw [readIpv4Loop, readSeparator_sepAt, readNumber_showOctet ho hs]
  rfl

theorem octetsToU32_horner (a b c d : Nat) :
    octetsToU32 [a, b, c, d] = ((a * 256 + b) * 256 + c) * 256 + d := by
  simp only [octetsToU32, Nat.add_mul, Nat.mul_assoc, Nat.reduceMul]

theorem octetsToU32_octets {a : Nat} (h : a < 4294967296) :
    octetsToU32 [a / 16777216 % 256, a / 65536 % 256, a / 256 % 256, a % 256] = a := by
  -- Horner's rule backwards: `n / 256 * 256 + n % 256 = n` for `a / 65536`, `a / 256`, `a`
  rw [octetsToU32_horner, Nat.mod_eq_of_lt (Nat.div_lt_of_lt_mul h : a / 16777216 < 256),
    show a / 16777216 = a / 65536 / 256 from (Nat.div_div_eq_div_mul a 65536 256).symm, Nat.div_add_mod',
    show a / 65536 = a / 256 / 256 from (Nat.div_div_eq_div_mul a 256 256).symm, Nat.div_add_mod',
    Nat.div_add_mod']

theorem readIpv4Addr_showIpv4 {a : Nat} (h : a < 4294967296) : readIpv4Addr (showIpv4 a) = some (a, []) := by
  have e : showIpv4 a =
      sepAt 46 0 ++ (showOctet (a / 16777216 % 256) ++ (sepAt 46 1 ++ (showOctet (a / 65536 % 256) ++
        (sepAt 46 2 ++ (showOctet (a / 256 % 256) ++ (sepAt 46 3 ++ (showOctet (a % 256) ++ []))))))) := by
    simp only [showIpv4, sepAt, List.append_assoc, List.nil_append, List.append_nil]
  have m : ∀ x, x % 256 < 256 := fun x => Nat.mod_lt _ (by decide)
  rw [e, readIpv4Addr, readIpv4Loop_showOctet (m _) (noDigitHead10_dot 0 _),
    readIpv4Loop_showOctet (m _) (noDigitHead10_dot 1 _),
    readIpv4Loop_showOctet (m _) (noDigitHead10_dot 2 _), readIpv4Loop_showOctet (m _) (s := []) trivial,
    readIpv4Loop]
  simp only [octetsToU32_octets h]

theorem readIpv4Addr_nondigit {s : List UInt8} (h : NoDigitHead 10 s) : readIpv4Addr s = none := by
  rw [readIpv4Addr, readIpv4Loop, readSeparator_zero, readNumber_nondigit h]

/-! ## a successful read: the value is in range, what is left was there before -/

theorem readDigits_mem {radix m : Nat} : ∀ (s : List UInt8) (r c r' c' : Nat) (rest : List UInt8),
    readDigits radix m s r c = some (r', c', rest) → ∀ b ∈ rest, b ∈ s
  | [], r, c, r', c', rest, h, b, hb => by
    simp [readDigits] at h; rw [h.2.2] at hb; exact hb
  | x :: t, r, c, r', c', rest, h, b, hb => by
    unfold readDigits at h
    split at h
    · split at h
      · cases h
      · exact List.mem_cons_of_mem _ (readDigits_mem t _ _ _ _ _ h b hb)
    · simp at h; rw [← h.2.2] at hb; exact hb

theorem readNumber_some {radix m : Nat} {z : Bool} {mx : Nat} {s : List UInt8} {g : Nat}
    {rest : List UInt8} (h : readNumber radix m z mx s = some (g, rest)) : g ≤ mx ∧ ∀ b ∈ rest, b ∈ s := by
  unfold readNumber at h
  split at h
  · cases h
  · rename_i r c rest' hd
    -- `c = 0`, the leading-zero check, then `result.try_into()`
    refine of_ite_eq h (fun _ h => by cases h) (fun _ h => ?_)
    refine of_ite_eq h (fun _ h => by cases h) (fun _ h => ?_)
    refine of_ite_eq h (fun hle h => ?_) (fun _ h => by cases h)
    cases h
    exact ⟨hle, readDigits_mem _ _ _ _ _ _ hd⟩

theorem readSeparator_some {α : Type} {sep : UInt8} {i : Nat} {inner : List UInt8 → Option (α × List UInt8)}
    {s : List UInt8} {r : α × List UInt8} (h : readSeparator sep i inner s = some r) :
    ∃ s0, inner s0 = some r := by
  unfold readSeparator at h
  split at h
  · split at h
    · exact ⟨_, h⟩
    · cases h
  · exact ⟨_, h⟩

theorem readIpv4Loop_bound : ∀ (n i : Nat) (s : List UInt8) (gs : List Nat) (s' : List UInt8),
    readIpv4Loop n i s = some (gs, s') → gs.length = n ∧ ∀ g ∈ gs, g ≤ 255
  | 0, i, s, gs, s', h => by
    simp only [readIpv4Loop, Option.some.injEq, Prod.mk.injEq] at h
    rw [← h.1]; simp
  | n + 1, i, s, gs, s', h => by
    simp only [readIpv4Loop] at h
    split at h
    · cases h
    · rename_i g s1 hsep
      split at h
      · cases h
      · rename_i gs1 s2 hrec
        simp only [Option.some.injEq, Prod.mk.injEq] at h
        obtain ⟨hl, hb⟩ := readIpv4Loop_bound n (i + 1) s1 gs1 s2 hrec
        obtain ⟨s0, h0⟩ := readSeparator_some hsep
        have hg := (readNumber_some h0).1
        rw [← h.1]
        exact ⟨by simp [hl], List.forall_mem_cons.mpr ⟨hg, hb⟩⟩

theorem octetsToU32_lt (gs : List Nat) (hb : ∀ g ∈ gs, g ≤ 255) : octetsToU32 gs < 4294967296 := by
  unfold octetsToU32
  split
  · rename_i a b c d
    have ha := hb a (by simp)
    have hb' := hb b (by simp)
    have hc := hb c (by simp)
    have hd := hb d (by simp)
    omega
  · decide

theorem readIpv4Addr_lt {s : List UInt8} {a : Nat} {rest : List UInt8}
    (h : readIpv4Addr s = some (a, rest)) : a < 4294967296 := by
  unfold readIpv4Addr at h
  split at h
  · rename_i gs s' hl
    cases h
    exact octetsToU32_lt gs (readIpv4Loop_bound _ _ _ _ _ hl).2
  · cases h

theorem readGroups_bound (limit : Nat) : ∀ (n i : Nat) (s : List UInt8), limit ≤ i + n →
    (readGroups limit n i s).1.length ≤ n ∧ ∀ g ∈ (readGroups limit n i s).1, g < 65536
  | 0, i, s, _ => by simp [readGroups]
  | n + 1, i, s, hle => by
    simp only [readGroups]
    split
    · rename_i a s' hv4
      split at hv4
      · rename_i hlt
        obtain ⟨s0, h0⟩ := readSeparator_some hv4
        have ha := readIpv4Addr_lt h0
        refine ⟨by simp; omega, ?_⟩
        intro g hg
        simp only [List.mem_cons, List.not_mem_nil, or_false] at hg
        rcases hg with rfl | rfl
        · exact Nat.div_lt_of_lt_mul ha
        · exact Nat.mod_lt _ (by decide)
      · cases hv4
    · split
      · rename_i g s' hsep
        obtain ⟨s0, h0⟩ := readSeparator_some hsep
        have hg := (readNumber_some h0).1
        obtain ⟨hl, hb⟩ := readGroups_bound limit n (i + 1) s' (by omega)
        exact ⟨Nat.succ_le_succ hl, List.forall_mem_cons.mpr ⟨Nat.lt_succ_of_le hg, hb⟩⟩
      · simp

theorem readIpv6Addr_wf {s : List UInt8} {gs : List Nat} {rest : List UInt8}
    (h : readIpv6Addr s = some (gs, rest)) : gs.length = 8 ∧ ∀ g ∈ gs, g < 65536 := by
  unfold readIpv6Addr at h
  obtain ⟨hl1, hb1⟩ := readGroups_bound 8 8 0 s (Nat.le_refl 8)
  generalize readGroups 8 8 0 s = r1 at h hl1 hb1
  obtain ⟨head, headV4, s1⟩ := r1
  -- eight groups at once, or `head :: tail` around a `::`
  refine of_ite_eq h (fun h8 h => ?_) (fun hne h => of_ite_eq h (fun _ h => by cases h) (fun _ h => ?_))
  · cases h
    exact ⟨h8, hb1⟩
  · split at h
    · cases h
    · split at h
      · cases h
      · rename_i s3 _
        simp only at h
        have hlim : 8 - (head.length + 1) ≤ 0 + (8 - (head.length + 1)) := by omega
        obtain ⟨hl2, hb2⟩ := readGroups_bound _ _ 0 s3 hlim
        generalize readGroups (8 - (head.length + 1)) (8 - (head.length + 1)) 0 s3 = r2 at h hl2 hb2
        obtain ⟨tail, f, s4⟩ := r2
        cases h
        have hl1' : head.length ≤ 8 := hl1
        have hl2' : tail.length ≤ 8 - (head.length + 1) := hl2
        refine ⟨by simp only [List.length_append, List.length_replicate]; omega, ?_⟩
        intro g hg
        simp only [List.mem_append, List.mem_replicate] at hg
        rcases hg with (hg | hg) | hg
        · exact hb1 g hg
        · rw [hg.2]; decide
        · exact hb2 g hg

/-! ## the bytes `Display` produces -/

/-- digits, a–f, ':' and '.' only (so: ASCII, no white space, no '#', no '%') -/
def isAddrByte (b : UInt8) : Bool :=
  (48 ≤ b.toNat && b.toNat ≤ 57) || (97 ≤ b.toNat && b.toNat ≤ 102) || b.toNat == 58 || b.toNat == 46

theorem isAddrByte_iff {b : UInt8} : isAddrByte b = true ↔
    (48 ≤ b.toNat ∧ b.toNat ≤ 57) ∨ (97 ≤ b.toNat ∧ b.toNat ≤ 102) ∨ b.toNat = 58 ∨ b.toNat = 46 := by
  simp only [isAddrByte, Bool.or_eq_true, Bool.and_eq_true, decide_eq_true_eq, beq_iff_eq, or_assoc]

theorem isAddrByte_lt {b : UInt8} (h : isAddrByte b = true) : b.toNat < 128 := by
  have := isAddrByte_iff.mp h
  omega

def isHexColon (b : UInt8) : Bool :=
  (48 ≤ b.toNat && b.toNat ≤ 57) || (97 ≤ b.toNat && b.toNat ≤ 102) || b.toNat == 58

theorem isAddrByte_of_isHexColon {b : UInt8} (h : isHexColon b = true) : isAddrByte b = true := by
  rw [isAddrByte, ← isHexColon, h, Bool.true_or]

theorem isHexColon_hexDigit {d : Nat} (h : d < 16) : isHexColon (hexDigit d) = true := by
  by_cases h10 : d < 10
  · simp only [isHexColon, hexDigit_of_lt h10, decDigit_toNat h10, Bool.or_eq_true,
      Bool.and_eq_true, decide_eq_true_eq]
    omega
  · simp only [isHexColon, hexDigit_toNat (by omega) h, Bool.or_eq_true, Bool.and_eq_true,
      decide_eq_true_eq]
    omega

theorem isAddrByte_decDigit {d : Nat} (h : d < 10) : isAddrByte (decDigit d) = true := by
  rw [← hexDigit_of_lt h]
  exact isAddrByte_of_isHexColon (isHexColon_hexDigit (by omega))

theorem showOctet_bytes {n : Nat} (hn : n < 256) : ∀ b ∈ showOctet n, isAddrByte b = true := by
  obtain ⟨ds, hds, e⟩ := showOctet_numeral (by omega : n < 1000)
  intro b hb
  rw [e] at hb
  obtain ⟨d, hd, rfl⟩ := List.mem_map.1 hb
  exact isAddrByte_decDigit (hds.lt d hd)

theorem showOctet_ne_nil (n : Nat) : showOctet n ≠ [] := by
  unfold showOctet; repeat' split
  all_goals simp

theorem showHex16_numeral {n : Nat} (hn : n < 65536) :
    ∃ ds, Numeral 16 4 ds n ∧ showHex16 n = ds.map hexDigit :=
  if h1 : n < 16 then ⟨_, .single h1 (by decide), if_pos h1⟩
  else if h2 : n < 256 then
    ⟨_, (Numeral.single (Nat.div_lt_of_lt_mul h2) (by decide)).snoc
      (Nat.div_pos (Nat.le_of_not_lt h1) (by decide)), (if_neg h1).trans (if_pos h2)⟩
  else if h3 : n < 4096 then
    ⟨_, ((Numeral.single (Nat.div_lt_of_lt_mul h3) (by decide)).snoc_div (p := 16)
      (Nat.div_pos (Nat.le_of_not_lt h2) (by decide))).snoc
      (Nat.div_pos (Nat.le_of_not_lt h1) (by decide)),
      (if_neg h1).trans ((if_neg h2).trans (if_pos h3))⟩
  else
    ⟨_, (((Numeral.single (Nat.div_lt_of_lt_mul hn) (by decide)).snoc_div (p := 256)
      (Nat.div_pos (Nat.le_of_not_lt h3) (by decide))).snoc_div (p := 16)
      (Nat.div_pos (Nat.le_of_not_lt h2) (by decide))).snoc
      (Nat.div_pos (Nat.le_of_not_lt h1) (by decide)),
      (if_neg h1).trans ((if_neg h2).trans (if_neg h3))⟩

theorem readNumber_showHex16 {n : Nat} (hn : n < 65536) {rest : List UInt8}
    (hr : NoDigitHead 16 rest) :
    readNumber 16 4 true 65535 (showHex16 n ++ rest) = some (n, rest) := by
  obtain ⟨ds, hds, e⟩ := showHex16_numeral hn
  rw [e]
  exact readNumber_numeral (fun _ => toDigit16_hexDigit) hds (by omega) hr

theorem showHex16_bytes {n : Nat} (hn : n < 65536) : ∀ b ∈ showHex16 n, isHexColon b = true := by
  obtain ⟨ds, hds, e⟩ := showHex16_numeral hn
  intro b hb
  rw [e] at hb
  obtain ⟨d, hd, rfl⟩ := List.mem_map.1 hb
  exact isHexColon_hexDigit (hds.lt d hd)

theorem showHex16_ne_nil (n : Nat) : showHex16 n ≠ [] := by
  unfold showHex16; repeat' split
  all_goals simp

theorem fmtSubslice_bytes : ∀ (xs : List Nat), (∀ g ∈ xs, g < 65536) →
    ∀ b ∈ fmtSubslice xs, isHexColon b = true
  | [], _, b, hb => by simp [fmtSubslice] at hb
  | [g], h, b, hb => showHex16_bytes (h g (by simp)) b hb
  | g :: g' :: gs, h, b, hb => by
    simp only [fmtSubslice, List.mem_append, List.mem_singleton] at hb
    rcases hb with (hb | rfl) | hb
    · exact showHex16_bytes (h g (by simp)) b hb
    · decide
    · exact fmtSubslice_bytes (g' :: gs) (fun x hx => h x (by simp [hx])) b hb

theorem fmtSubslice_ne_nil : ∀ (xs : List Nat), xs ≠ [] → fmtSubslice xs ≠ []
  | [], h => absurd rfl h
  | [g], _ => showHex16_ne_nil g
  | g :: g' :: gs, _ => by simp [fmtSubslice]

/-! ## IPv6: text without '.' never parses as IPv4 -/

theorem readGivenChar_none {t : UInt8} {s : List UInt8} (h : t ∉ s) : readGivenChar t s = none := by
  cases s with
  | nil => rfl
  | cons b r => exact if_neg (fun e : b = t => h (e ▸ List.mem_cons_self))

theorem readIpv4Addr_none_of_no_dot {s : List UInt8} (h : (46 : UInt8) ∉ s) : readIpv4Addr s = none := by
  rw [readIpv4Addr, readIpv4Loop, readSeparator_zero]
  cases hn : readNumber 10 3 false 255 s with
  | none => rfl
  | some p =>
    have h' : (46 : UInt8) ∉ p.2 := fun hm => h ((readNumber_some hn).2 _ hm)
    simp only [readIpv4Loop, readSeparator, readGivenChar_none h', Nat.zero_lt_succ, if_true]

theorem readSeparator_v4_none {s : List UInt8} (h : (46 : UInt8) ∉ s) (i : Nat) :
    readSeparator 58 i readIpv4Addr s = none := by
  unfold readSeparator
  split
  · cases s with
    | nil => rfl
    | cons b t =>
      have ht := readIpv4Addr_none_of_no_dot (fun hm => h (List.mem_cons_of_mem b hm))
      by_cases e : b = 58
      · simp only [readGivenChar, if_pos e, ht]
      · simp only [readGivenChar, if_neg e]
  · exact readIpv4Addr_none_of_no_dot h

theorem not_dot_of_isHexColon {l : List UInt8} (h : ∀ b ∈ l, isHexColon b = true) :
    (46 : UInt8) ∉ l := fun hm => by
  have := h _ hm
  revert this
  decide

/-! ## IPv6: reading back `fmtSubslice` -/

theorem readGroups_succ_v4 {limit i : Nat} (n : Nat) {s s' : List UInt8} {a : Nat} (hl : i + 1 < limit)
    (h4 : readSeparator 58 i readIpv4Addr s = some (a, s')) :
    readGroups limit (n + 1) i s = ([a / 65536, a % 65536], true, s') := by
  rw [readGroups]
  simp only [if_pos hl, h4]

theorem readGroups_succ_none (limit n : Nat) {i : Nat} {s : List UInt8}
    (h4 : readSeparator 58 i readIpv4Addr s = none)
    (hn : readSeparator 58 i (readNumber 16 4 true 65535) s = none) :
    readGroups limit (n + 1) i s = ([], false, s) := by
  rw [readGroups]
  simp only [h4, ite_self, hn]

theorem readGroups_succ_some (limit n : Nat) {i : Nat} {s : List UInt8}
    (h4 : readSeparator 58 i readIpv4Addr s = none) {g : Nat} {s' : List UInt8}
    (hn : readSeparator 58 i (readNumber 16 4 true 65535) s = some (g, s')) :
    readGroups limit (n + 1) i s =
      (g :: (readGroups limit n (i + 1) s').1, (readGroups limit n (i + 1) s').2.1,
        (readGroups limit n (i + 1) s').2.2) := by
  rw [readGroups]
  simp only [h4, ite_self, hn]

theorem noDigitHead16_colon (t : List UInt8) : NoDigitHead 16 (58 :: t) :=
  show toDigit 16 58 = none by decide

/-- what may follow a run of groups: the end of the text, or `::` -/
def GroupStop (rest : List UInt8) : Prop := rest = [] ∨ ∃ t, rest = 58 :: 58 :: t

theorem GroupStop.noDigitHead {rest : List UInt8} (h : GroupStop rest) : NoDigitHead 16 rest := by
  rcases h with rfl | ⟨t, rfl⟩
  · trivial
  · exact noDigitHead16_colon _

theorem readSeparator_num_stop {rest : List UInt8} (h : GroupStop rest) (i : Nat) :
    readSeparator 58 i (readNumber 16 4 true 65535) rest = none := by
  rcases h with rfl | ⟨t, rfl⟩
  · cases i <;> rfl
  · cases i with
    | zero => exact (readSeparator_zero ..).trans (readNumber_nondigit (noDigitHead16_colon _) ..)
    | succ i => exact (readSeparator_succ_cons ..).trans (readNumber_nondigit (noDigitHead16_colon _) ..)

theorem readGroups_stop (limit n : Nat) {i : Nat} {rest : List UInt8} (h : GroupStop rest)
    (h4 : readSeparator 58 i readIpv4Addr rest = none) :
    readGroups limit n i rest = ([], false, rest) := by
  cases n with
  | zero => rfl
  | succ n => exact readGroups_succ_none _ _ h4 (readSeparator_num_stop h i)

/-- the text after the first group is again such a text at the next index, with its separator;
    no '.' in the text, so no IPv4 attempt succeeds. -/
theorem readGroups_sepAt_fmtSubslice (limit : Nat) {rest : List UInt8} (hs : GroupStop rest) :
    ∀ (xs : List Nat) (g n i : Nat), (∀ x ∈ g :: xs, x < 65536) → xs.length < n →
    (46 : UInt8) ∉ sepAt 58 i ++ (fmtSubslice (g :: xs) ++ rest) →
    readGroups limit n i (sepAt 58 i ++ (fmtSubslice (g :: xs) ++ rest)) = (g :: xs, false, rest)
  | _, _, 0, _, _, hl, _ => absurd hl (Nat.not_lt_zero _)
  | [], g, n + 1, i, hg, _, hd => by
    rw [readGroups_succ_some _ _ (readSeparator_v4_none hd i) ((readSeparator_sepAt ..).trans
        (readNumber_showHex16 (hg g List.mem_cons_self) hs.noDigitHead)),
      readGroups_stop limit n hs (readSeparator_v4_none (fun hm =>
        hd (List.mem_append_right _ (List.mem_append_right _ hm))) (i + 1))]
  | g' :: xs, g, n + 1, i, hg, hl, hd => by
    have e : fmtSubslice (g :: g' :: xs) ++ rest
        = showHex16 g ++ (sepAt 58 (i + 1) ++ (fmtSubslice (g' :: xs) ++ rest)) := by
      simp only [fmtSubslice, sepAt, List.append_assoc]
    rw [e] at hd ⊢
    rw [readGroups_succ_some _ _ (readSeparator_v4_none hd i) ((readSeparator_sepAt ..).trans
        (readNumber_showHex16 (hg g List.mem_cons_self) (noDigitHead16_colon _))),
      readGroups_sepAt_fmtSubslice limit hs xs g' n (i + 1)
        (fun x hx => hg x (List.mem_cons_of_mem _ hx)) (Nat.lt_of_succ_lt_succ hl) fun hm =>
        hd (List.mem_append_right _ (List.mem_append_right _ hm))]

theorem readGroups_fmtSubslice (limit : Nat) (xs : List Nat) (n : Nat) (rest : List UInt8)
    (hg : ∀ g ∈ xs, g < 65536) (hl : xs.length ≤ n) (hs : GroupStop rest) (hd : (46 : UInt8) ∉ rest) :
    readGroups limit n 0 (fmtSubslice xs ++ rest) = (xs, false, rest) := by
  cases xs with
  | nil => exact readGroups_stop limit n hs (readSeparator_v4_none hd 0)
  | cons g xs =>
    have hdot : (46 : UInt8) ∉ fmtSubslice (g :: xs) ++ rest := fun hm =>
      (List.mem_append.1 hm).elim (not_dot_of_isHexColon (fmtSubslice_bytes _ hg)) hd
    exact readGroups_sepAt_fmtSubslice limit hs xs g n 0 hg hl hdot

/-! ## IPv6: the zero span -/

def ZeroRun (G : List Nat) (sp : Span) : Prop :=
  ∃ a b, G = a ++ List.replicate sp.len 0 ++ b ∧ a.length = sp.start

/-- invariant of the scan: `pre` is what has been read (`i` groups of the whole list `G`), `longest` is a
    run of zeros inside `G`, and `current` is the run of zeros that ends exactly where `pre` ends
    (of length 0 if the last group read was not zero). -/
theorem zeroSpan_inv : ∀ (gs pre : List Nat) (i : Nat) (longest current : Span) (G : List Nat),
    G = pre ++ gs → i = pre.length → ZeroRun G longest →
    (∃ a, pre = a ++ List.replicate current.len 0 ∧ (current.len = 0 ∨ a.length = current.start)) →
    ZeroRun G (zeroSpan gs i longest current)
  | [], _, _, _, _, _, _, _, hl, _ => hl
  | g :: gs, pre, i, longest, current, G, hG, hi, hl, hc => by
    unfold zeroSpan
    obtain ⟨a, hpre, hst⟩ := hc
    have hG' : G = (pre ++ [g]) ++ gs := hG.trans (List.append_cons pre g gs)
    have hi' : i + 1 = (pre ++ [g]).length := by rw [List.length_append, hi]; rfl
    split
    · rename_i h0
      subst h0
      have hstart : a.length = (if current.len = 0 then i else current.start) := by
        split
        next hz =>
          rw [hz, List.replicate_zero, List.append_nil] at hpre
          rw [hi, hpre]
        next hz => exact hst.resolve_left hz
      have hpre' : pre ++ [0] = a ++ List.replicate (current.len + 1) 0 := by
        rw [hpre, List.replicate_succ', List.append_assoc]
      apply zeroSpan_inv gs (pre ++ [0]) (i + 1) _ _ G hG' hi'
      · simp only
        split
        · refine ⟨a, gs, ?_, hstart⟩
          rw [hG', hpre']
        · exact hl
      · exact ⟨a, hpre', Or.inr hstart⟩
    · apply zeroSpan_inv gs (pre ++ [g]) (i + 1) _ _ G hG' hi' hl
      exact ⟨pre ++ [g], (List.append_nil _).symm, Or.inl rfl⟩

theorem zeroSpan_zeroRun (gs : List Nat) : ZeroRun gs (zeroSpan gs 0 ⟨0, 0⟩ ⟨0, 0⟩) :=
  zeroSpan_inv gs [] 0 _ _ gs rfl rfl ⟨[], gs, rfl, rfl⟩ ⟨[], rfl, Or.inl rfl⟩

/-! ## IPv6: the three shapes of the text -/

theorem toIpv4Mapped_some {gs : List Nat} {v : Nat} (h : toIpv4Mapped gs = some v) :
    ∃ a b, gs = [0, 0, 0, 0, 0, 65535, a, b] ∧ v = a * 65536 + b := by
  unfold toIpv4Mapped at h
  split at h
  · rename_i a b
    exact ⟨a, b, rfl, by simpa using h.symm⟩
  · cases h

theorem groupStop_nil : GroupStop [] := Or.inl rfl

theorem readIpv6Addr_uncompressed {gs : List Nat} (hl : gs.length = 8) (hg : ∀ g ∈ gs, g < 65536) :
    readIpv6Addr (fmtSubslice gs) = some (gs, []) := by
  have h1 := readGroups_fmtSubslice 8 gs 8 [] hg (by omega) groupStop_nil (by simp)
  rw [List.append_nil] at h1
  simp only [readIpv6Addr, h1, hl, if_true]

theorem readIpv6Addr_of_groups {s s3 s4 : List UInt8} {head tail : List Nat} {f : Bool}
    (h1 : readGroups 8 8 0 s = (head, false, 58 :: 58 :: s3)) (hne : head.length ≠ 8)
    (h2 : readGroups (8 - (head.length + 1)) (8 - (head.length + 1)) 0 s3 = (tail, f, s4)) :
    readIpv6Addr s
      = some (head ++ List.replicate (8 - head.length - tail.length) 0 ++ tail, s4) := by
  simp only [readIpv6Addr, h1, if_neg hne, readGivenChar, if_true, h2]
  rfl

theorem readIpv6Addr_compressed {a b : List Nat} {len : Nat} (hlen : 1 < len)
    (hl : a.length + len + b.length = 8) (ha : ∀ g ∈ a, g < 65536) (hb : ∀ g ∈ b, g < 65536) :
    readIpv6Addr (fmtSubslice a ++ [58, 58] ++ fmtSubslice b)
      = some (a ++ List.replicate len 0 ++ b, []) := by
  have hd : (46 : UInt8) ∉ 58 :: 58 :: fmtSubslice b := fun hm =>
    not_dot_of_isHexColon (fmtSubslice_bytes _ hb) <| (List.mem_cons.1 <|
      (List.mem_cons.1 hm).resolve_left (by decide)).resolve_left (by decide)
  have h1 := readGroups_fmtSubslice 8 a 8 (58 :: 58 :: fmtSubslice b) ha (by omega)
    (Or.inr ⟨_, rfl⟩) hd
  have h2 := readGroups_fmtSubslice (8 - (a.length + 1)) b (8 - (a.length + 1)) [] hb (by omega)
    groupStop_nil (by simp)
  rw [List.append_nil] at h2
  rw [List.append_assoc, List.cons_append, List.cons_append, List.nil_append,
    readIpv6Addr_of_groups h1 (by omega) h2,
    show 8 - a.length - b.length = len by omega]

theorem readIpv6Addr_ffff_v4 {t : List UInt8} {v : Nat} (h4 : readIpv4Addr t = some (v, [])) :
    readIpv6Addr (58 :: 58 :: (showHex16 65535 ++ 58 :: t))
      = some ([0, 0, 0, 0, 0, 65535, v / 65536, v % 65536], []) := by
  -- after the "::": `ffff` (its first byte is 'f' = 102), then the embedded IPv4 address
  have hf : NoDigitHead 10 (showHex16 65535 ++ 58 :: t) := show toDigit 10 102 = none by decide
  have h2 : readGroups 7 7 0 (showHex16 65535 ++ 58 :: t) = ([65535, v / 65536, v % 65536], true, []) := by
    rw [readGroups_succ_some 7 6 ((readSeparator_zero ..).trans (readIpv4Addr_nondigit hf))
        ((readSeparator_zero ..).trans (readNumber_showHex16 (by decide) (noDigitHead16_colon _))),
      readGroups_succ_v4 (limit := 7) 5 (by decide) ((readSeparator_succ_cons ..).trans h4)]
  exact readIpv6Addr_of_groups (readGroups_stop 8 8 (.inr ⟨_, rfl⟩) ((readSeparator_zero ..).trans
    (readIpv4Addr_nondigit (show toDigit 10 58 = none by decide)))) (by decide) h2

/-- the IPv4-mapped text `::ffff:a.b.c.d` -/
theorem readIpv6Addr_mapped {hi lo : Nat} (hhi : hi < 65536) (hlo : lo < 65536) :
    readIpv6Addr ([58, 58, 102, 102, 102, 102, 58] ++ showIpv4 (hi * 65536 + lo))
      = some ([0, 0, 0, 0, 0, 65535, hi, lo], []) := by
  have h4 := readIpv4Addr_showIpv4 (by omega : hi * 65536 + lo < 4294967296)
  have hd : (hi * 65536 + lo) / 65536 = hi := by
    rw [Nat.add_comm, Nat.add_mul_div_right _ _ (by decide), Nat.div_eq_of_lt hlo, Nat.zero_add]
  have hm : (hi * 65536 + lo) % 65536 = lo := by
    rw [Nat.add_comm, Nat.add_mul_mod_self_right, Nat.mod_eq_of_lt hlo]
  -- from here on the IPv4 text is any `t` that reads as this value (with `showIpv4 _` inside, comparing
  -- the two spellings of the whole text is slow)
  generalize showIpv4 (hi * 65536 + lo) = t at h4 ⊢
  have h := readIpv6Addr_ffff_v4 h4
  rw [hd, hm] at h
  exact h

theorem showIpv6_hexColon {gs : List Nat} (hg : ∀ g ∈ gs, g < 65536) (hm : toIpv4Mapped gs = none) :
    ∀ b ∈ showIpv6 gs, isHexColon b = true := by
  simp only [showIpv6, hm]
  split
  · intro b hb
    simp only [List.mem_append] at hb
    rcases hb with (hb | hb) | hb
    · exact fmtSubslice_bytes _ (fun g h => hg g (List.mem_of_mem_take h)) b hb
    · revert b; decide
    · exact fmtSubslice_bytes _ (fun g h => hg g (List.mem_of_mem_drop h)) b hb
  · exact fmtSubslice_bytes _ hg

theorem readIpv6Addr_showIpv6 {gs : List Nat} (hl : gs.length = 8) (hg : ∀ g ∈ gs, g < 65536) :
    readIpv6Addr (showIpv6 gs) = some (gs, []) := by
  unfold showIpv6
  cases hm : toIpv4Mapped gs with
  | some v =>
    obtain ⟨hi, lo, rfl, rfl⟩ := toIpv4Mapped_some hm
    exact readIpv6Addr_mapped (hg hi (by simp)) (hg lo (by simp))
  | none =>
    simp only
    obtain ⟨a, b, hG, hstart⟩ := zeroSpan_zeroRun gs
    generalize zeroSpan gs 0 ⟨0, 0⟩ ⟨0, 0⟩ = z at hG hstart
    split
    · rename_i hz
      have htake : gs.take z.start = a := by
        rw [hG, ← hstart, List.append_assoc, List.take_left]
      have hdrop : gs.drop (z.start + z.len) = b := by
        have : z.start + z.len = (a ++ List.replicate z.len 0).length := by simp [hstart]
        rw [hG, this, List.drop_left]
      have hlen : a.length + z.len + b.length = 8 := by
        rw [hG] at hl; simpa [Nat.add_assoc] using hl
      rw [htake, hdrop, hG]
      exact readIpv6Addr_compressed hz hlen (fun g h => hg g (by rw [hG]; simp [h]))
        (fun g h => hg g (by rw [hG]; simp [h]))
    · exact readIpv6Addr_uncompressed hl hg

/-- the mapped form starts with ':', the others have no '.' -/
theorem readIpv4Addr_showIpv6 {gs : List Nat} (hg : ∀ g ∈ gs, g < 65536) :
    readIpv4Addr (showIpv6 gs) = none := by
  cases hm : toIpv4Mapped gs with
  | some v =>
    simp only [showIpv6, hm]
    exact readIpv4Addr_nondigit (show toDigit 10 58 = none by decide)
  | none => exact readIpv4Addr_none_of_no_dot (not_dot_of_isHexColon (showIpv6_hexColon hg hm))

theorem parseIpAddr_v6 {s : List UInt8} {gs : List Nat} (h4 : readIpv4Addr s = none)
    (h6 : readIpv6Addr s = some (gs, [])) : parseIpAddr s = some (.v6 gs) := by
  simp only [parseIpAddr, readIpAddr, h4, h6]

end Ip

/-! ## whole addresses: parsing inverts `Display`, and the bytes of the text -/

theorem showIpv4_bytes (a : Nat) :
    (∀ b ∈ Ip.showIpv4 a, Ip.isAddrByte b = true) ∧ Ip.showIpv4 a ≠ [] := by
  constructor
  · intro b hb
    simp only [Ip.showIpv4, List.mem_append, List.mem_singleton] at hb
    have m : ∀ x, x % 256 < 256 := fun x => Nat.mod_lt _ (by omega)
    rcases hb with (((((hb | rfl) | hb) | rfl) | hb) | rfl) | hb
    · exact Ip.showOctet_bytes (m _) b hb
    · decide
    · exact Ip.showOctet_bytes (m _) b hb
    · decide
    · exact Ip.showOctet_bytes (m _) b hb
    · decide
    · exact Ip.showOctet_bytes (m _) b hb
  · simp [Ip.showIpv4]

/-- at most 15 octets, the length `Ipv4Addr::from_str` checks first. -/
theorem Ip.showIpv4_length_le (a : Nat) : (Ip.showIpv4 a).length ≤ 15 := by
  have len : ∀ n, (Ip.showOctet (n % 256)).length ≤ 3 := fun n => by
    obtain ⟨ds, hds, e⟩ := Ip.showOctet_numeral (n := n % 256) (by omega)
    rw [e, List.length_map]
    exact hds.length_le
  have l1 := len (a / 16777216)
  have l2 := len (a / 65536)
  have l3 := len (a / 256)
  have l4 := len a
  simp only [Ip.showIpv4, List.length_append, List.length_cons, List.length_nil]
  omega

theorem ipv4_print_parse (a : Nat) (h : a < 4294967296) :
    Ip.parseIpAddr (Ip.showIpv4 a) = some (.v4 a) := by
  simp only [Ip.parseIpAddr, Ip.readIpAddr, Ip.readIpv4Addr_showIpv4 h]

/-- The bound on the groups is needed: `showHex16` of a number ≥ 65536 can produce any byte;
    some length is needed since `showIpv6 [] = []`. -/
theorem showIpv6_bytes (gs : List Nat) (hg : ∀ g ∈ gs, g < 65536) (hl : gs.length = 8) :
    (∀ b ∈ Ip.showIpv6 gs, Ip.isAddrByte b = true) ∧ Ip.showIpv6 gs ≠ [] := by
  cases hm : Ip.toIpv4Mapped gs with
  | some v =>
    simp only [Ip.showIpv6, hm]
    constructor
    · intro b hb
      rw [List.mem_append] at hb
      rcases hb with hb | hb
      · revert b; decide
      · exact (showIpv4_bytes _).1 b hb
    · simp
  | none =>
    refine ⟨fun b hb => Ip.isAddrByte_of_isHexColon (Ip.showIpv6_hexColon hg hm b hb), ?_⟩
    simp only [Ip.showIpv6, hm]
    split
    · simp
    · exact Ip.fmtSubslice_ne_nil _ fun e => by rw [e] at hl; cases hl

theorem ipv6_print_parse (gs : List Nat) (hl : gs.length = 8) (hg : ∀ g ∈ gs, g < 65536) :
    Ip.parseIpAddr (Ip.showIpv6 gs) = some (.v6 gs) :=
  Ip.parseIpAddr_v6 (Ip.readIpv4Addr_showIpv6 hg) (Ip.readIpv6Addr_showIpv6 hl hg)

/-- the values an `IpAddr` can take: a `u32`, or eight `u16` groups -/
def Ip.WF : IpAddr → Prop
  | .v4 a => a < 4294967296
  | .v6 gs => gs.length = 8 ∧ ∀ g ∈ gs, g < 65536

theorem ip_print_parse (x : IpAddr) (h : Ip.WF x) : Ip.parseIpAddr (Ip.showIpAddr x) = some x := by
  cases x with
  | v4 a => exact ipv4_print_parse a h
  | v6 gs => exact ipv6_print_parse gs h.1 h.2

theorem showIpAddr_bytes (x : IpAddr) (h : Ip.WF x) :
    (∀ b ∈ Ip.showIpAddr x, Ip.isAddrByte b = true) ∧ Ip.showIpAddr x ≠ [] := by
  cases x with
  | v4 a => exact showIpv4_bytes a
  | v6 gs => exact showIpv6_bytes gs h.2 h.1

end Resolved
