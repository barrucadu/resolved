/-
  Names in zone text.  The dotted string of a text name (`TextName.dotted_cases`); `parse_domain` on a token of ASCII octets
  by its three forms (`parseDomain_of_octets`, `_octets_abs`, `_octets_rel`) and `parse_domain_or_wildcard` on an ordinary and
  on a `*.` owner (`parseDomainOrWildcard_normal`, `_wild`); C13 at the name level: what `serialise_domain` writes for a
  text name is read back as that name under the `$ORIGIN` that `Zone::serialise` emits (`domainStr_roundtrip`).
-/
import Resolved.Proofs.ZoneTextOctets
import Resolved.Proofs.ZoneTextOK

namespace Resolved.ZoneText

open Resolved Resolved.IpText Gen

/-! ## the dotted string of a text name -/

theorem TextName.dotted_cases {n : Name} (h : TextName n) :
    (n = Name.root ∧ n.isRoot = true) ∨
      ∃ ls, ls ≠ [] ∧ n.labels = ls ++ [[]] ∧ (∀ l ∈ ls, l ≠ [] ∧ TextLabel l) ∧ n.isRoot = false ∧
        n.toDotted = Name.joinDots ls ++ [46] := by
  obtain ⟨hshape, -, hn⟩ := h.shape
  obtain ⟨ls, hls, hinner⟩ := hshape.eq_concat
  cases ls with
  | nil =>
    have hroot : n = Name.root := by rw [hn, hls]; rfl
    exact Or.inl ⟨hroot, by rw [hroot]; rfl⟩
  | cons l ms =>
    obtain ⟨hr, hd⟩ := Name.toDotted_eq_joinDots (hls.trans (List.cons_append ..)) (hinner l List.mem_cons_self)
      fun x hx b hb => ((h.2 x hx).2 b hb).1
    refine Or.inr ⟨l :: ms, List.cons_ne_nil l ms, hls,
      fun x hx => ⟨hinner x hx, h.2 x (by rw [hls]; exact List.mem_append_left _ hx)⟩, hr, ?_⟩
    rw [hd, hls, Name.joinDots_append (List.cons_ne_nil l ms) (List.cons_ne_nil [] [])]
    rfl

theorem TextName.fromDotted_toDotted {n : Name} (h : TextName n) : Name.fromDotted n.toDotted = some n := by
  rcases h.dotted_cases with ⟨hroot, -⟩ | ⟨ls, hne, hls, htl, -, hdot⟩
  · rw [hroot]
    rfl
  · rw [hdot]
    exact Name.fromDotted_joinDots_wf hls hne
      (nameWF_iff.mpr ⟨h.1, fun l hl => ⟨(h.2 l hl).1, fun b hb => ((h.2 l hl).2 b hb).2.2⟩⟩)
      (fun l hl b hb => ((htl l hl).2.2 b hb).2.1)

theorem TextName.isRoot_eq_root {n : Name} (h : TextName n) (hr : n.isRoot = true) : n = Name.root := by
  rcases h.dotted_cases with ⟨hroot, -⟩ | ⟨ls, -, -, -, hnr, -⟩
  · exact hroot
  · rw [hr] at hnr; cases hnr

theorem TextName.toDotted_getLast {n : Name} (h : TextName n) : n.toDotted.getLast? = some 46 := by
  rcases h.dotted_cases with ⟨hroot, -⟩ | ⟨ls, -, -, -, -, hdot⟩
  · rw [hroot]; rfl
  · rw [hdot, List.getLast?_concat]

theorem TextName.toDotted_ne_nil {n : Name} (h : TextName n) : n.toDotted ≠ [] := by
  intro he
  have := h.toDotted_getLast
  rw [he] at this
  cases this

theorem TextName.toDotted_forall {n : Name} (h : TextName n) {P : UInt8 → Prop} (h46 : P 46)
    (hP : ∀ l ∈ n.labels, ∀ b ∈ l, P b) : ∀ b ∈ n.toDotted, P b := by
  rcases h.dotted_cases with ⟨hroot, -⟩ | ⟨ls, -, hls, -, -, hdot⟩
  · rw [hroot]
    exact fun b hb => List.mem_singleton.mp hb ▸ h46
  · intro b hb
    rw [hdot, List.mem_append, List.mem_singleton] at hb
    rcases hb with hb | rfl
    · exact Name.joinDots_forall h46 (fun l hl => hP l (by rw [hls]; exact List.mem_append_left _ hl)) b hb
    · exact h46

theorem TextName.toDotted_ascii {n : Name} (h : TextName n) : ∀ b ∈ n.toDotted, b.toNat < 128 :=
  h.toDotted_forall (P := fun b => b.toNat < 128) (by decide) (fun l hl b hb => ((h.2 l hl).2 b hb).1)

theorem TextName.toDotted_head?_ne_dot {n : Name} (h : TextName n) (hr : n.isRoot = false) :
    n.toDotted.head? ≠ some 46 := by
  obtain ⟨-, hroot⟩ | ⟨ls, hne, -, htl, -, hdot⟩ := h.dotted_cases
  · rw [hroot] at hr; cases hr
  obtain ⟨l, ls, rfl⟩ := List.exists_cons_of_ne_nil hne
  have hl := htl l List.mem_cons_self
  rw [hdot, List.head?_append, Name.joinDots_head? ls hl.1]
  cases l with
  | nil => exact absurd rfl hl.1
  | cons b bs => exact fun he => (hl.2.2 b List.mem_cons_self).2.1 (Option.some.inj he)

theorem splitDot_ne_nil (s : List UInt8) : Name.splitDot s ≠ [] := Name.splitDot_ne_nil s

/-! ## `parse_domain` on a token that came from ASCII octets -/

theorem parseDomain_of_octets (o : Option Name) (s : List UInt8) (hs : s ≠ [])
    (hascii : ∀ b ∈ s, b.toNat < 128) :
    parseDomain o (s.map octetAsChar) =
      if s = [64] then (match o with | some n => .ok n | none => .error .expectedOrigin)
      else if s.getLast? = some 46 then
        (match Name.fromDotted s with | some d => .ok d | none => .error .expectedDomainName)
      else
        (match o with
         | some name =>
           (match Name.fromRelativeDotted name s with | some d => .ok d | none => .error .expectedDomainName)
         | none => .error .expectedOrigin) := by
  have h2 : (s.map octetAsChar).all isAscii = true := by
    simp only [List.all_map, List.all_eq_true, Function.comp]
    intro b hb
    unfold isAscii
    rw [octetAsChar_toNat]
    simpa using hascii b hb
  have h3 : (s.map octetAsChar = ['@']) ↔ s = [64] :=
    List.map_inj_right (l' := [64]) fun _ _ => octetAsChar_inj
  have h4 : (s.map octetAsChar).getLast? = some '.' ↔ s.getLast? = some 46 := by
    rw [List.getLast?_map]
    cases s.getLast? with
    | none => simp
    | some b => exact ⟨fun h => congrArg some (octetAsChar_inj (Option.some.inj h)), fun h => by rw [Option.some.inj h]; rfl⟩
  rw [parseDomain_eq o (by simpa using hs) h2, map_charAsU8_octetAsChar]
  simp only [h3, h4]
  rfl

theorem parseDomain_octets_abs (o : Option Name) {s : List UInt8} (hascii : ∀ b ∈ s, b.toNat < 128)
    (hdot : s.getLast? = some 46) :
    parseDomain o (s.map octetAsChar) =
      (match Name.fromDotted s with | some d => .ok d | none => .error .expectedDomainName) := by
  have hne : s ≠ [] := by rintro rfl; cases hdot
  have h64 : s ≠ [64] := by rintro rfl; cases hdot
  rw [parseDomain_of_octets o s hne hascii, if_neg h64, if_pos hdot]

theorem parseDomain_octets_rel (o : Option Name) {s : List UInt8} (hne : s ≠ []) (hascii : ∀ b ∈ s, b.toNat < 128)
    (h64 : s ≠ [64]) (hrel : s.getLast? ≠ some 46) :
    parseDomain o (s.map octetAsChar) =
      (match o with
       | some name =>
         (match Name.fromRelativeDotted name s with | some d => .ok d | none => .error .expectedDomainName)
       | none => .error .expectedOrigin) := by
  rw [parseDomain_of_octets o s hne hascii, if_neg h64, if_neg hrel]

/-! ## `serialise_domain` then `parse_domain` -/

theorem parseDomain_absolute (o : Option Name) {n : Name} (h : TextName n) :
    parseDomain o (n.toDotted.map octetAsChar) = .ok n := by
  rw [parseDomain_octets_abs o (h.toDotted_ascii) (h.toDotted_getLast), h.fromDotted_toDotted]

/-- what `serialise_domain` writes: the absolute name; `@` for the apex; or, under the emitted origin,
    the labels in front of those of the apex joined by dots, when that is not literally `@`. -/
theorem domainStr_cases (z : Zone) (name : Name) (hn : TextName name) (ha : TextName z.apex) :
    domainStr z name = name.toDotted ∨
      (domainStr z name = [64] ∧ name = z.apex ∧ emittedOrigin z = some z.apex) ∨
      ∃ rel, rel ≠ [] ∧ name.labels = rel ++ z.apex.labels ∧ (∀ l ∈ rel, l ≠ [] ∧ TextLabel l) ∧
        domainStr z name = Name.joinDots rel ∧ Name.joinDots rel ≠ [64] ∧
        emittedOrigin z = some z.apex ∧ z.apex.isRoot = false ∧
        name.toDotted = Name.joinDots rel ++ 46 :: z.apex.toDotted := by
  generalize hs : domainStr z name = s
  unfold domainStr at hs
  simp only at hs
  split at hs
  · exact Or.inl hs.symm
  · rename_i hcond
    simp only [Bool.or_eq_true, Bool.not_eq_true', not_or, Bool.not_eq_false] at hcond
    obtain ⟨⟨hroot, hauth⟩, hsub⟩ := hcond
    have hroot' : z.apex.isRoot = false := by simpa using hroot
    have horigin : emittedOrigin z = some z.apex := by
      unfold emittedOrigin
      simp [hauth, hroot']
    split at hs
    · rename_i heq
      exact Or.inr (Or.inl ⟨hs.symm, heq, horigin⟩)
    · rename_i hneq
      obtain ⟨rel, hrel⟩ : z.apex.labels <:+ name.labels := Name.isSubdomainOf_iff.mp hsub
      have htake : name.labels.take (name.labels.length - z.apex.labels.length) = rel := by
        rw [← hrel, List.length_append, Nat.add_sub_cancel, List.take_left]
      rw [htake] at hs
      have hrelne : rel ≠ [] := by
        intro he
        rw [he, List.nil_append] at hrel
        exact hneq (by rw [hn.shape.2.2, ha.shape.2.2, hrel])
      -- both names in the shape `labels ++ [[]]`: the labels of `name` are `rel ++` those of the apex
      obtain ⟨-, hr⟩ | ⟨as, hasne, has, -, -, hadot⟩ := ha.dotted_cases
      · rw [hr] at hroot'; cases hroot'
      obtain ⟨hnr, -⟩ | ⟨ls, -, hls, htl, -, hndot⟩ := hn.dotted_cases
      · rw [hnr, has] at hrel
        cases rel with
        | nil => exact absurd rfl hrelne
        | cons r rs =>
          have := congrArg List.length hrel
          simp only [List.length_cons, List.length_append, Name.root, List.length_nil] at this
          omega
      have hlsrel : ls = rel ++ as := by
        rw [has, ← List.append_assoc] at hrel
        exact (List.append_cancel_right (hrel.trans hls)).symm
      have hrel_text : ∀ l ∈ rel, l ≠ [] ∧ TextLabel l :=
        fun l hl => htl l (by rw [hlsrel]; exact List.mem_append_left _ hl)
      obtain ⟨r, rs, hrr⟩ := List.exists_cons_of_ne_nil hrelne
      rw [(Name.toDotted_eq_joinDots (n := ⟨rel, _⟩) hrr (hrel_text r (hrr ▸ List.mem_cons_self)).1
        fun l hl b hb => (((hrel_text l hl).2).2 b hb).1).2] at hs
      split at hs
      · exact Or.inl hs.symm
      · rename_i hnat
        refine Or.inr (Or.inr ⟨rel, hrelne, hrel.symm, hrel_text, hs.symm, hnat, horigin, hroot', ?_⟩)
        rw [hndot, hadot, hlsrel, Name.joinDots_append hrelne hasne, List.append_assoc]
        rfl

theorem domainStr_roundtrip (z : Zone) (name : Name) (hn : TextName name) (ha : TextName z.apex) :
    domainStr z name ≠ [] ∧ (∀ b ∈ domainStr z name, b.toNat < 128) ∧
      parseDomain (emittedOrigin z) ((domainStr z name).map octetAsChar) = .ok name := by
  rcases domainStr_cases z name hn ha with
    h | ⟨h, heq, horigin⟩ | ⟨rel, hne, -, htl, h, hnat, horigin, hroot', hjoin⟩
  · rw [h]
    exact ⟨hn.toDotted_ne_nil, hn.toDotted_ascii, parseDomain_absolute _ hn⟩
  · -- the apex itself: `@`
    rw [h, horigin, heq]
    exact ⟨by simp, by intro b hb; simp at hb; subst hb; decide, rfl⟩
  · rw [h]
    have hs_ne := Name.joinDots_ne_nil hne (fun l hl => (htl l hl).1)
    have hs_ascii := Name.joinDots_forall (P := fun b => b.toNat < 128) (by decide)
      (fun l hl b hb => ((htl l hl).2.2 b hb).1)
    have hlen : ∀ l ∈ rel, l ≠ [] := fun l hl => (htl l hl).1
    have hnd : ∀ l ∈ rel, ∀ b ∈ l, b ≠ 46 := fun l hl b hb => ((htl l hl).2.2 b hb).2.1
    refine ⟨hs_ne, hs_ascii, ?_⟩
    rw [parseDomain_octets_rel _ hs_ne hs_ascii hnat (Name.joinDots_getLast?_ne_dot hne hlen hnd), horigin]
    simp only
    -- the apex is appended after a dot, since its text does not begin with one
    rw [Name.fromRelativeDotted_joinDots z.apex hne hlen hnd, if_neg (ha.toDotted_head?_ne_dot hroot'), ← hjoin,
      hn.fromDotted_toDotted]

/-! ## owners -/

theorem domainStr_head_not_star (z : Zone) (name : Name) (hn : TextName name) (ha : TextName z.apex)
    (hs : NoStar name) : (domainStr z name).head? ≠ some 42 := by
  -- the text starts with the first octet of the first label
  have key : ∀ (l : Label) (ls rest : List Label) (x : List UInt8), name.labels = l :: rest → l ≠ [] →
      (Name.joinDots (l :: ls) ++ x).head? ≠ some 42 := by
    intro l ls rest x hlab hl
    rw [List.head?_append, Name.joinDots_head? ls hl]
    cases l with
    | nil => exact absurd rfl hl
    | cons b bs => exact hs _ _ hlab
  rcases domainStr_cases z name hn ha with h | ⟨h, -, -⟩ | ⟨rel, hne, hlab, htl, h, -, -, -, -⟩
  · rw [h]
    rcases hn.dotted_cases with ⟨hroot, -⟩ | ⟨ls, hne, hls, htl, -, hdot⟩
    · rw [hroot]; decide
    · cases ls with
      | nil => exact absurd rfl hne
      | cons l ms =>
        rw [hdot]
        exact key l ms _ _ (hls.trans (List.cons_append ..)) (htl l List.mem_cons_self).1
  · rw [h]; decide
  · cases rel with
    | nil => exact absurd rfl hne
    | cons r rs =>
      rw [h, ← List.append_nil (Name.joinDots (r :: rs))]
      exact key r rs _ _ (hlab.trans (List.cons_append ..)) (htl r List.mem_cons_self).1

/-- what `serialise_domain` writes contains no upper-case letter, so it is never `$ORIGIN` / `$INCLUDE`. -/
theorem domainStr_not_upper (z : Zone) (name : Name) (hn : TextName name) (ha : TextName z.apex) :
    ∀ b ∈ domainStr z name, ¬ isUpper b := by
  have hlab : ∀ l ∈ name.labels, ∀ b ∈ l, ¬ isUpper b := fun l hl b hb => ((hn.2 l hl).2 b hb).2.2
  rcases domainStr_cases z name hn ha with h | ⟨h, -, -⟩ | ⟨rel, -, hlabels, -, h, -, -, -, -⟩
  · rw [h]; exact hn.toDotted_forall (P := fun b => ¬ isUpper b) (by decide) hlab
  · rw [h]; intro b hb; simp at hb; subst hb; decide
  · rw [h]
    exact Name.joinDots_forall (P := fun b => ¬ isUpper b) (by decide)
      (fun l hl => hlab l (by rw [hlabels]; exact List.mem_append_left _ hl))

theorem owner_not_directive (z : Zone) (name : Name) (hn : TextName name) (ha : TextName z.apex) :
    (domainStr z name).map octetAsChar ≠ sORIGIN ∧ (domainStr z name).map octetAsChar ≠ sINCLUDE := by
  have hup := domainStr_not_upper z name hn ha
  have key : ∀ (s : List Char), 'I' ∈ s → (domainStr z name).map octetAsChar ≠ s := by
    intro s hs he
    rw [← he] at hs
    simp only [List.mem_map] at hs
    obtain ⟨b, hb, hbc⟩ := hs
    have : b = 73 := octetAsChar_inj (hbc.trans (show 'I' = octetAsChar 73 from rfl))
    subst this
    exact hup 73 hb (by decide)
  exact ⟨key _ (by decide), key _ (by decide)⟩

theorem parseDomainOrWildcard_normal (o : Option Name) (s : List Char) (hne : s ≠ [])
    (h1 : s ≠ ['*']) (h2 : ∀ rest, s ≠ '*' :: '.' :: rest) :
    parseDomainOrWildcard o s =
      (match parseDomain o s with | .ok name => .ok (.normal name) | .error e => .error e) := by
  unfold parseDomainOrWildcard
  cases s with
  | nil => exact absurd rfl hne
  | cons c0 cs =>
    simp only [List.isEmpty_cons, Bool.false_eq_true, if_false, if_neg h1]
    cases cs with
    | nil => rfl
    | cons c1 rest =>
      have : ¬ (c0 = '*' ∧ c1 = '.') := by
        rintro ⟨rfl, rfl⟩
        exact h2 rest rfl
      simp only [this, if_false]
      cases parseDomain o (c0 :: c1 :: rest) <;> rfl

theorem parseDomainOrWildcard_wild (o : Option Name) {rest : List Char} (hne : rest ≠ []) :
    parseDomainOrWildcard o ('*' :: '.' :: rest) =
      (match parseDomain o rest with | .ok name => .ok (.wildcard name) | .error e => .error e) := by
  unfold parseDomainOrWildcard
  have h2 : rest.isEmpty = false := by cases rest with | nil => exact absurd rfl hne | cons _ _ => rfl
  simp only [List.isEmpty_cons, Bool.false_eq_true, if_false, and_self, if_true, h2,
    if_neg (show '*' :: '.' :: rest ≠ ['*'] by simp)]
  cases parseDomain o rest <;> rfl

theorem owner_roundtrip (z : Zone) (name : Name) (hn : TextName name) (ha : TextName z.apex)
    (hs : NoStar name) :
    parseDomainOrWildcard (emittedOrigin z) ((domainStr z name).map octetAsChar) = .ok (.normal name) := by
  obtain ⟨hne, -, hp⟩ := domainStr_roundtrip z name hn ha
  have hstar : ((domainStr z name).map octetAsChar).head? ≠ some '*' := by
    rw [List.head?_map]
    intro he
    obtain ⟨b, hb, hbc⟩ := Option.map_eq_some_iff.mp he
    exact domainStr_head_not_star z name hn ha hs
      (hb.trans (congrArg some (octetAsChar_inj (hbc.trans (show '*' = octetAsChar 42 from rfl)))))
  rw [parseDomainOrWildcard_normal _ _ (by simpa using hne) (fun h => hstar (by rw [h]; rfl))
    (fun rest h => hstar (by rw [h]; rfl)), hp]

theorem wildcard_owner_roundtrip (z : Zone) (name : Name) (hn : TextName name) (ha : TextName z.apex) :
    parseDomainOrWildcard (emittedOrigin z) ('*' :: '.' :: (domainStr z name).map octetAsChar)
      = .ok (.wildcard name) := by
  obtain ⟨hne, -, hp⟩ := domainStr_roundtrip z name hn ha
  rw [parseDomainOrWildcard_wild _ (by simpa using hne), hp]

end Resolved.ZoneText
