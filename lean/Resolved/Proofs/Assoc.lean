/-
  First-match association lists `List (κ × α)`: `AL.get/set/change/erase/keys` and the merge loop
  `AL.mergeWith`.  The cache (partitions, record lists, priority queues), the zone tree (`RecMap`,
  children, `Zones`), the hosts table (`AddrMap`), the upstream filter (`NameMap`) and the zone text
  (`lookupOwner`) each bridge their own copies of these functions to this one.  In front, over plain lists: the last
  overriding step of a fold wins (hosts files, upstream filter, server); "append unless already there", a list used as a
  set, and the fold over it (hosts files, upstream filter).
-/

namespace Resolved

/-- a fold whose every step overrides what `look` sees or leaves it alone: the last overriding step wins,
    else the start value -/
theorem foldl_last_wins {M X β : Type} (look : M → Option β) (f : M → X → M) (g : X → Option β)
    (hf : ∀ m x, look (f m x) = (g x).or (look m)) (xs : List X) (m0 : M) :
    look (xs.foldl f m0) = (xs.reverse.findSome? g).or (look m0) := by
  induction xs generalizing m0 with
  | nil => rfl
  | cons x xs ih =>
    rw [List.foldl_cons, ih, hf, List.reverse_cons, List.findSome?_append, List.findSome?_singleton, Option.or_assoc]

/-- "append unless already there": `insertSet`, `addIfNew`, `nameSetInsert` of the model and specification files -/
theorem mem_pushIfNew {α : Type} [BEq α] [LawfulBEq α] {s : List α} {n x : α} :
    x ∈ (if s.contains n then s else s ++ [n]) ↔ x ∈ s ∨ x = n := by
  split
  · rename_i h
    exact ⟨Or.inl, fun h' => h'.elim id fun e => e ▸ List.contains_iff_mem.mp h⟩
  · rw [List.mem_append, List.mem_singleton]

/-- a fold that adds its elements one by one holds what it started with and the elements -/
theorem mem_foldl_of_mem_step {α : Type} {f : List α → α → List α}
    (hf : ∀ s a x, x ∈ f s a ↔ x ∈ s ∨ x = a) {s l : List α} {x : α} :
    x ∈ l.foldl f s ↔ x ∈ s ∨ x ∈ l := by
  induction l generalizing s with
  | nil => simp
  | cons a l ih => rw [List.foldl_cons, ih, hf, List.mem_cons, or_assoc]

namespace AL

variable {κ : Type} [DecidableEq κ] {α : Type}

def get : List (κ × α) → κ → Option α
  | [], _ => none
  | (k', v) :: rest, k => if k' = k then some v else get rest k

def set : List (κ × α) → κ → α → List (κ × α)
  | [], k, v => [(k, v)]
  | (k', v') :: rest, k, v => if k' = k then (k, v) :: rest else (k', v') :: set rest k v

def change : List (κ × α) → κ → α → List (κ × α)
  | [], _, _ => []
  | (k', v') :: rest, k, v => if k' = k then (k, v) :: rest else (k', v') :: change rest k v

def erase (l : List (κ × α)) (k : κ) : List (κ × α) := l.filter (fun kv => kv.1 != k)

def keys (l : List (κ × α)) : List κ := l.map (·.1)

-- `keys` needs no `DecidableEq`; these two keep the section's instance argument
section
set_option linter.unusedSectionVars false
@[simp] theorem keys_nil : keys ([] : List (κ × α)) = [] := rfl
@[simp] theorem keys_cons (x : κ × α) (l : List (κ × α)) : keys (x :: l) = x.1 :: keys l := rfl
end
omit [DecidableEq κ] in
@[simp] theorem keys_append (a b : List (κ × α)) : keys (a ++ b) = keys a ++ keys b := by
  simp [keys]

@[simp] theorem get_nil (k : κ) : get ([] : List (κ × α)) k = none := rfl
theorem get_cons (x : κ × α) (l : List (κ × α)) (k : κ) :
    get (x :: l) k = if x.1 = k then some x.2 else get l k := by
  cases x; rfl

theorem get_eq_none_iff {l : List (κ × α)} {k : κ} : get l k = none ↔ k ∉ keys l := by
  induction l with
  | nil => simp
  | cons x l ih =>
    rw [get_cons]
    by_cases h : x.1 = k
    · simp [h]
    · have h2 : ¬ k = x.1 := fun e => h e.symm
      simp [h, h2, ih]

theorem mem_of_get {l : List (κ × α)} {k : κ} {v : α} (h : get l k = some v) : (k, v) ∈ l := by
  induction l with
  | nil => simp at h
  | cons x l ih =>
    rw [get_cons] at h
    by_cases hx : x.1 = k
    · simp [hx] at h; subst h; subst hx; simp
    · simp [hx] at h; exact List.mem_cons_of_mem _ (ih h)

theorem mem_keys_of_get {l : List (κ × α)} {k : κ} {v : α} (h : get l k = some v) : k ∈ keys l := by
  have := mem_of_get h
  exact List.mem_map.mpr ⟨_, this, rfl⟩

omit [DecidableEq κ] in
theorem mem_keys_of_mem {l : List (κ × α)} {k : κ} {v : α} (h : (k, v) ∈ l) : k ∈ keys l :=
  List.mem_map.mpr ⟨_, h, rfl⟩

theorem get_of_mem {l : List (κ × α)} {k : κ} {v : α} (hn : (keys l).Nodup) (h : (k, v) ∈ l) :
    get l k = some v := by
  induction l with
  | nil => simp at h
  | cons x l ih =>
    rw [get_cons]
    simp only [keys_cons, List.nodup_cons] at hn
    rcases List.mem_cons.mp h with h | h
    · subst h; simp
    · have : x.1 ≠ k := by
        intro e; subst e; exact hn.1 (mem_keys_of_mem h)
      simp [this, ih hn.2 h]

theorem mem_iff_get {l : List (κ × α)} {k : κ} {v : α} (hn : (keys l).Nodup) :
    (k, v) ∈ l ↔ get l k = some v := ⟨get_of_mem hn, mem_of_get⟩

theorem get_split {l : List (κ × α)} {k : κ} {v : α} (h : get l k = some v) :
    ∃ a b, l = a ++ (k, v) :: b ∧ k ∉ keys a := by
  induction l with
  | nil => cases h
  | cons x l ih =>
    obtain ⟨x1, x2⟩ := x
    rw [get_cons] at h
    split at h
    · rename_i hx
      cases h; cases hx
      exact ⟨[], l, rfl, List.not_mem_nil⟩
    · rename_i hx
      obtain ⟨a, b, rfl, hk⟩ := ih h
      exact ⟨(x1, x2) :: a, b, rfl, fun hm => (List.mem_cons.mp hm).elim (fun e => hx e.symm) hk⟩

theorem get_split_nodup {l : List (κ × α)} {k : κ} {v : α} (hn : (keys l).Nodup) (h : get l k = some v) :
    ∃ a b, l = a ++ (k, v) :: b ∧ k ∉ keys a ∧ k ∉ keys b := by
  obtain ⟨a, b, rfl, hk⟩ := get_split h
  rw [keys_append, keys_cons, List.nodup_append, List.nodup_cons] at hn
  exact ⟨a, b, rfl, hk, hn.2.1.1⟩

theorem get_append_of_notin {a : List (κ × α)} {k : κ} (h : k ∉ keys a) (b : List (κ × α)) :
    get (a ++ b) k = get b k := by
  induction a with
  | nil => rfl
  | cons x a ih =>
    simp only [keys_cons, List.mem_cons, not_or] at h
    rw [List.cons_append, get_cons]
    have : x.1 ≠ k := fun e => h.1 e.symm
    simp [this, ih h.2]

theorem get_append (a b : List (κ × α)) (k : κ) :
    get (a ++ b) k = (get a k).or (get b k) := by
  induction a with
  | nil => simp
  | cons x a ih =>
    rw [List.cons_append, get_cons, get_cons]
    by_cases h : x.1 = k <;> simp [h, ih]

theorem set_split {a : List (κ × α)} {k : κ} (h : k ∉ keys a) (v v' : α) (b : List (κ × α)) :
    set (a ++ (k, v) :: b) k v' = a ++ (k, v') :: b := by
  induction a with
  | nil => simp [set]
  | cons x a ih =>
    simp only [keys_cons, List.mem_cons, not_or] at h
    have : x.1 ≠ k := fun e => h.1 e.symm
    obtain ⟨x1, x2⟩ := x
    simp only [List.cons_append, set]
    simp [this, ih h.2]

theorem set_of_get_none {l : List (κ × α)} {k : κ} (h : get l k = none) (v : α) :
    set l k v = l ++ [(k, v)] := by
  induction l with
  | nil => rfl
  | cons x l ih =>
    rw [get_cons] at h
    obtain ⟨x1, x2⟩ := x
    by_cases hx : x1 = k
    · simp [hx] at h
    · simp [hx] at h
      simp [set, hx, ih h]

theorem set_self {l : List (κ × α)} {k : κ} {v : α} (h : get l k = some v) : set l k v = l := by
  obtain ⟨a, b, rfl, hk⟩ := get_split h
  rw [set_split hk]

theorem eq_or_mem_of_mem_set {l : List (κ × α)} {k : κ} {v : α} {x : κ × α} (h : x ∈ set l k v) : x = (k, v) ∨ x ∈ l := by
  induction l with
  | nil => exact Or.inl (List.mem_singleton.mp h)
  | cons y l ih =>
    obtain ⟨y1, y2⟩ := y
    simp only [set] at h
    split at h
    · exact (List.mem_cons.mp h).imp_right (List.mem_cons_of_mem _)
    · rcases List.mem_cons.mp h with h | h
      · exact Or.inr (h ▸ List.mem_cons_self)
      · exact (ih h).imp_right (List.mem_cons_of_mem _)

theorem mem_set_of_ne {l : List (κ × α)} {k k' : κ} {v v' : α} (hne : k' ≠ k) :
    (k', v') ∈ set l k v ↔ (k', v') ∈ l := by
  induction l with
  | nil => simp [set, hne]
  | cons x l ih =>
    obtain ⟨x1, x2⟩ := x
    simp only [set]
    by_cases hx : x1 = k
    · subst hx; simp [hne]
    · simp [hx, ih]

theorem change_of_get_none {l : List (κ × α)} {k : κ} (h : get l k = none) (v : α) :
    change l k v = l := by
  induction l with
  | nil => rfl
  | cons x l ih =>
    obtain ⟨x1, x2⟩ := x
    rw [get_cons] at h
    simp only [change]
    split at h
    · cases h
    · rename_i hx; rw [if_neg hx, ih h]

theorem change_eq_set {l : List (κ × α)} {k : κ} {w : α} (h : get l k = some w) (v : α) :
    change l k v = set l k v := by
  induction l with
  | nil => cases h
  | cons x l ih =>
    obtain ⟨x1, x2⟩ := x
    rw [get_cons] at h
    simp only [change, set]
    split
    · rfl
    · rename_i hx; rw [if_neg hx] at h; rw [ih h]

theorem erase_of_notin {l : List (κ × α)} {k : κ} (h : k ∉ keys l) : erase l k = l := by
  unfold erase
  rw [List.filter_eq_self]
  intro x hx
  simp only [bne_iff_ne, ne_eq]
  intro e
  exact h (List.mem_map.mpr ⟨x, hx, e⟩)

theorem mem_erase {l : List (κ × α)} {k : κ} {x : κ × α} : x ∈ erase l k ↔ x ∈ l ∧ x.1 ≠ k := by
  simp [erase]

theorem erase_split {a b : List (κ × α)} {k : κ} (ha : k ∉ keys a) (hb : k ∉ keys b) (v : α) :
    erase (a ++ (k, v) :: b) k = a ++ b := by
  have h1 := erase_of_notin ha
  have h2 := erase_of_notin hb
  unfold erase at *
  rw [List.filter_append, List.filter_cons_of_neg (by simp), h1, h2]

theorem length_erase_of_get {l : List (κ × α)} {k : κ} {v : α} (hn : (keys l).Nodup) (h : get l k = some v) :
    (erase l k).length + 1 = l.length := by
  obtain ⟨a, b, rfl, hka, hkb⟩ := get_split_nodup hn h
  rw [erase_split hka hkb, List.length_append, List.length_append, List.length_cons, Nat.add_assoc]

theorem keys_erase (l : List (κ × α)) (k : κ) : keys (erase l k) = (keys l).filter (· != k) := by
  simp [keys, erase, List.filter_map]; rfl

theorem mem_keys_erase {l : List (κ × α)} {k k' : κ} : k' ∈ keys (erase l k) ↔ k' ∈ keys l ∧ k' ≠ k := by
  rw [keys_erase]; simp

theorem nodup_keys_erase {l : List (κ × α)} (h : (keys l).Nodup) (k : κ) : (keys (erase l k)).Nodup := by
  rw [keys_erase]; exact h.filter _

theorem get_erase (l : List (κ × α)) (k k' : κ) :
    get (erase l k) k' = if k' = k then none else get l k' := by
  induction l with
  | nil => simp [erase]
  | cons x l ih =>
    unfold erase at ih ⊢
    rw [List.filter_cons]
    by_cases hx : x.1 = k
    · simp only [hx, bne_self_eq_false, Bool.false_eq_true, ↓reduceIte, ih, get_cons]
      by_cases hk : k' = k
      · simp [hk]
      · have : k ≠ k' := fun e => hk e.symm
        simp [hk, this]
    · have : (x.1 != k) = true := by simp [hx]
      simp only [this, ↓reduceIte, get_cons, ih]
      by_cases hk : k' = k
      · subst hk; simp [hx]
      · simp [hk]

theorem get_erase_some {l : List (κ × α)} {k k' : κ} {v : α} (h : get (erase l k) k' = some v) :
    k' ≠ k ∧ get l k' = some v := by
  rw [get_erase] at h
  split at h
  · cases h
  · rename_i hk; exact ⟨hk, h⟩

theorem get_set (l : List (κ × α)) (k k' : κ) (v : α) :
    get (set l k v) k' = if k' = k then some v else get l k' := by
  induction l with
  | nil =>
    simp only [set, get_cons, get_nil]
    by_cases h : k' = k
    · simp [h]
    · have : k ≠ k' := fun e => h e.symm
      simp [h, this]
  | cons x l ih =>
    obtain ⟨x1, x2⟩ := x
    simp only [set]
    by_cases hx : x1 = k
    · subst hx
      simp only [↓reduceIte, get_cons]
      by_cases hk : k' = x1
      · simp [hk]
      · have : x1 ≠ k' := fun e => hk e.symm
        simp [hk, this]
    · simp only [hx, ↓reduceIte, get_cons, ih]
      by_cases hk : k' = k
      · subst hk; simp [hx]
      · simp [hk]

/-- `get_set` with the test written `k = k'`, as the model functions bridged to `set` spell it -/
theorem get_set_comm (l : List (κ × α)) (k k' : κ) (v : α) :
    get (set l k v) k' = if k = k' then some v else get l k' :=
  (get_set l k k' v).trans (ite_congr (propext eq_comm) (fun _ => rfl) (fun _ => rfl))

theorem sum_set (f : α → Nat) (l : List (κ × α)) (k : κ) (v : α) :
    ((set l k v).map (fun x => f x.2)).sum + ((get l k).map f).getD 0 = (l.map (fun x => f x.2)).sum + f v := by
  induction l with
  | nil => simp [set]
  | cons x l ih =>
    obtain ⟨x1, x2⟩ := x
    by_cases h : x1 = k
    · simp only [get, set, h, ↓reduceIte, List.map_cons, List.sum_cons, Option.map_some, Option.getD_some]; omega
    · simp only [get, set, h, ↓reduceIte, List.map_cons, List.sum_cons]; omega

theorem get_change (l : List (κ × α)) (k k' : κ) (v : α) :
    get (change l k v) k' = if k' = k ∧ (get l k).isSome then some v else get l k' := by
  cases h : get l k with
  | none => simp [change_of_get_none h]
  | some w =>
    rw [change_eq_set h, get_set]; simp

theorem keys_set_of_get_some {l : List (κ × α)} {k : κ} {w : α} (h : get l k = some w) (v : α) :
    keys (set l k v) = keys l := by
  obtain ⟨a, b, rfl, hk⟩ := get_split h
  rw [set_split hk]; simp

theorem keys_set_of_get_none {l : List (κ × α)} {k : κ} (h : get l k = none) (v : α) :
    keys (set l k v) = keys l ++ [k] := by
  rw [set_of_get_none h]; simp

theorem keys_set (l : List (κ × α)) (k : κ) (v : α) :
    keys (set l k v) = if k ∈ keys l then keys l else keys l ++ [k] := by
  cases h : get l k with
  | none => rw [if_neg (get_eq_none_iff.mp h)]; exact keys_set_of_get_none h v
  | some w => rw [if_pos (mem_keys_of_get h)]; exact keys_set_of_get_some h v

theorem keys_change (l : List (κ × α)) (k : κ) (v : α) : keys (change l k v) = keys l := by
  cases h : get l k with
  | none => rw [change_of_get_none h]
  | some w => rw [change_eq_set h, keys_set_of_get_some h]

theorem length_change (l : List (κ × α)) (k : κ) (v : α) : (change l k v).length = l.length := by
  have := congrArg List.length (keys_change l k v)
  simpa [keys] using this

theorem mem_keys_set {l : List (κ × α)} {k k' : κ} {v : α} :
    k' ∈ keys (set l k v) ↔ k' = k ∨ k' ∈ keys l := by
  cases h : get l k with
  | none => rw [keys_set_of_get_none h]; simp [or_comm]
  | some w =>
    rw [keys_set_of_get_some h]
    constructor
    · exact Or.inr
    · rintro (rfl | h')
      · exact mem_keys_of_get h
      · exact h'

theorem nodup_keys_set {l : List (κ × α)} (hn : (keys l).Nodup) (k : κ) (v : α) :
    (keys (set l k v)).Nodup := by
  cases h : get l k with
  | none =>
    rw [keys_set_of_get_none h]
    rw [List.nodup_append]
    refine ⟨hn, by simp, ?_⟩
    intro a ha b hb
    simp at hb; subst hb
    intro e; subst e
    exact get_eq_none_iff.mp h ha
  | some w => rw [keys_set_of_get_some h]; exact hn

theorem get_filter_none {l : List (κ × α)} {k : κ} {q : κ × α → Bool} (h : ∀ v, (k, v) ∈ l → q (k, v) = false) :
    get (l.filter q) k = none := by
  rw [get_eq_none_iff]
  intro hk
  obtain ⟨x, hx, rfl⟩ := List.mem_map.mp hk
  obtain ⟨hx1, hx2⟩ := List.mem_filter.mp hx
  have hf : q x = false := h x.2 hx1
  rw [hf] at hx2; cases hx2

theorem get_filter_of_get {l : List (κ × α)} {k : κ} {v : α} {q : κ × α → Bool} (h : get l k = some v)
    (hq : q (k, v) = true) : get (l.filter q) k = some v := by
  obtain ⟨a, b, rfl, hk⟩ := get_split h
  have hk' : k ∉ keys (a.filter q) := fun hm => by
    obtain ⟨x, hx, hxk⟩ := List.mem_map.mp hm
    exact hk (List.mem_map.mpr ⟨x, (List.mem_filter.mp hx).1, hxk⟩)
  rw [List.filter_append, List.filter_cons_of_pos hq, get_append_of_notin hk', get_cons, if_pos rfl]

theorem get_filter {l : List (κ × α)} (hn : (keys l).Nodup) (q : κ × α → Bool) (k : κ) :
    get (l.filter q) k = (get l k).bind (fun v => if q (k, v) then some v else none) := by
  cases h : get l k with
  | none => exact get_filter_none fun v hv => absurd (mem_keys_of_mem hv) (get_eq_none_iff.mp h)
  | some v =>
    show _ = if q (k, v) then some v else none
    split
    · rename_i hq; exact get_filter_of_get h hq
    · rename_i hq
      refine get_filter_none fun v' hv' => ?_
      rw [get_of_mem hn hv'] at h
      cases h
      exact Bool.eq_false_iff.mpr hq

theorem get_eq_of_mem_iff {l l' : List (κ × α)} {k : κ} (hn : (keys l).Nodup) (hn' : (keys l').Nodup)
    (h : ∀ v, (k, v) ∈ l ↔ (k, v) ∈ l') : get l k = get l' k := by
  apply Option.ext
  intro v
  rw [← mem_iff_get hn, ← mem_iff_get hn', h v]

theorem find?_eq_get (l : List (κ × α)) (k : κ) :
    (l.find? (fun x => decide (x.1 = k))).map (·.2) = get l k := by
  induction l with
  | nil => rfl
  | cons x l ih =>
    rw [get_cons]
    by_cases h : x.1 = k
    · rw [List.find?_cons_of_pos (by simpa using h), if_pos h]; rfl
    · rw [List.find?_cons_of_neg (by simpa using h), if_neg h]; exact ih

theorem get_eq_findSome? (l : List (κ × α)) (k : κ) :
    get l k = l.findSome? (fun x => if x.1 = k then some x.2 else none) := by
  induction l with
  | nil => rfl
  | cons x l ih => rw [get_cons, List.findSome?_cons, ih]; split <;> rfl

/-- `for (k, v) in l { m.insert(k, v) }`: the last binding of `l` wins, else what was there -/
theorem get_foldl_set (l m : List (κ × α)) (k : κ) :
    get (l.foldl (fun m kv => set m kv.1 kv.2) m) k = (get l.reverse k).or (get m k) := by
  rw [get_eq_findSome? l.reverse]
  exact foldl_last_wins (get · k) _ _ (fun m kv => by rw [get_set_comm]; split <;> rfl) l m

/-- what `mergeWith f` does to one key (`get_mergeWith`) -/
def optMerge (f : α → α → α) (x y : Option α) : Option α :=
  match y with
  | some o => some (match x with | some m => f m o | none => o)
  | none => x

/-- the loop `for (k, o) in b { a[k] = if let Some(m) = a.get(k) { f(m, o) } else { o } }`. -/
def mergeWith (f : α → α → α) (a : List (κ × α)) : List (κ × α) → List (κ × α)
  | [] => a
  | (k, o) :: rest => mergeWith f (set a k (match get a k with | some m => f m o | none => o)) rest

theorem get_mergeWith (f : α → α → α) (a b : List (κ × α)) (k : κ) (hb : (keys b).Nodup) :
    get (mergeWith f a b) k = optMerge f (get a k) (get b k) := by
  induction b generalizing a with
  | nil => rfl
  | cons kv rest ih =>
    obtain ⟨k', o⟩ := kv
    rw [keys_cons, List.nodup_cons] at hb
    rw [mergeWith, ih _ hb.2, get_set, get_cons]
    by_cases hk : k = k'
    · subst hk; rw [if_pos rfl, if_pos rfl, get_eq_none_iff.mpr hb.1]; rfl
    · rw [if_neg hk, if_neg (Ne.symm hk)]

theorem nodup_keys_mergeWith (f : α → α → α) (a b : List (κ × α)) (h : (keys a).Nodup) :
    (keys (mergeWith f a b)).Nodup := by
  induction b generalizing a with
  | nil => exact h
  | cons kv rest ih => exact ih _ (nodup_keys_set h _ _)

end AL

end Resolved
