/-
  Hosts ↔ Zone conversion (`impl From<Hosts> for Zone`, `impl TryFrom<Zone> for Hosts`).  First what it
  needs of the zone tree beyond Proofs/ZoneBasics and Proofs/ZoneTree (record counts, `recsAt`, `TreeOK`,
  `Zone.insert` at the root apex: `ZBase`, `zone_insert_root`), then `ZInv m4 m6 z`, "zone `z` is what the
  mappings `m4`, `m6` build", carried through the two folds of `Hosts.toZone` as `ZFold`, and the conversion
  theorems.
-/
import Resolved.Proofs.ZoneTree
import Resolved.Proofs.HostsLemmas

namespace Resolved

open Gen

/-! ## record maps -/

def rcount (m : RecMap) : Nat := (m.flatMap (·.2)).length

@[simp] theorem rcount_nil : rcount [] = 0 := rfl
theorem rcount_eq_sum (m : RecMap) : rcount m = (m.map (fun x => x.2.length)).sum := by
  rw [rcount, List.length_flatMap]

theorem rcount_set_some (m : RecMap) (k : Nat) (v v' : List ZoneRecord) (h : m.get k = some v') :
    rcount (m.set k v) + v'.length = rcount m + v.length := by
  have := AL.sum_set List.length m k v
  rwa [← RecMap.set_eq_al, ← RecMap.get_eq_al, h, ← rcount_eq_sum, ← rcount_eq_sum] at this

def RecMapOK (m : RecMap) : Prop := (m.map (·.1)).Nodup

theorem rcount_insertRecord_fresh (m : RecMap) (zr : ZoneRecord) (h : m.get zr.rtype = none) :
    rcount (m.insertRecord zr) = rcount m + 1 := by
  unfold RecMap.insertRecord
  rw [h]
  have := AL.sum_set List.length m zr.rtype [zr]
  rw [← RecMap.set_eq_al, ← RecMap.get_eq_al, h, ← rcount_eq_sum, ← rcount_eq_sum] at this
  simpa using this

/-! ## the records at a reversed relative name -/

/-- `ZNode.descend` with the arguments in the other order (`nodeAtR_eq_descend`). -/
def nodeAtR : List Label → ZNode → Option ZNode
  | [], node => some node
  | l :: rest, node =>
    match ZNode.childGet node.children l with
    | some child => nodeAtR rest child
    | none => none

def recsAt (node : ZNode) (p : List Label) : RecMap :=
  match nodeAtR p node with
  | some n => n.this
  | none => []

theorem nodeAtR_eq_descend (p : List Label) : ∀ node : ZNode, nodeAtR p node = node.descend p := by
  induction p with
  | nil => intro node; rfl
  | cons l rest ih =>
    intro node
    rw [nodeAtR, ZNode.descend]
    cases ZNode.childGet node.children l with
    | none => rfl
    | some c => exact ih c

theorem recsAt_eq_baseView (node : ZNode) (p : List Label) : recsAt node p = (node.baseView p).1 := by
  rw [recsAt, ZNode.baseView, nodeAtR_eq_descend]
  cases node.descend p <;> rfl

theorem recsAt_of_nodeAtR {node nd : ZNode} {p : List Label} (h : nodeAtR p node = some nd) :
    recsAt node p = nd.this := by
  rw [recsAt, h]

theorem recsAt_nil (node : ZNode) : recsAt node [] = node.this := rfl

theorem recsAt_cons (node : ZNode) (l : Label) (rest : List Label) :
    recsAt node (l :: rest) =
      match ZNode.childGet node.children l with
      | some c => recsAt c rest
      | none => [] := by
  simp only [recsAt, nodeAtR]
  cases ZNode.childGet node.children l <;> rfl

theorem recsAt_new (nsd : Name) (p : List Label) : recsAt (ZNode.new nsd) p = [] := by
  rw [recsAt_eq_baseView, ZNode.baseView_new]

theorem recsAt_insertBase {node child : ZNode} {l : Label} (h : node.insertBase l = some child)
    (q : List Label) : recsAt child q = recsAt node (l :: q) := by
  rw [recsAt_eq_baseView, recsAt_eq_baseView, ZNode.baseView_insertBase h]

def InsertedAt (r r' : ZNode) (p : List Label) (zr : ZoneRecord) : Prop :=
  ∀ q, recsAt r' q = if q = p then (recsAt r p).insertRecord zr else recsAt r q

theorem recsAt_insertRev {zr : ZoneRecord} {p : List Label} {node node' : ZNode}
    (h : node.insertRev p zr false = some node') : InsertedAt node node' p zr := by
  intro q
  rw [recsAt_eq_baseView, recsAt_eq_baseView, recsAt_eq_baseView, ZNode.insertRev_baseView h q]
  by_cases hq : q = p
  · rw [if_pos hq, if_pos hq, hq]; rfl
  · rw [if_neg hq, if_neg hq]

/-! ## counting records -/

mutual
def recCount : ZNode → Nat
  | .mk _ this _ ch => rcount this + recCountCh ch
def recCountCh : List (Label × ZNode) → Nat
  | [] => 0
  | (_, c) :: rest => recCount c + recCountCh rest
end

theorem recCount_eq (node : ZNode) :
    recCount node = rcount node.this + recCountCh node.children := by
  cases node; simp [recCount, ZNode.this, ZNode.children]

theorem recCount_new (nsd : Name) : recCount (ZNode.new nsd) = 0 := by
  simp [ZNode.new, recCount, recCountCh]

theorem recCountCh_eq_sum (cs : List (Label × ZNode)) :
    recCountCh cs = (cs.map (fun x => recCount x.2)).sum := by
  induction cs with
  | nil => rfl
  | cons kv rest ih => rw [List.map_cons, List.sum_cons, ← ih]; rfl

theorem recCountCh_childSet (cs : List (Label × ZNode)) (l : Label) (c' : ZNode) :
    recCountCh (ZNode.childSet cs l c') + ((ZNode.childGet cs l).map recCount).getD 0 =
      recCountCh cs + recCount c' := by
  have := AL.sum_set recCount cs l c'
  rwa [← ZNode.childSet_eq_al, ← ZNode.childGet_eq_al, ← recCountCh_eq_sum, ← recCountCh_eq_sum] at this

theorem recCountCh_insertBase {node child : ZNode} {l : Label} (h : node.insertBase l = some child)
    (c' : ZNode) :
    recCountCh (ZNode.childSet node.children l c') + recCount child =
      recCountCh node.children + recCount c' := by
  have := recCountCh_childSet node.children l c'
  rcases ZNode.insertBase_eq_some_iff.mp h with hc | ⟨hc, nsd, _, rfl⟩
  · rwa [hc] at this
  · rw [recCount_new]
    rwa [hc] at this

theorem recCount_insertRev (zr : ZoneRecord) (p : List Label) :
    ∀ node node', node.insertRev p zr false = some node' →
      recCount node' + rcount (recsAt node p) =
        recCount node + rcount ((recsAt node p).insertRecord zr) := by
  induction p with
  | nil =>
    intro node node' h
    cases h
    rw [recCount_eq node]
    simp only [recCount, recsAt_nil]
    omega
  | cons l rest ih =>
    intro node node' h
    obtain ⟨child, child', hs, hi, rfl⟩ := ZNode.insertRev_cons_some h
    have h1 := ih child child' hi
    rw [recsAt_insertBase hs] at h1
    have h2 := recCountCh_insertBase hs child'
    rw [recCount_eq node]
    simp only [recCount]
    omega

theorem flattenRecords_append (a b : List (Name × List ZoneRecord)) :
    Hosts.flattenRecords (a ++ b) = Hosts.flattenRecords a ++ Hosts.flattenRecords b := by
  simp [Hosts.flattenRecords]

theorem mem_flattenRecords (recs : List (Name × List ZoneRecord)) (nz : Name × ZoneRecord) :
    nz ∈ Hosts.flattenRecords recs ↔ ∃ zrs, (nz.1, zrs) ∈ recs ∧ nz.2 ∈ zrs := by
  obtain ⟨nm, zr⟩ := nz
  simp only [Hosts.flattenRecords, List.mem_flatMap, List.mem_map, Prod.mk.injEq]
  constructor
  · rintro ⟨⟨nm', zrs⟩, hm, zr', hzr, rfl, rfl⟩
    exact ⟨zrs, hm, hzr⟩
  · rintro ⟨zrs, hm, hzr⟩
    exact ⟨(nm, zrs), hm, zr, hzr, rfl, rfl⟩

theorem flattenRecords_single (n : Name) (zrs : List ZoneRecord) :
    (Hosts.flattenRecords (if zrs.isEmpty then [] else [(n, zrs)])).length = zrs.length := by
  cases zrs with
  | nil => rfl
  | cons z zs => simp [Hosts.flattenRecords]

mutual
theorem flatten_length : ∀ node : ZNode,
    (Hosts.flattenRecords node.allRecords).length = recCount node
  | .mk nsd this w ch => by
    rw [ZNode.allRecords, recCount, flattenRecords_append, List.length_append, flatten_length_ch ch]
    exact congrArg (· + recCountCh ch) (flattenRecords_single nsd _)
theorem flatten_length_ch : ∀ ch : List (Label × ZNode),
    (Hosts.flattenRecords (allRecordsChildren ch)).length = recCountCh ch
  | [] => rfl
  | (_, c) :: rest => by
    rw [allRecordsChildren, recCountCh, flattenRecords_append, List.length_append, flatten_length c,
      flatten_length_ch rest]
end

/-! ## the tree invariant -/

def NameOK (n : Name) : Prop := n.len = n.labels.length + sumLen n.labels

/-- ZoneTree's invariants speak by paths; this is their form for the proofs that recurse over the tree itself
    (`nodeAtR_ok`, `allWildcardRecords_nil`, `FamInv.listed`), obtained from them by `TreeOK.of`. -/
inductive TreeOK : ZNode → Prop
  | mk (nsd : Name) (this : RecMap) (ch : List (Label × ZNode)) :
      NameOK nsd → RecMapOK this → (ch.map (·.1)).Nodup →
      (∀ l c, (l, c) ∈ ch → c.nsdname.labels = l :: nsd.labels) →
      (∀ l c, (l, c) ∈ ch → TreeOK c) →
      TreeOK (.mk nsd this none ch)

theorem TreeOK.nameOK {node : ZNode} (h : TreeOK node) : NameOK node.nsdname := by
  cases h; simpa

theorem TreeOK.recMapOK {node : ZNode} (h : TreeOK node) : RecMapOK node.this := by
  cases h; simpa

theorem TreeOK.wild {node : ZNode} (h : TreeOK node) : node.wildcards = none := by
  cases h; rfl

theorem TreeOK.child {node : ZNode} (h : TreeOK node) (l : Label) (c : ZNode)
    (hc : ZNode.childGet node.children l = some c) :
    TreeOK c ∧ c.nsdname.labels = l :: node.nsdname.labels := by
  cases h with
  | mk nsd this ch h1 h2 h3 h4 h5 =>
    have := ZNode.mem_of_childGet hc
    exact ⟨h5 l c this, h4 l c this⟩

/-- `TreeOK` need not be carried through insertions: ZoneTree's invariants are, and it follows from them -/
theorem TreeOK.of {node : ZNode} : ZNode.NamesOK node → ZNode.KeysNodup node →
    (∀ p n, node.descend p = some n → RecMapOK n.this ∧ n.wildcards = none) → TreeOK node := by
  induction node using ZNode.induction with
  | mk nsd this w ch ih =>
    intro hn hk hp
    obtain ⟨hthis, hw⟩ := hp [] _ rfl
    cases (show w = none from hw)
    have hkeys := hk.here
    refine TreeOK.mk nsd this ch (Name.fromLabels_self.mp (by simpa using hn [] _ rfl)).2.1 hthis hkeys
      (fun l c hm => (hn.child (ZNode.childGet_of_mem hkeys hm)).2) fun l c hm => ?_
    have hc : ZNode.childGet ch l = some c := ZNode.childGet_of_mem hkeys hm
    exact ih (l, c) hm (hn.child hc).1 (hk.child hc) fun p n hd =>
      hp (l :: p) n (by simpa [ZNode.descend_cons, hc] using hd)

theorem nodeAtR_ok (p : List Label) :
    ∀ node n, TreeOK node → nodeAtR p node = some n →
      TreeOK n ∧ n.nsdname.labels = p.reverse ++ node.nsdname.labels := by
  induction p with
  | nil =>
    intro node n hok h
    simp only [nodeAtR, Option.some.injEq] at h
    subst h; exact ⟨hok, by simp⟩
  | cons l rest ih =>
    intro node n hok h
    simp only [nodeAtR] at h
    cases hc : ZNode.childGet node.children l with
    | none => simp [hc] at h
    | some child =>
      simp only [hc] at h
      obtain ⟨hcok, hcl⟩ := hok.child l child hc
      obtain ⟨h1, h2⟩ := ih child n hcok h
      exact ⟨h1, by rw [h2, hcl]; simp⟩

theorem TreeOK.keysNodup {node : ZNode} (hok : TreeOK node) : ZNode.KeysNodup node := by
  induction hok with
  | mk nsd this ch h1 h2 h3 h4 h5 ih =>
    exact (ZNode.keysNodup_mk nsd this none ch).mpr ⟨h3, fun p hp => ih p.1 p.2 hp⟩

theorem allWildcardRecords_nil (node : ZNode) (hok : TreeOK node) :
    node.allWildcardRecords = [] := by
  apply List.eq_nil_iff_forall_not_mem.mpr
  intro x hx
  obtain ⟨p, n, ws, hd, hw, _⟩ := (ZNode.mem_allWildcardRecords_iff hok.keysNodup x).mp hx
  rw [← nodeAtR_eq_descend] at hd
  rw [(nodeAtR_ok p node n hok hd).1.wild] at hw
  cases hw

/-! ## names relative to the root -/

def relR (n : Name) : List Label := n.labels.dropLast.reverse

theorem WFName.labels_eq {n : Name} (h : WFName n) : n.labels = (relR n).reverse ++ [[]] := by
  obtain ⟨ys, hys⟩ := List.getLast?_eq_some_iff.mp h.1.2.1
  simp [relR, hys]

theorem relR_inj {n n' : Name} (h : WFName n) (h' : WFName n') (e : relR n = relR n') : n = n' :=
  Name.eq_of_labels h.2.2.1 h'.2.2.1 (by rw [h.labels_eq, h'.labels_eq, e])

theorem name_eq_of_labels {nm n : Name} (hnm : NameOK nm) (h : WFName n)
    (e : nm.labels = (relR n).reverse ++ [[]]) : nm = n :=
  Name.eq_of_labels hnm h.2.2.1 (by rw [e, ← h.labels_eq])

theorem relativeDomain_root (z : Zone) (hz : z.apex = Name.root) (n : Name) (h : WFName n) :
    z.relativeDomain n = some (relR n).reverse :=
  Zone.relativeDomain_eq_some_iff.mpr (by rw [hz, h.labels_eq]; rfl)

/-! ## `Zone::insert` into a zone whose apex is the root -/

/-- what the fold of `Hosts.toZone` keeps besides the records; `TreeOK` follows (`ZBase.ok`) -/
structure ZBase (z : Zone) : Prop where
  apex : z.apex = Name.root
  soa : z.soa = none
  nsd : z.records.nsdname = Name.root
  names : ZNode.NamesOK z.records
  keys : ZNode.KeysNodup z.records
  plain : ∀ p n, z.records.descend p = some n → RecMapOK n.this ∧ n.wildcards = none

theorem ZBase.ok {z : Zone} (h : ZBase z) : TreeOK z.records := TreeOK.of h.names h.keys h.plain

theorem ZBase_default : ZBase Zone.default := by
  refine ⟨rfl, rfl, rfl, ZNode.namesOK_new _ Name.fromLabels_root, ZNode.keysNodup_new _, fun p n hd => ?_⟩
  rw [show Zone.default.records = ZNode.new Name.root from rfl, ZNode.descend_new] at hd
  split at hd
  · cases hd; exact ⟨List.nodup_nil, rfl⟩
  · cases hd

theorem zone_insert_root (z : Zone) (hb : ZBase z) (n : Name) (hn : WFName n)
    (rtype : Nat) (fields : List FieldVal) (ttl : Nat) :
    ∃ r, z.insert n rtype fields ttl false = some { z with records := r } ∧
      ZBase { z with records := r } ∧ InsertedAt z.records r (relR n) ⟨rtype, fields, ttl⟩ ∧
      recCount r + rcount (recsAt z.records (relR n)) =
        recCount z.records + rcount ((recsAt z.records (relR n)).insertRecord ⟨rtype, fields, ttl⟩) := by
  -- the full name is `n`, which `from_labels` accepts: so no fresh node on the way can fail
  obtain ⟨r, hr⟩ := Option.isSome_iff_exists.mp
    (ZNode.insertRev_isSome ⟨rtype, fields, ttl⟩ false (relR n) z.records hb.names
      (by rw [hb.nsd, show (relR n).reverse ++ Name.root.labels = n.labels from hn.labels_eq.symm,
            (nameWF_iff.mp hn).1]; rfl))
  obtain ⟨hnames, hnsd⟩ := ZNode.namesOK_insertRev _ _ _ _ _ hb.names hr
  refine ⟨r, ?_, ⟨hb.apex, hb.soa, hnsd.trans hb.nsd, hnames, ZNode.keysNodup_insertRev _ _ _ _ _ hb.keys hr,
    ZNode.forall_view_insertRev (Q := fun v => RecMapOK v.1 ∧ v.2 = none) (wild := false)
      ⟨List.nodup_nil, rfl⟩ (fun v hv => ⟨RecMap.keys_nodup_insertRecord v.1 _ hv.1, hv.2⟩) hb.plain hr⟩,
    recsAt_insertRev hr, recCount_insertRev _ _ _ _ hr⟩
  rw [Zone.insert_eq_insertRev, relativeDomain_root z hb.apex n hn]
  simp only [Zone.actualTtl, hb.soa, List.reverse_reverse, hr]

/-! ## the family invariants -/

def FamInv {α : Type} (k : Nat) (f : α → ZoneRecord) (m : AddrMap α) (r : ZNode) : Prop :=
  (∀ n a, AddrMap.get m n = some a → (recsAt r (relR n)).get k = some [f a]) ∧
  (∀ p es, (recsAt r p).get k = some es →
    ∃ n a, relR n = p ∧ AddrMap.get m n = some a ∧ es = [f a])

def OnlyAddr (r : ZNode) : Prop :=
  ∀ p k es, (recsAt r p).get k = some es → k = RT_A ∨ k = RT_AAAA

theorem FamInv.fresh {α : Type} {k : Nat} {f : α → ZoneRecord} {m : AddrMap α} {r : ZNode}
    (hinv : FamInv k f m r) (hwf : ∀ kv ∈ m, WFName kv.1) {n : Name} (hn : WFName n)
    (hnone : AddrMap.get m n = none) : (recsAt r (relR n)).get k = none := by
  cases hg : (recsAt r (relR n)).get k with
  | none => rfl
  | some es =>
    obtain ⟨n', a', hrel, hget, _⟩ := hinv.2 _ _ hg
    have hwf' : WFName n' := hwf _ (AddrMap.get_mem hget)
    have : n' = n := relR_inj hwf' hn hrel
    subst this
    rw [hnone] at hget; cases hget

theorem FamInv.step_same {α : Type} {k : Nat} {f : α → ZoneRecord} {m : AddrMap α} {r r' : ZNode}
    (hinv : FamInv k f m r) (hwf : ∀ kv ∈ m, WFName kv.1) {n : Name} (hn : WFName n)
    (hnone : AddrMap.get m n = none) (a : α) (hk : (f a).rtype = k)
    (hr' : InsertedAt r r' (relR n) (f a)) : FamInv k f (m ++ [(n, a)]) r' := by
  have hfresh := hinv.fresh hwf hn hnone
  subst hk
  constructor
  · intro n' a' hget
    rw [AddrMap.get_append_single] at hget
    cases hm : AddrMap.get m n' with
    | some x =>
      simp only [hm, Option.some.injEq] at hget
      subst hget
      have hwf' : WFName n' := hwf _ (AddrMap.get_mem hm)
      have hne : relR n' ≠ relR n := by
        intro e
        have : n' = n := relR_inj hwf' hn e
        subst this
        rw [hnone] at hm; cases hm
      rw [hr', if_neg hne]
      exact hinv.1 _ _ hm
    | none =>
      simp only [hm] at hget
      by_cases e : n = n'
      · subst e
        simp only [if_true, Option.some.injEq] at hget
        subst hget
        rw [hr', if_pos rfl, RecMap.get_insertRecord_fresh _ _ hfresh]
      · simp [e] at hget
  · intro p es hg
    rw [hr'] at hg
    by_cases hp : p = relR n
    · subst hp
      rw [if_pos rfl, RecMap.get_insertRecord_fresh _ _ hfresh] at hg
      cases hg
      refine ⟨n, a, rfl, ?_, rfl⟩
      rw [AddrMap.get_append_single, hnone]; simp
    · rw [if_neg hp] at hg
      obtain ⟨n', a', hrel, hget, hes⟩ := hinv.2 _ _ hg
      refine ⟨n', a', hrel, ?_, hes⟩
      rw [AddrMap.get_append_single, hget]

theorem FamInv.step_other {α : Type} {k : Nat} {f : α → ZoneRecord} {m : AddrMap α} {r r' : ZNode}
    (hinv : FamInv k f m r) {p : List Label} {zr : ZoneRecord} (hne : k ≠ zr.rtype)
    (hr' : InsertedAt r r' p zr) : FamInv k f m r' := by
  have key : ∀ q, (recsAt r' q).get k = (recsAt r q).get k := by
    intro q
    rw [hr']
    by_cases hq : q = p
    · subst hq; rw [if_pos rfl, RecMap.get_insertRecord_ne _ _ _ hne]
    · rw [if_neg hq]
  constructor
  · intro n a hget; rw [key]; exact hinv.1 n a hget
  · intro q es hg; rw [key] at hg; exact hinv.2 q es hg

theorem OnlyAddr.step {r r' : ZNode} (h : OnlyAddr r) {p : List Label} {zr : ZoneRecord}
    (hk : zr.rtype = RT_A ∨ zr.rtype = RT_AAAA) (hr' : InsertedAt r r' p zr) : OnlyAddr r' := by
  intro q k es hg
  by_cases hkk : k = zr.rtype
  · rw [hkk]; exact hk
  · rw [hr'] at hg
    by_cases hq : q = p
    · subst hq
      rw [if_pos rfl, RecMap.get_insertRecord_ne _ _ _ hkk] at hg
      exact h _ _ _ hg
    · rw [if_neg hq] at hg
      exact h _ _ _ hg

/-! ## the zone built from a set of mappings -/

def recA (a : Nat) : ZoneRecord := ⟨RT_A, [.a a], HOSTS_TTL⟩
def recAAAA (g : List Nat) : ZoneRecord := ⟨RT_AAAA, [.aaaa g], HOSTS_TTL⟩

structure ZInv (m4 : AddrMap Nat) (m6 : AddrMap (List Nat)) (z : Zone) : Prop where
  apex : z.apex = Name.root
  soa : z.soa = none
  nsd : z.records.nsdname = Name.root
  ok : TreeOK z.records
  count : recCount z.records = m4.length + m6.length
  fam4 : FamInv RT_A recA m4 z.records
  fam6 : FamInv RT_AAAA recAAAA m6 z.records
  only : OnlyAddr z.records

/-- `ZInv` as the fold carries it: with `ZBase` (ZoneTree's invariants) in place of `TreeOK`. -/
structure ZFold (m4 : AddrMap Nat) (m6 : AddrMap (List Nat)) (z : Zone) : Prop where
  base : ZBase z
  count : recCount z.records = m4.length + m6.length
  fam4 : FamInv RT_A recA m4 z.records
  fam6 : FamInv RT_AAAA recAAAA m6 z.records
  only : OnlyAddr z.records

theorem ZFold.inv {m4 : AddrMap Nat} {m6 : AddrMap (List Nat)} {z : Zone} (h : ZFold m4 m6 z) :
    ZInv m4 m6 z :=
  ⟨h.base.apex, h.base.soa, h.base.nsd, h.base.ok, h.count, h.fam4, h.fam6, h.only⟩

theorem ZFold_default : ZFold [] [] Zone.default := by
  refine ⟨ZBase_default, ?_, ?_, ?_, ?_⟩
  · simp [Zone.default, Zone.new, recCount_new]
  · constructor
    · intro n a h; simp [AddrMap.get] at h
    · intro p es h; simp [Zone.default, Zone.new, recsAt_new] at h
  · constructor
    · intro n a h; simp [AddrMap.get] at h
    · intro p es h; simp [Zone.default, Zone.new, recsAt_new] at h
  · intro p k es h; simp [Zone.default, Zone.new, recsAt_new] at h

theorem ZFold.step4 {m4 : AddrMap Nat} {m6 : AddrMap (List Nat)} {z : Zone} (h : ZFold m4 m6 z)
    (hwf : ∀ kv ∈ m4, WFName kv.1) (n : Name) (hn : WFName n) (hnone : AddrMap.get m4 n = none)
    (a : Nat) :
    ∃ z', z.insert n RT_A [.a a] HOSTS_TTL false = some z' ∧ ZFold (m4 ++ [(n, a)]) m6 z' := by
  obtain ⟨r, hz, hb, hins, hcount⟩ := zone_insert_root z h.base n hn RT_A [.a a] HOSTS_TTL
  rw [rcount_insertRecord_fresh _ ⟨RT_A, [.a a], HOSTS_TTL⟩ (h.fam4.fresh hwf hn hnone)] at hcount
  refine ⟨_, hz, hb, ?_, h.fam4.step_same hwf hn hnone a rfl hins,
    h.fam6.step_other (show RT_AAAA ≠ RT_A by decide) hins, h.only.step (Or.inl rfl) hins⟩
  have hc := h.count
  simp only [List.length_append, List.length_cons, List.length_nil] at hcount ⊢
  omega

theorem ZFold.step6 {m4 : AddrMap Nat} {m6 : AddrMap (List Nat)} {z : Zone} (h : ZFold m4 m6 z)
    (hwf : ∀ kv ∈ m6, WFName kv.1) (n : Name) (hn : WFName n) (hnone : AddrMap.get m6 n = none)
    (g : List Nat) :
    ∃ z', z.insert n RT_AAAA [.aaaa g] HOSTS_TTL false = some z' ∧ ZFold m4 (m6 ++ [(n, g)]) z' := by
  obtain ⟨r, hz, hb, hins, hcount⟩ := zone_insert_root z h.base n hn RT_AAAA [.aaaa g] HOSTS_TTL
  rw [rcount_insertRecord_fresh _ ⟨RT_AAAA, [.aaaa g], HOSTS_TTL⟩ (h.fam6.fresh hwf hn hnone)] at hcount
  refine ⟨_, hz, hb, ?_, h.fam4.step_other (show RT_A ≠ RT_AAAA by decide) hins,
    h.fam6.step_same hwf hn hnone g rfl hins, h.only.step (Or.inr rfl) hins⟩
  have hc := h.count
  simp only [List.length_append, List.length_cons, List.length_nil] at hcount ⊢
  omega

/-- the fold is spelled as in `Hosts.toZone`; `done` = the entries inserted so far -/
theorem toZone_fold_inv {α : Type} (rt : Nat) (fl : α → List FieldVal)
    (P : AddrMap α → Zone → Prop) (l : AddrMap α)
    (step : ∀ done n a tail z, done ++ (n, a) :: tail = l → P done z →
      ∃ z', z.insert n rt (fl a) HOSTS_TTL false = some z' ∧ P (done ++ [(n, a)]) z')
    (rest : AddrMap α) :
    ∀ (done : AddrMap α) (z : Zone), done ++ rest = l → P done z →
      ∃ z', rest.foldl (fun acc kv =>
          match acc with
          | none => none
          | some z => z.insert kv.1 rt (fl kv.2) HOSTS_TTL false) (some z) = some z' ∧ P l z' := by
  induction rest with
  | nil => intro done z hl hP; exact ⟨z, rfl, by rwa [← hl, List.append_nil]⟩
  | cons kv rest ih =>
    intro done z hl hP
    obtain ⟨n, a⟩ := kv
    obtain ⟨z1, hz1, hP1⟩ := step done n a rest z hl hP
    obtain ⟨z', hz', hP'⟩ := ih (done ++ [(n, a)]) z1 (by rw [← hl]; simp) hP1
    refine ⟨z', ?_, hP'⟩
    simp only [List.foldl_cons, hz1]
    exact hz'

theorem toZone_inv (h : Hosts) (wf : HostsNamesWF h) (n4 : h.v4.KeysNodup) (n6 : h.v6.KeysNodup)
    {z : Zone} (hz : h.toZone = some z) : ZInv h.v4 h.v6 z := by
  obtain ⟨z4, hz4, hinv4⟩ := toZone_fold_inv RT_A (fun a => [.a a]) (fun m z => ZFold m [] z) h.v4
    (fun done n a tail z hl hP =>
      have ⟨hwf, hn, hnone⟩ := AddrMap.entry_facts hl wf.1 n4
      hP.step4 hwf n hn hnone a)
    h.v4 [] Zone.default rfl ZFold_default
  obtain ⟨z6, hz6, hinv6⟩ := toZone_fold_inv RT_AAAA (fun g => [.aaaa g]) (fun m z => ZFold h.v4 m z) h.v6
    (fun done n g tail z hl hP =>
      have ⟨hwf, hn, hnone⟩ := AddrMap.entry_facts hl wf.2 n6
      hP.step6 hwf n hn hnone g)
    h.v6 [] z4 rfl hinv4
  have hz' : h.toZone = some z6 := (congrArg (fun x => h.v6.foldl _ x) hz4).trans hz6
  exact Option.some.inj (hz.symm.trans hz') ▸ hinv6.inv

/-! ## the conversion: never panics, resolves, lists exactly the mappings -/

theorem toZone_isSome (h : Hosts) (wf : HostsNamesWF h) : ∃ z, h.toZone = some z := by
  obtain ⟨z4, hz4, hb4⟩ := toZone_fold_inv RT_A (fun a => [.a a]) (fun _ z => ZBase z) h.v4
    (fun done n a tail z hl hb =>
      have ⟨r, hz, hb', _⟩ := zone_insert_root z hb n (wf.1 (n, a) (by simp [← hl])) RT_A [.a a] HOSTS_TTL
      ⟨_, hz, hb'⟩)
    h.v4 [] Zone.default rfl ZBase_default
  obtain ⟨z6, hz6, _⟩ := toZone_fold_inv RT_AAAA (fun g => [.aaaa g]) (fun _ z => ZBase z) h.v6
    (fun done n g tail z hl hb =>
      have ⟨r, hz, hb', _⟩ := zone_insert_root z hb n (wf.2 (n, g) (by simp [← hl])) RT_AAAA [.aaaa g] HOSTS_TTL
      ⟨_, hz, hb'⟩)
    h.v6 [] z4 rfl hb4
  exact ⟨z6, (congrArg (fun x => h.v6.foldl _ x) hz4).trans hz6⟩

theorem FamInv.node {α : Type} {k : Nat} {f : α → ZoneRecord} {m : AddrMap α} {r : ZNode}
    (hinv : FamInv k f m r) {n : Name} {a : α} (hget : AddrMap.get m n = some a) :
    ∃ nd, nodeAtR (relR n) r = some nd ∧ nd.this.get k = some [f a] := by
  have h1 := hinv.1 n a hget
  cases hnd : nodeAtR (relR n) r with
  | none => rw [recsAt, hnd] at h1; cases h1
  | some nd => exact ⟨nd, rfl, recsAt_of_nodeAtR hnd ▸ h1⟩

/-- a zone with `OnlyAddr` holds neither NS nor CNAME records, so the record set filed under the type is the
    answer.  The hypothesis `hqc` is not used (for `qtype = RT_CNAME` the premise `hg` cannot hold). -/
theorem ZInv.resolve {m4 : AddrMap Nat} {m6 : AddrMap (List Nat)} {z : Zone} (h : ZInv m4 m6 z)
    (n : Name) (hn : WFName n) (nd : ZNode) (hnd : nodeAtR (relR n) z.records = some nd)
    (qtype : Nat) (hq : lookupNat queryTypeFromU16 qtype = none) (hqc : qtype ≠ RT_CNAME)
    (zrs : List ZoneRecord) (hg : nd.this.get qtype = some zrs) :
    z.resolve n qtype = some (.answer (zrs.map (·.toRR n))) := by
  refine Zone.resolve_eq_some_iff.mpr ⟨_, relativeDomain_root z h.apex n hn, ?_⟩
  rw [ZNode.resolve_of_nodeAt z.records nd n qtype _ true
    (by rw [ZNode.nodeAt, List.reverse_reverse, ← nodeAtR_eq_descend]; exact hnd)]
  have hrecs := recsAt_of_nodeAtR hnd
  have hno : ∀ k, k ≠ RT_A → k ≠ RT_AAAA → nd.this.get k = none := fun k h4 h6 => by
    cases hx : nd.this.get k with
    | none => rfl
    | some es =>
      rw [← hrecs] at hx
      exact (h.only _ _ _ hx).elim (absurd · h4) (absurd · h6)
  exact (zoneResultHelper_plain _ _ _ _ _ hq
    (Or.inr (Or.inr (nsOf_eq_nil_iff.mpr (Or.inl (hno RT_NS (by decide) (by decide))))))
    (hno RT_CNAME (by decide) (by decide))).trans (by rw [hg]; rfl)

theorem toZone_resolves_v4 (h : Hosts) (wf : HostsNamesWF h) (n4 : h.v4.KeysNodup) (n6 : h.v6.KeysNodup)
    (z : Zone) (hz : h.toZone = some z) (n : Name) (a : Nat) (hm : h.v4.get n = some a) :
    z.resolve n RT_A = some (.answer [⟨n, RT_A, [.a a], CLASS_IN, Gen.HOSTS_TTL⟩]) := by
  have hinv := toZone_inv h wf n4 n6 hz
  have hn : WFName n := wf.1 _ (AddrMap.get_mem hm)
  obtain ⟨nd, hnd, hg⟩ := hinv.fam4.node hm
  exact hinv.resolve n hn nd hnd RT_A (by decide) (by decide) _ hg

theorem toZone_resolves_v6 (h : Hosts) (wf : HostsNamesWF h) (n4 : h.v4.KeysNodup) (n6 : h.v6.KeysNodup)
    (z : Zone) (hz : h.toZone = some z) (n : Name) (g : List Nat) (hm : h.v6.get n = some g) :
    z.resolve n RT_AAAA = some (.answer [⟨n, RT_AAAA, [.aaaa g], CLASS_IN, Gen.HOSTS_TTL⟩]) := by
  have hinv := toZone_inv h wf n4 n6 hz
  have hn : WFName n := wf.2 _ (AddrMap.get_mem hm)
  obtain ⟨nd, hnd, hg⟩ := hinv.fam6.node hm
  exact hinv.resolve n hn nd hnd RT_AAAA (by decide) (by decide) _ hg

theorem FamInv.owner {α : Type} {k : Nat} {f : α → ZoneRecord} {m : AddrMap α} {r : ZNode}
    (hinv : FamInv k f m r) (hwf : ∀ kv ∈ m, WFName kv.1) {p : List Label} {es : List ZoneRecord}
    {nm : Name} (hnm : NameOK nm) (hlabels : nm.labels = p.reverse ++ Name.root.labels)
    (hg : (recsAt r p).get k = some es) : ∃ a, es = [f a] ∧ AddrMap.get m nm = some a := by
  obtain ⟨n, a, hrel, hget, hes⟩ := hinv.2 _ _ hg
  have hn : WFName n := hwf _ (AddrMap.get_mem hget)
  rw [name_eq_of_labels hnm hn (by rw [hlabels, hrel]; rfl)]
  exact ⟨a, hes, hget⟩

theorem ZInv.listed {m4 : AddrMap Nat} {m6 : AddrMap (List Nat)} {z : Zone} (h : ZInv m4 m6 z)
    (wf4 : ∀ kv ∈ m4, WFName kv.1) (wf6 : ∀ kv ∈ m6, WFName kv.1)
    (nz : Name × ZoneRecord) (hnz : nz ∈ Hosts.flattenRecords z.allRecords) :
    (∃ a, nz.2 = recA a ∧ AddrMap.get m4 nz.1 = some a) ∨
    (∃ g, nz.2 = recAAAA g ∧ AddrMap.get m6 nz.1 = some g) := by
  obtain ⟨zrs, hmem, hzr⟩ := (mem_flattenRecords _ _).mp hnz
  obtain ⟨p, nd, hnd, hx, _⟩ := (ZNode.mem_allRecords_iff h.ok.keysNodup _).mp hmem
  rw [← nodeAtR_eq_descend] at hnd
  simp only [Prod.mk.injEq] at hx
  obtain ⟨hnm, hzrs⟩ := hx
  obtain ⟨hndok, hlabels⟩ := nodeAtR_ok p z.records nd h.ok hnd
  rw [hzrs] at hzr
  obtain ⟨⟨k, es⟩, hkv, hzr⟩ := List.mem_flatMap.mp hzr
  simp only at hzr
  have hg : nd.this.get k = some es := RecMap.get_of_mem hndok.recMapOK hkv
  have hrecs := recsAt_of_nodeAtR hnd
  rw [← hrecs] at hg
  rw [h.nsd] at hlabels
  rw [hnm]
  rcases h.only _ _ _ hg with e | e
  · subst e
    obtain ⟨a, hes, hget⟩ := h.fam4.owner wf4 hndok.nameOK hlabels hg
    rw [hes, List.mem_singleton] at hzr
    exact Or.inl ⟨a, hzr, hget⟩
  · subst e
    obtain ⟨g, hes, hget⟩ := h.fam6.owner wf6 hndok.nameOK hlabels hg
    rw [hes, List.mem_singleton] at hzr
    exact Or.inr ⟨g, hzr, hget⟩

/-! ## converting back -/

theorem FamInv.listed {α : Type} {k : Nat} {f : α → ZoneRecord} {m : AddrMap α} {r : ZNode}
    (hinv : FamInv k f m r) (hok : TreeOK r) (hnsd : r.nsdname = Name.root) {n : Name} {a : α}
    (hn : WFName n) (hget : AddrMap.get m n = some a) :
    (n, f a) ∈ Hosts.flattenRecords r.allRecords := by
  obtain ⟨nd, hnd, hg⟩ := hinv.node hget
  obtain ⟨hndok, hlabels⟩ := nodeAtR_ok _ r nd hok hnd
  rw [hnsd] at hlabels
  have hname : nd.nsdname = n := name_eq_of_labels hndok.nameOK hn hlabels
  have hmem : f a ∈ nd.this.flatMap (·.2) :=
    List.mem_flatMap.mpr ⟨(k, [f a]), RecMap.get_mem hg, by simp⟩
  have hne : nd.this.flatMap (·.2) ≠ [] := by
    intro e; rw [e] at hmem; cases hmem
  have := (ZNode.mem_allRecords_iff hok.keysNodup _).mpr
    ⟨_, nd, (nodeAtR_eq_descend _ r).symm.trans hnd, rfl, hne⟩
  rw [hname] at this
  exact (mem_flattenRecords _ _).mpr ⟨_, this, hmem⟩

def mappingRec : Name × IpAddr → Name × ZoneRecord
  | (n, .v4 a) => (n, recA a)
  | (n, .v6 g) => (n, recAAAA g)

theorem mappingRec_inj {m m' : Name × IpAddr} (h : mappingRec m = mappingRec m') : m = m' := by
  obtain ⟨n, x⟩ := m
  obtain ⟨n', x'⟩ := m'
  cases x <;> cases x' <;> simp only [mappingRec, recA, recAAAA, Prod.mk.injEq, ZoneRecord.mk.injEq] at h
  · simp only [List.cons.injEq, FieldVal.a.injEq, and_true, true_and] at h
    rw [h.1, h.2]
  · exact absurd h.2.1 (by decide)
  · exact absurd h.2.1 (by decide)
  · simp only [List.cons.injEq, FieldVal.aaaa.injEq, and_true, true_and] at h
    rw [h.1, h.2]

theorem collectRecords_mappingRec (strict : Bool) (m : Name × IpAddr) (rest : List (Name × ZoneRecord))
    (h : Hosts) :
    Hosts.collectRecords strict (mappingRec m :: rest) h =
      Hosts.collectRecords strict rest (HostsM.applyMapping h m) := by
  obtain ⟨n, x⟩ := m
  cases x <;> rfl

theorem collectRecords_map (strict : Bool) (ms : List (Name × IpAddr)) (h0 : Hosts) :
    Hosts.collectRecords strict (ms.map mappingRec) h0 = .ok (ms.foldl HostsM.applyMapping h0) := by
  induction ms generalizing h0 with
  | nil => rfl
  | cons m ms ih => rw [List.map_cons, collectRecords_mappingRec, ih, List.foldl_cons]

theorem exists_map_eq_of_forall_exists {α β : Type} (f : α → β) (L : List β) (h : ∀ y ∈ L, ∃ x, f x = y) :
    ∃ xs : List α, xs.map f = L := by
  induction L with
  | nil => exact ⟨[], rfl⟩
  | cons y L ih =>
    obtain ⟨x, hx⟩ := h y (by simp)
    obtain ⟨xs, hxs⟩ := ih (fun y hy => h y (by simp [hy]))
    exact ⟨x :: xs, by rw [List.map_cons, hx, hxs]⟩

theorem ZInv.listed_mapping {m4 : AddrMap Nat} {m6 : AddrMap (List Nat)} {z : Zone} (h : ZInv m4 m6 z)
    (wf4 : ∀ kv ∈ m4, WFName kv.1) (wf6 : ∀ kv ∈ m6, WFName kv.1)
    (nz : Name × ZoneRecord) (hnz : nz ∈ Hosts.flattenRecords z.allRecords) :
    ∃ x, mappingRec (nz.1, x) = nz ∧ HostsM.Maps ⟨m4, m6⟩ nz.1 x := by
  obtain ⟨n, zr⟩ := nz
  rcases h.listed wf4 wf6 _ hnz with ⟨a, e, hget⟩ | ⟨g, e, hget⟩
  · exact ⟨.v4 a, by rw [show zr = recA a from e]; rfl, hget⟩
  · exact ⟨.v6 g, by rw [show zr = recAAAA g from e]; rfl, hget⟩

/-- the records of the zone are the records of a list of mappings that holds exactly the entries of `h` (`Lists`) -/
theorem zone_roundtrip (h : Hosts) (wf : HostsNamesWF h) (n4 : h.v4.KeysNodup) (n6 : h.v6.KeysNodup)
    (z : Zone) (hz : h.toZone = some z) :
    ∃ h', Hosts.tryFromZone z = .ok h' ∧ Hosts.Equiv h' h := by
  have hinv := toZone_inv h wf n4 n6 hz
  have hlisted := hinv.listed_mapping wf.1 wf.2
  obtain ⟨ms, hms⟩ := exists_map_eq_of_forall_exists mappingRec (Hosts.flattenRecords z.allRecords)
    (fun nz hnz => (hlisted nz hnz).elim fun x hx => ⟨(nz.1, x), hx.1⟩)
  have hl : HostsM.Lists ms h := by
    intro n x
    constructor
    · intro hm
      obtain ⟨x', e, hx'⟩ := hlisted (mappingRec (n, x)) (hms ▸ List.mem_map_of_mem hm)
      have e' : (mappingRec (n, x)).1 = n := by cases x <;> rfl
      rw [e'] at e hx'
      cases mappingRec_inj e
      exact hx'
    · intro hx
      have hmem : mappingRec (n, x) ∈ Hosts.flattenRecords z.allRecords := by
        cases x with
        | v4 a => exact hinv.fam4.listed hinv.ok hinv.nsd (wf.1 _ (AddrMap.get_mem hx)) hx
        | v6 g => exact hinv.fam6.listed hinv.ok hinv.nsd (wf.2 _ (AddrMap.get_mem hx)) hx
      rw [← hms] at hmem
      obtain ⟨m, hm, e⟩ := List.mem_map.mp hmem
      rw [← mappingRec_inj e]
      exact hm
  refine ⟨ms.foldl HostsM.applyMapping Hosts.new, ?_, hl.foldl_equiv⟩
  unfold Hosts.tryFromZone
  rw [show z.allWildcardRecords = [] from allWildcardRecords_nil _ hinv.ok, ← hms]
  exact collectRecords_map true ms Hosts.new

/-- non-vacuity, including the corner where the root name itself is a key (the record then sits at
    the apex node, `rel = []`, `isApex = true`): the hypotheses are satisfiable and the zone answers
    for both families. -/
example : ∃ z, (⟨[(Name.root, 7)], [(Name.root, [0, 0, 0, 0, 0, 0, 0, 1])]⟩ : Hosts).toZone = some z ∧
    z.resolve Name.root RT_A = some (.answer [⟨Name.root, RT_A, [.a 7], CLASS_IN, Gen.HOSTS_TTL⟩]) ∧
    z.resolve Name.root RT_AAAA =
      some (.answer [⟨Name.root, RT_AAAA, [.aaaa [0, 0, 0, 0, 0, 0, 0, 1]], CLASS_IN, Gen.HOSTS_TTL⟩]) := by
  have wf : HostsNamesWF ⟨[(Name.root, 7)], [(Name.root, [0, 0, 0, 0, 0, 0, 0, 1])]⟩ := by
    constructor <;> (intro kv hkv; simp at hkv; subst hkv; exact C16_root_wf)
  have n4 : AddrMap.KeysNodup [(Name.root, 7)] := by simp [AddrMap.KeysNodup]
  have n6 : AddrMap.KeysNodup [(Name.root, [0, 0, 0, 0, 0, 0, 0, 1])] := by simp [AddrMap.KeysNodup]
  obtain ⟨z, hz⟩ := toZone_isSome _ wf
  exact ⟨z, hz, toZone_resolves_v4 _ wf n4 n6 z hz _ _ (by simp [AddrMap.get]),
    toZone_resolves_v6 _ wf n4 n6 z hz _ _ (by simp [AddrMap.get])⟩

end Resolved
