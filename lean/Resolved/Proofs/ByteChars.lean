/-
  Octets written as chars (`u8 as char`): the number is kept, an ASCII octet is its own UTF-8 encoding; the decimal digit
  chars of Model/IpText.lean and `to_digit` (`toDigit10_*`); `of_ite_eq`, case analysis on an `if … then … else …` in a
  hypothesis by application.
-/
import Resolved.Model.IpText

namespace Resolved

/-- case analysis on an `if` in a hypothesis, by application: `split` and rewriting with `if_pos` /
    `if_neg` traverse both branches, which in the parsers hold everything still to come. -/
theorem of_ite_eq {p : Prop} [Decidable p] {α : Type} {a b x : α} {P : Prop}
    (h : (if p then a else b) = x) (h1 : p → a = x → P) (h2 : ¬p → b = x → P) : P := by
  split at h
  · exact h1 ‹_› h
  · exact h2 ‹_› h

theorem toNat_ofNat_of_lt {n : Nat} (h : n < 256) : (Char.ofNat n).toNat = n := by
  have hv : n.isValidChar := Or.inl (by omega)
  unfold Char.ofNat
  rw [dif_pos hv]
  rfl

theorem toNat_ofNat_byte (b : UInt8) : (Char.ofNat b.toNat).toNat = b.toNat :=
  toNat_ofNat_of_lt b.toNat_lt

theorem utf8EncodeChar_byte (b : UInt8) (h : b.toNat < 128) : utf8EncodeChar (Char.ofNat b.toNat) = [b] := by
  unfold utf8EncodeChar
  simp only [toNat_ofNat_byte, h, if_true]
  rw [UInt8.ofNat_toNat]

theorem utf8Encode_asciiChars (bs : List UInt8) (h : ∀ b ∈ bs, b.toNat < 128) :
    utf8Encode (Hosts.asciiChars bs) = bs := by
  induction bs with
  | nil => rfl
  | cons b bs ih =>
    have := ih fun x hx => h x (List.mem_cons_of_mem _ hx)
    simp only [Hosts.asciiChars, utf8Encode, List.map_cons, List.flatMap_cons] at this ⊢
    rw [utf8EncodeChar_byte b (h b List.mem_cons_self), this]
    rfl

namespace IpText

theorem utf8Encode_bytesAsChars (bs : List UInt8) (h : ∀ b ∈ bs, b.toNat < 128) :
    utf8Encode (bytesAsChars bs) = bs :=
  utf8Encode_asciiChars bs h

theorem digitChar_toNat {d : Nat} (h : d < 10) : (digitChar d).toNat = 48 + d :=
  toNat_ofNat_of_lt (by omega)

theorem toDigit10_digitChar (d : Nat) (h : d < 10) : toDigit10 (digitChar d) = some d := by
  unfold toDigit10
  rw [digitChar_toNat h, if_pos (by omega), Nat.add_sub_cancel_left]

theorem toDigit10_le {c : Char} {d : Nat} (h : toDigit10 c = some d) : d ≤ 9 := by
  unfold toDigit10 at h
  split at h
  · cases h; omega
  · cases h

theorem toDigit10_eq_none {c : Char} (h : ¬ (48 ≤ c.toNat ∧ c.toNat ≤ 57)) : toDigit10 c = none := if_neg h

end IpText

end Resolved
