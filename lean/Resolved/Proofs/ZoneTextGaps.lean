/-
  Between tokens: what the tokeniser (Model/ZoneText.lean) skips (`Skip`), what also ends an unquoted token under
  construction (`Gap`), what ends the entry (`EnderAt`), and the text of one token (`TokText`) or of several separated by gaps
  (`TokTexts`), each as one equation between tokens: in front of white space, `;` or the end of the stream the
  unquoted-string state is the initial state with the token pushed (`tokLoop_unquoted_atDelim`).  At the end, a comment glued
  onto a token.  The lines `Zone::serialise` writes and the renderings of the specification are read through these.
-/
import Resolved.Proofs.ZoneTextOctets

namespace Resolved.ZoneText

open Resolved Resolved.IpText Gen

/-! ## what ends an unquoted token -/

/-- the stream is at its end, or at a char that ends an unquoted token: white space (the line feed is white space) or `;`. -/
def AtDelim (s : List Char) : Prop := ∀ c ∈ s.head?, c = ';' ∨ isWhitespace c = true

/-- there the unquoted-string state is the initial state with the token pushed: so what follows a token is stated, and
    proved, between tokens only. -/
theorem tokLoop_unquoted_atDelim {s : List Char} (hs : AtDelim s) (rt : List Token) (rs : List Char)
    (ro : List UInt8) (lc : Bool) :
    tokLoop 0 s rt rs ro .unquotedString lc = tokLoop 0 s (pushNonEmpty rt rs ro) [] [] .initial lc := by
  cases s with
  | nil => rfl
  | cons c cs =>
    by_cases hn : c = '\n'
    · subst hn; cases lc <;> simp [tokLoop, pushNonEmpty]
    · rcases hs c rfl with rfl | h
      · simp [tokLoop]
      · have hne : c ≠ ';' ∧ c ≠ '(' ∧ c ≠ ')' ∧ c ≠ '"' ∧ c ≠ '\\' := by
          refine ⟨?_, ?_, ?_, ?_, ?_⟩ <;> (rintro rfl; simp [isWhitespace] at h)
        simp [tokLoop, hn, hne, h]

theorem AtDelim.append {g : List Char} (h : AtDelim g) (hne : g ≠ []) (r : List Char) : AtDelim (g ++ r) := by
  cases g with
  | nil => exact absurd rfl hne
  | cons c cs => exact h

theorem AtDelim.cons {c : Char} (h : c = ';' ∨ isWhitespace c = true) (cs : List Char) : AtDelim (c :: cs) :=
  fun d hd => by cases hd; exact h

/-! ## skipping and gaps -/

/-- between tokens, the text `g` is skipped and changes the parenthesis flag from `lc` to `lc'`. -/
def Skip (g : List Char) (lc lc' : Bool) : Prop :=
  ∀ (rest : List Char) (rtoks : List Token),
    tokLoop 0 (g ++ rest) rtoks [] [] .initial lc = tokLoop 0 rest rtoks [] [] .initial lc'

/-- a gap: skipped text that begins with a delimiter, so that it also ends an unquoted token under construction (`Gap.pend`). -/
structure Gap (g : List Char) (lc lc' : Bool) : Prop where
  init : Skip g lc lc'
  ne : g ≠ []
  delim : AtDelim g

theorem Gap.pend {g : List Char} {lc lc' : Bool} (h : Gap g lc lc') (rest : List Char) (rtoks : List Token)
    (rstr : List Char) (roct : List UInt8) :
    tokLoop 0 (g ++ rest) rtoks rstr roct .unquotedString lc
      = tokLoop 0 rest (pushNonEmpty rtoks rstr roct) [] [] .initial lc' := by
  rw [tokLoop_unquoted_atDelim (h.delim.append h.ne rest), h.init]

theorem Skip.nil (lc : Bool) : Skip [] lc lc := fun _ _ => rfl

theorem Skip.append {g1 g2 : List Char} {a b c : Bool} (h1 : Skip g1 a b) (h2 : Skip g2 b c) :
    Skip (g1 ++ g2) a c := by
  intro rest rtoks
  rw [List.append_assoc, h1, h2]

theorem Gap.append_skip {g1 g2 : List Char} {a b c : Bool} (h1 : Gap g1 a b) (h2 : Skip g2 b c) :
    Gap (g1 ++ g2) a c :=
  ⟨h1.init.append h2, by simp [h1.ne], h1.delim.append h1.ne g2⟩

/-- the white space the serialiser and the specification's renderings write inside a line; the tokeniser skips every
    `char::is_whitespace`. -/
def isBlank (c : Char) : Prop := c = ' ' ∨ c = '\t' ∨ c = '\r'

theorem isBlank.delim {c : Char} (hc : isBlank c) : c = ';' ∨ isWhitespace c = true := by
  rcases hc with h | h | h <;> subst h <;> exact .inr (by decide)

theorem skip_blank {c : Char} (hc : isBlank c) (lc : Bool) : Skip [c] lc lc := by
  intro rest rtoks
  rcases hc with h | h | h <;> subst h <;> simp [tokLoop, isWhitespace]

theorem gap_blank {c : Char} (hc : isBlank c) (lc : Bool) : Gap [c] lc lc :=
  ⟨skip_blank hc lc, by simp, AtDelim.cons hc.delim []⟩

theorem skip_blanks (g : List Char) (h : ∀ c ∈ g, isBlank c) (lc : Bool) : Skip g lc lc := by
  induction g with
  | nil => exact Skip.nil lc
  | cons c cs ih =>
    exact (skip_blank (h c (by simp)) lc).append (ih (fun d hd => h d (by simp [hd])))

theorem gap_blanks (g : List Char) (hne : g ≠ []) (h : ∀ c ∈ g, isBlank c) (lc : Bool) : Gap g lc lc := by
  cases g with
  | nil => exact absurd rfl hne
  | cons c cs =>
    exact (gap_blank (h c (by simp)) lc).append_skip (skip_blanks cs (fun d hd => h d (by simp [hd])) lc)

theorem skip_open : Skip ['('] false true := by
  intro rest rtoks; simp [tokLoop]

theorem skip_close : Skip [')'] true false := by
  intro rest rtoks; simp [tokLoop]

theorem skip_newline_inside : Skip ['\n'] true true := by
  intro rest rtoks; simp [tokLoop]

def IsEol (eol : List Char) : Prop := eol = ['\n'] ∨ eol = ['\r', '\n']

theorem skip_eol_inside {eol : List Char} (h : IsEol eol) : Skip eol true true := by
  rcases h with h | h <;> subst h
  · exact skip_newline_inside
  · exact (skip_blank (Or.inr (Or.inr rfl)) true).append skip_newline_inside

theorem IsEol.delim {eol : List Char} (h : IsEol eol) : eol ≠ [] ∧ AtDelim eol := by
  rcases h with rfl | rfl <;> exact ⟨by simp, AtDelim.cons (.inr (by decide)) _⟩

theorem gap_eol_inside {eol : List Char} (h : IsEol eol) : Gap eol true true :=
  ⟨skip_eol_inside h, h.delim.1, h.delim.2⟩

/-! ## ends of an entry -/

/-- `e` followed by `rest` ends the entry (`rest = []`: the end of the input), also for an unquoted token under
    construction (`EnderAt.pend`). -/
structure EnderAt (e : List Char) (lc : Bool) (rest : List Char) : Prop where
  init : ∀ (rtoks : List Token),
    tokLoop 0 (e ++ rest) rtoks [] [] .initial lc = .ok (rtoks.reverse, rest)
  delim : AtDelim (e ++ rest)

theorem EnderAt.pend {e rest : List Char} {lc : Bool} (h : EnderAt e lc rest) (rtoks : List Token) (rstr : List Char)
    (roct : List UInt8) :
    tokLoop 0 (e ++ rest) rtoks rstr roct .unquotedString lc = .ok ((pushNonEmpty rtoks rstr roct).reverse, rest) := by
  rw [tokLoop_unquoted_atDelim h.delim, h.init]

/-- a gap ends a pending token, so after it only the reading between tokens matters. -/
theorem EnderAt.of_gap {g e : List Char} {a b : Bool} {rest : List Char} (hg : Gap g a b)
    (he : ∀ (rtoks : List Token), tokLoop 0 (e ++ rest) rtoks [] [] .initial b = .ok (rtoks.reverse, rest)) :
    EnderAt (g ++ e) a rest :=
  ⟨fun rtoks => by rw [List.append_assoc, hg.init, he], by rw [List.append_assoc]; exact hg.delim.append hg.ne _⟩

theorem enderAt_newline (rest : List Char) : EnderAt ['\n'] false rest :=
  ⟨fun rtoks => by simp [tokLoop, pushNonEmpty], AtDelim.cons (.inr (by decide)) _⟩

theorem enderAt_eol {eol : List Char} (h : IsEol eol) (rest : List Char) : EnderAt eol false rest := by
  rcases h with h | h <;> subst h
  · exact enderAt_newline rest
  · exact EnderAt.of_gap (gap_blank (Or.inr (Or.inr rfl)) false) (enderAt_newline rest).init

theorem enderAt_eof {lc : Bool} : EnderAt [] lc [] :=
  ⟨fun rtoks => by simp [tokLoop, pushNonEmpty], nofun⟩

/-! ## comments -/

theorem tokLoop_comment (c : List Char) (hc : '\n' ∉ c) (tail : List Char) (rtoks : List Token) (lc : Bool) :
    tokLoop 0 (';' :: c ++ tail) rtoks [] [] .initial lc = tokLoop 0 tail rtoks [] [] .skipToEndOfComment lc := by
  rw [List.cons_append]
  simp only [tokLoop, show (';' : Char) ≠ '\n' from by decide, if_false, if_true]
  exact tokLoop_skip_comment c hc tail rtoks [] [] lc

theorem gap_comment_newline_inside (c : List Char) (hc : '\n' ∉ c) : Gap (';' :: c ++ ['\n']) true true :=
  ⟨fun rest rtoks => by rw [List.append_assoc, tokLoop_comment c hc]; simp [tokLoop], by simp,
    AtDelim.cons (.inl rfl) _⟩

theorem gap_comment_eol_inside {eol : List Char} (h : IsEol eol) (c : List Char) (hc : '\n' ∉ c) :
    Gap (';' :: c ++ eol) true true := by
  rcases h with rfl | rfl
  · exact gap_comment_newline_inside c hc
  · -- the carriage return belongs to the comment
    have := gap_comment_newline_inside (c ++ ['\r']) (by simp [hc])
    simpa using this

theorem enderAt_comment_newline (c : List Char) (hc : '\n' ∉ c) (rest : List Char) :
    EnderAt (';' :: c ++ ['\n']) false rest :=
  ⟨fun rtoks => by rw [List.append_assoc, tokLoop_comment c hc]; simp [tokLoop, pushNonEmpty],
    AtDelim.cons (.inl rfl) _⟩

theorem enderAt_comment_eol {eol : List Char} (h : IsEol eol) (c : List Char) (hc : '\n' ∉ c) (rest : List Char) :
    EnderAt (';' :: c ++ eol) false rest := by
  rcases h with rfl | rfl
  · exact enderAt_comment_newline c hc rest
  · have := enderAt_comment_newline (c ++ ['\r']) (by simp [hc]) rest
    simpa using this

theorem enderAt_comment_input (c : List Char) (hc : '\n' ∉ c) : EnderAt (';' :: c) false [] :=
  ⟨fun rtoks => by rw [tokLoop_comment c hc]; simp [tokLoop, pushNonEmpty], AtDelim.cons (.inl rfl) _⟩

/-! ## the text of one token -/

/-- read from between tokens and followed by a delimiter or the end of the stream, the text `x` is the token `tok`.
    A quoted token is finished whatever follows (`TokText.closed`); an unquoted one is still open after `x`, and what
    follows ends it (`TokText.opened`). -/
def TokText (x : List Char) (tok : Token) : Prop :=
  ∀ (lc : Bool) (s : List Char) (rtoks : List Token), AtDelim s →
    tokLoop 0 (x ++ s) rtoks [] [] .initial lc = tokLoop 0 s (tok :: rtoks) [] [] .initial lc

theorem pushNonEmpty_of_ne (rtoks : List Token) {rstr : List Char} (roct : List UInt8) (h : rstr ≠ []) :
    pushNonEmpty rtoks rstr roct = (rstr.reverse, roct.reverse) :: rtoks := by
  cases rstr with
  | nil => exact absurd rfl h
  | cons c cs => rfl

namespace TokText
variable {x : List Char} {tok : Token}

theorem closed (h : ∀ (lc : Bool) (rest : List Char) (rtoks : List Token),
    tokLoop 0 (x ++ rest) rtoks [] [] .initial lc = tokLoop 0 rest (tok :: rtoks) [] [] .initial lc) : TokText x tok :=
  fun lc s rtoks _ => h lc s rtoks

/-- an open token must not be empty: `pushNonEmpty` would drop it. -/
theorem opened (hne : tok.1 ≠ []) (h : ∀ (lc : Bool) (rest : List Char) (rtoks : List Token),
    tokLoop 0 (x ++ rest) rtoks [] [] .initial lc
      = tokLoop 0 rest rtoks tok.1.reverse tok.2.reverse .unquotedString lc) : TokText x tok :=
  fun lc s rtoks hs => by
    rw [h, tokLoop_unquoted_atDelim hs, pushNonEmpty_of_ne _ _ (by simpa using hne), List.reverse_reverse,
      List.reverse_reverse]

theorem ender (h : TokText x tok) {e : List Char} {lc : Bool} {rest : List Char} (he : EnderAt e lc rest)
    (rtoks : List Token) :
    tokLoop 0 (x ++ (e ++ rest)) rtoks [] [] .initial lc = .ok ((tok :: rtoks).reverse, rest) := by
  rw [h lc _ rtoks he.delim, he.init]

end TokText

theorem tokText_octets_quoted (bs : List UInt8) : TokText (serialiseOctets bs true) (bs.map octetAsChar, bs) :=
  .closed fun lc rest rtoks => tokLoop_serialiseOctets_quoted bs rest rtoks lc

theorem tokText_octets_unquoted (bs : List UInt8) (hne : bs ≠ []) :
    TokText (serialiseOctets bs false) (bs.map octetAsChar, bs) :=
  .opened (by simpa using hne) fun lc rest rtoks => tokLoop_serialiseOctets_unquoted bs hne rest rtoks lc

theorem tokText_plain (c : Char) (cs : List Char) (hc : plainInit c = true) (hcs : cs.all plainUnq = true) :
    TokText (c :: cs) (c :: cs, (c :: cs).map charAsU8) :=
  .opened (List.cons_ne_nil c cs) fun lc rest rtoks => by
    rw [tokLoop_plain_token c cs hc hcs, List.append_nil, List.append_nil]

theorem tokText_plain_quoted (body : List Char) (h : body.all plainQ = true) :
    TokText ('"' :: body ++ ['"']) (body, body.map charAsU8) :=
  .closed fun lc rest rtoks => by simpa using tokLoop_plain_quoted body h rest rtoks lc

/-! ## tokens separated by gaps -/

/-- `x`, read from between tokens with parenthesis flag `lc` and followed by a delimiter or the end of the stream, is the
    tokens `toks` and leaves the flag at `lc'`. -/
def TokTexts (lc : Bool) (x : List Char) (toks : List Token) (lc' : Bool) : Prop :=
  ∀ (s : List Char) (rtoks : List Token), AtDelim s →
    tokLoop 0 (x ++ s) rtoks [] [] .initial lc = tokLoop 0 s (toks.reverse ++ rtoks) [] [] .initial lc'

theorem TokText.one {x : List Char} {tok : Token} (h : TokText x tok) (lc : Bool) : TokTexts lc x [tok] lc :=
  fun s rtoks hs => h lc s rtoks hs

theorem TokTexts.gap {lc lc' lc'' : Bool} {x g : List Char} {toks : List Token} (h : TokTexts lc x toks lc')
    (hg : Gap g lc' lc'') (rest : List Char) (rtoks : List Token) :
    tokLoop 0 (x ++ (g ++ rest)) rtoks [] [] .initial lc = tokLoop 0 rest (toks.reverse ++ rtoks) [] [] .initial lc'' := by
  rw [h _ rtoks (hg.delim.append hg.ne rest), hg.init]

theorem TokText.gap {x : List Char} {tok : Token} (h : TokText x tok) {g : List Char} {lc lc' : Bool} (hg : Gap g lc lc')
    (rest : List Char) (rtoks : List Token) :
    tokLoop 0 (x ++ (g ++ rest)) rtoks [] [] .initial lc = tokLoop 0 rest (tok :: rtoks) [] [] .initial lc' :=
  (h.one lc).gap hg rest rtoks

theorem TokTexts.ender {lc lc' : Bool} {x e rest : List Char} {toks : List Token} (h : TokTexts lc x toks lc')
    (he : EnderAt e lc' rest) (rtoks : List Token) :
    tokLoop 0 (x ++ (e ++ rest)) rtoks [] [] .initial lc = .ok (rtoks.reverse ++ toks, rest) := by
  rw [h _ rtoks he.delim, he.init, List.reverse_append, List.reverse_reverse]

theorem TokTexts.append {a b c d : Bool} {x g y : List Char} {ts us : List Token} (hx : TokTexts a x ts b)
    (hg : Gap g b c) (hy : TokTexts c y us d) : TokTexts a (x ++ g ++ y) (ts ++ us) d := fun s rtoks hs => by
  rw [List.append_assoc, List.append_assoc, hx.gap hg, hy s _ hs, List.reverse_append, List.append_assoc]

/-- a token in front: the form in which a line is rendered token by token. -/
theorem TokTexts.cons {a b d : Bool} {x g y : List Char} {tok : Token} {us : List Token} (hx : TokText x tok)
    (hg : Gap g a b) (hy : TokTexts b y us d) : TokTexts a (x ++ (g ++ y)) (tok :: us) d := by
  have := (hx.one a).append hg hy
  rwa [List.append_assoc] at this

theorem TokTexts.skip {a b c : Bool} {g x : List Char} {ts : List Token} (hg : Skip g a b) (hx : TokTexts b x ts c) :
    TokTexts a (g ++ x) ts c := fun s rtoks hs => by rw [List.append_assoc, hg, hx s rtoks hs]

theorem TokTexts.append_blanks {x s : List Char} {ts : List Token} {a b : Bool} (hx : TokTexts a x ts b)
    (hs : Gap s b b) : TokTexts a (x ++ s) ts b := fun s' rtoks _ => by
  rw [List.append_assoc]
  exact hx.gap hs s' rtoks

theorem TokTexts.tokeniseEntry {x : List Char} {toks : List Token} {lc' : Bool} (h : TokTexts false x toks lc')
    {e rest : List Char} (he : EnderAt e lc' rest) : ZoneText.tokeniseEntry (x ++ (e ++ rest)) = .ok (toks, rest) :=
  h.ender he []

/-! ## a comment glued onto a token

`tok;comment` is read like `tok ;comment`.  The names of this file beginning with `mx_` (a mark with no meaning of its
own) belong to this lexical variant (`C11_comment_directly_after_*`, `C11_glued_comment_*` of Props/C11). -/

/-- `mx_TokAt pre rtoks rstr roct st lc`: having read `pre` from the start of an entry, the tokeniser
    stands — whatever follows — with the finished tokens `rtoks`, the token under construction
    `rstr` / `roct` (all three reversed), in state `st`, inside parentheses iff `lc`, and no chars owed
    to an escape. -/
def mx_TokAt (pre : List Char) (rtoks : List Token) (rstr : List Char) (roct : List UInt8)
    (st : TState) (lc : Bool) : Prop :=
  ∀ tail, tokeniseEntry (pre ++ tail) = tokLoop 0 tail rtoks rstr roct st lc

theorem mx_TokAt_nil : mx_TokAt [] [] [] [] .initial false := fun _ => rfl

theorem mx_TokAt.append {pre p : List Char} {rt rt' : List Token} {rs rs' : List Char}
    {ro ro' : List UInt8} {st st' : TState} {lc lc' : Bool} (h : mx_TokAt pre rt rs ro st lc)
    (hp : ∀ tail, tokLoop 0 (p ++ tail) rt rs ro st lc = tokLoop 0 tail rt' rs' ro' st' lc') :
    mx_TokAt (pre ++ p) rt' rs' ro' st' lc' := by
  intro tail
  rw [List.append_assoc, h, hp]

theorem mx_TokAt.plain_chars {pre : List Char} {rt : List Token} {rs : List Char} {ro : List UInt8} {lc : Bool}
    (h : mx_TokAt pre rt rs ro .unquotedString lc) (tok : List Char) (hplain : tok.all plainUnq = true) :
    mx_TokAt (pre ++ tok) rt (tok.reverse ++ rs) ((tok.map charAsU8).reverse ++ ro) .unquotedString lc :=
  h.append fun tail =>
    tokLoop_plain_chars (st := .unquotedString) rfl tok (List.all_eq_true.mp hplain) tail rt rs ro lc

/-- `.initial` is also the state right after a closing quote. -/
theorem tokLoop_glue_comment (st : TState) (hst : st = .initial ∨ st = .unquotedString) (cs : List Char)
    (rt : List Token) (rs : List Char) (ro : List UInt8) (lc : Bool) :
    tokLoop 0 (';' :: cs) rt rs ro st lc = tokLoop 0 (' ' :: ';' :: cs) rt rs ro st lc := by
  rcases hst with rfl | rfl <;> simp [tokLoop, isWhitespace]

theorem mx_TokAt.glue_comment {p : List Char} {rt : List Token} {rs : List Char} {ro : List UInt8} {st : TState}
    {lc : Bool} (h : mx_TokAt p rt rs ro st lc) (hst : st = .initial ∨ st = .unquotedString) (tail : List Char) :
    tokeniseEntry (p ++ ';' :: tail) = tokeniseEntry (p ++ ' ' :: ';' :: tail) := by
  rw [h, h]
  exact tokLoop_glue_comment st hst tail rt rs ro lc

/-- `;` and the blank are both delimiters, and the blank is skipped. -/
theorem TokText.glue_comment {x : List Char} {tok : Token} (hx : TokText x tok) {pre : List Char} {rtoks : List Token}
    {lc : Bool} (hpre : mx_TokAt pre rtoks [] [] .initial lc) (tail : List Char) :
    tokeniseEntry (pre ++ x ++ ';' :: tail) = tokeniseEntry (pre ++ x ++ ' ' :: ';' :: tail) := by
  rw [List.append_assoc, List.append_assoc, hpre, hpre, hx lc _ rtoks (AtDelim.cons (.inl rfl) tail),
    hx lc _ rtoks (AtDelim.cons (.inr (by decide)) _)]
  exact ((skip_blank (.inl rfl) lc) (';' :: tail) _).symm

/-- outside parentheses the entry ends there: `enderAt_comment_newline`. -/
theorem mx_glued_comment_inside (c : List Char) (hc : '\n' ∉ c) (rest : List Char) (rt : List Token)
    (rs : List Char) (ro : List UInt8) :
    tokLoop 0 (';' :: c ++ '\n' :: rest) rt rs ro .unquotedString true
      = tokLoop 0 rest (pushNonEmpty rt rs ro) [] [] .initial true := by
  simpa using (gap_comment_newline_inside c hc).pend rest rt rs ro

end Resolved.ZoneText
