/-
  C07 over consistent universes: records stored whole come back from a lookup with the TTL that is left (`cachedRR`);
  the local lookup where zones and cache know nothing (`localMiss`) is a dead end; and
  the cache invariant of a resolution (`uni2_Cache V G K c T`: NS sets of the zones `V`, addresses of the servers `G`,
  anything under the keys `K`, alive until `T`) with what lookups return under it.
-/
import Resolved.Spec.UniverseSpec
import Resolved.Proofs.ResolverLocalWalk
import Resolved.Proofs.CacheStore

namespace Resolved

open Gen

set_option autoImplicit false

/-! ## Records stored whole -/

theorem cachedRR_self (now : Nat) {rr : RR} (hb : rr.ttl ≤ U32_MAX) (hc : rr.rclass = 1) : cachedRR now now rr = rr := by
  have e : (now + rr.ttl * NANOS - now) / NANOS = rr.ttl := by
    rw [Nat.add_sub_cancel_left, Nat.mul_div_cancel _ (by decide)]
  simp only [cachedRR, e, Nat.min_eq_left hb]
  rw [← hc]

theorem cacheGet_stored (c : PCache) (name : Name) (rk now now' : Nat) (rrs : List RR)
    (hq : lookupNat queryTypeFromU16 rk = none)
    (hts : tuplesAt c name rk = rrs.map (storedTuple now))
    (hall : ∀ rr ∈ rrs, rr.name = name ∧ now' + NANOS ≤ now + rr.ttl * NANOS) :
    (cacheGet c name rk now').2 = rrs.map (cachedRR now now') := by
  rw [cacheGet_snd_of_live c name rk now' hq (by
    rw [hts]
    intro t ht
    obtain ⟨rr, hr, rfl⟩ := List.mem_map.mp ht
    exact (hall rr hr).2), hts, List.map_map]
  apply List.map_congr_left
  intro rr hr
  simp [mkRR, storedTuple, cachedRR, (hall rr hr).1]

/-! ## The local lookup -/

theorem uni_zoneFalls_of_miss {zs : Zones} {q : Question} (h : localMiss zs q.name q.qtype = true) :
    ZoneFalls zs q [] := by
  unfold localMiss at h
  cases hz : zs.resolve q.name q.qtype with
  | none => exact .noZone hz
  | some p =>
    obtain ⟨z, o⟩ := p
    cases o with
    | none => exact .noVerdict z hz
    | some zr =>
      rw [hz] at h
      simp only [Bool.and_eq_true] at h
      have hs := Zone.soaRR_eq_none_iff.mpr (Option.isNone_iff_eq_none.mp h.1)
      cases zr with
      | answer rrs =>
        have : rrs = [] := by simpa using h.2
        subst this
        exact .answer z [] hz hs (Or.inr rfl)
      | cname c rr => simp at h
      | delegation ns => exact .delegation z ns hz hs
      | nameError => exact .nameError z hz hs
      | panic => exact .panic z hz

theorem resolveLocal_dead_end_of_miss (n : Nat) (ctx : Ctx) (q : Question)
    (hl : ctx.stack.length ≠ RECURSION_LIMIT) (hd : q ∉ ctx.stack)
    (h : localMiss ctx.zones q.name q.qtype = true) (hq : lookupNat queryTypeFromU16 q.qtype = none)
    (h1 : tuplesAt ctx.cache q.name q.qtype = []) (h2 : tuplesAt ctx.cache q.name RT_CNAME = []) :
    (resolveLocal (n + 1) ctx q).2 = .error (.deadEnd q) :=
  resolveLocal_cache_dead_end n hl hd (uni_zoneFalls_of_miss h) (cacheGet_snd_of_nil hq h1)
    (cacheGet_snd_of_nil (by decide) h2)

/-! ## The cache invariant -/

/-- What may be stored under `(name, rk)`.  The `AAAA` arm asks nothing of the tuple: dual-stack glue is cached with
    the referral but never looked up in the v4 modes. -/
def uni2_TupleOK (V G : List UEntry) (K : List (Name × Nat)) (T : Nat) (name : Name) (rk : Nat)
    (t : CRec × Nat) : Prop :=
  (rk = RT_A ∧ ∃ E ∈ G, E.host = name ∧ t.1 = ⟨RT_A, [.a E.addr]⟩ ∧ T ≤ t.2) ∨
  (rk = RT_NS ∧ ∃ C ∈ V, C.apex = name ∧ t.1 = ⟨RT_NS, [.name C.host]⟩ ∧ T ≤ t.2) ∨
  (rk = RT_AAAA ∧ ∃ E ∈ G, E.host = name) ∨
  ((name, rk) ∈ K)

/-- `Stored (uni2_TupleOK V G K T) c`, written out; `T` is an absolute time in ns. -/
def uni2_Sound (V G : List UEntry) (K : List (Name × Nat)) (c : PCache) (T : Nat) : Prop :=
  Inv c ∧ ∀ name rk, ∀ t ∈ tuplesAt c name rk, uni2_TupleOK V G K T name rk t

def uni2_Cache (V G : List UEntry) (K : List (Name × Nat)) (c : PCache) (T : Nat) : Prop :=
  uni2_Sound V G K c T ∧ (∀ C ∈ V, tuplesAt c C.apex RT_NS ≠ []) ∧ (∀ C ∈ G, tuplesAt c C.host RT_A ≠ [])

theorem uni2_TupleOK.addr {V G : List UEntry} {K : List (Name × Nat)} {T now : Nat} {rr : RR} {E : UEntry}
    (ht : rr.rtype = RT_A) (hE : E ∈ G) (hh : E.host = rr.name) (hf : rr.fields = [.a E.addr])
    (hT : T ≤ now + rr.ttl * NANOS) : uni2_TupleOK V G K T rr.name rr.rtype (storedTuple now rr) :=
  Or.inl ⟨ht, E, hE, hh, by simp only [storedTuple, ht, hf], hT⟩

theorem uni2_TupleOK.ns {V G : List UEntry} {K : List (Name × Nat)} {T now : Nat} {rr : RR} {C : UEntry}
    (ht : rr.rtype = RT_NS) (hC : C ∈ V) (hh : C.apex = rr.name) (hf : rr.fields = [.name C.host])
    (hT : T ≤ now + rr.ttl * NANOS) : uni2_TupleOK V G K T rr.name rr.rtype (storedTuple now rr) :=
  Or.inr (Or.inl ⟨ht, C, hC, hh, by simp only [storedTuple, ht, hf], hT⟩)

theorem uni2_TupleOK.addr6 {V G : List UEntry} {K : List (Name × Nat)} {T : Nat} {name : Name} {rk : Nat}
    {t : CRec × Nat} {E : UEntry} (ht : rk = RT_AAAA) (hE : E ∈ G) (hh : E.host = name) : uni2_TupleOK V G K T name rk t :=
  Or.inr (Or.inr (Or.inl ⟨ht, E, hE, hh⟩))

theorem uni2_TupleOK.key {V G : List UEntry} {K : List (Name × Nat)} {T : Nat} {name : Name} {rk : Nat}
    {t : CRec × Nat} (h : (name, rk) ∈ K) : uni2_TupleOK V G K T name rk t :=
  Or.inr (Or.inr (Or.inr h))

theorem uni2_Cache.sound {V G : List UEntry} {K : List (Name × Nat)} {c : PCache} {T : Nat} (h : uni2_Cache V G K c T) :
    uni2_Sound V G K c T := h.1

theorem uni2_Cache.ns_ne_nil {V G : List UEntry} {K : List (Name × Nat)} {c : PCache} {T : Nat} (h : uni2_Cache V G K c T) :
    ∀ C ∈ V, tuplesAt c C.apex RT_NS ≠ [] := h.2.1

theorem uni2_Cache.addr_ne_nil {V G : List UEntry} {K : List (Name × Nat)} {c : PCache} {T : Nat}
    (h : uni2_Cache V G K c T) : ∀ C ∈ G, tuplesAt c C.host RT_A ≠ [] := h.2.2

theorem uni2_Cache.new (d T : Nat) : uni2_Cache [] [] [] (PCache.new d) T :=
  ⟨⟨Inv.new d, Stored.new _ d⟩, (fun _ hC => nomatch hC), (fun _ hC => nomatch hC)⟩

theorem uni2_Sound.touches {V G : List UEntry} {K : List (Name × Nat)} {c c' : PCache} {T : Nat}
    (h : uni2_Sound V G K c T) (ht : c.Touches c') : uni2_Sound V G K c' T :=
  ⟨ht.inv h.1, Stored.touches (P := uni2_TupleOK V G K T) h.2 ht⟩

theorem uni2_Cache.touches {V G : List UEntry} {K : List (Name × Nat)} {c c' : PCache} {T : Nat}
    (h : uni2_Cache V G K c T) (ht : c.Touches c') : uni2_Cache V G K c' T :=
  ⟨h.1.touches ht, fun C hC => by rw [ht.tuplesAt]; exact h.2.1 C hC, fun C hC => by rw [ht.tuplesAt]; exact h.2.2 C hC⟩

theorem uni2_TupleOK.mono {V V' G G' : List UEntry} {K K' : List (Name × Nat)} {T T' : Nat} {name : Name}
    {rk : Nat} {t : CRec × Nat} (hV : ∀ C ∈ V, C ∈ V') (hG : ∀ C ∈ G, C ∈ G') (hK : ∀ k ∈ K, k ∈ K') (hT : T' ≤ T)
    (h : uni2_TupleOK V G K T name rk t) : uni2_TupleOK V' G' K' T' name rk t := by
  rcases h with ⟨h1, E, hE, h2, h3, h4⟩ | ⟨h1, C, hC, h2, h3, h4⟩ | ⟨h1, E, hE, h2⟩ | h
  · exact Or.inl ⟨h1, E, hG E hE, h2, h3, Nat.le_trans hT h4⟩
  · exact Or.inr (Or.inl ⟨h1, C, hV C hC, h2, h3, Nat.le_trans hT h4⟩)
  · exact Or.inr (Or.inr (Or.inl ⟨h1, E, hG E hE, h2⟩))
  · exact Or.inr (Or.inr (Or.inr (hK _ h)))

theorem uni2_Sound.mono {V V' G G' : List UEntry} {K K' : List (Name × Nat)} {c : PCache} {T T' : Nat}
    (hV : ∀ C ∈ V, C ∈ V') (hG : ∀ C ∈ G, C ∈ G') (hK : ∀ k ∈ K, k ∈ K') (hT : T' ≤ T)
    (h : uni2_Sound V G K c T) : uni2_Sound V' G' K' c T' :=
  ⟨h.1, fun name rk t ht => uni2_TupleOK.mono hV hG hK hT (h.2 name rk t ht)⟩

theorem uni2_cache_mono {V G : List UEntry} {K K' : List (Name × Nat)} {c : PCache} {T T' : Nat}
    (hK : ∀ k ∈ K, k ∈ K') (hT : T' ≤ T) (h : uni2_Cache V G K c T) : uni2_Cache V G K' c T' :=
  ⟨uni2_Sound.mono (fun _ h => h) (fun _ h => h) hK hT h.1, h.2⟩

theorem uni2_Sound.insertAll {V G : List UEntry} {K : List (Name × Nat)} {T now : Nat} (rrs : List RR) {c : PCache}
    (h : uni2_Sound V G K c T)
    (hall : ∀ rr ∈ rrs, 0 < rr.ttl → uni2_TupleOK V G K T rr.name rr.rtype (storedTuple now rr)) :
    uni2_Sound V G K (sharedInsertAll c rrs now) T :=
  ⟨h.1.sharedInsertAll rrs now, Stored.sharedInsertAll (P := uni2_TupleOK V G K T) h.2 hall⟩

theorem uni2_Cache.insertAll {V V' G G' : List UEntry} {K K' : List (Name × Nat)} {c : PCache} {T now : Nat}
    (h : uni2_Cache V G K c T) (hV : ∀ C ∈ V, C ∈ V') (hG : ∀ C ∈ G, C ∈ G') (hK : ∀ k ∈ K, k ∈ K')
    (rrs : List RR) (hrr : ∀ rr ∈ rrs, 0 < rr.ttl → uni2_TupleOK V' G' K' T rr.name rr.rtype (storedTuple now rr))
    (hnewV : ∀ C ∈ V', C ∈ V ∨ ∃ rr ∈ rrs, rr.ttl > 0 ∧ C.apex = rr.name ∧ RT_NS = rr.rtype)
    (hnewG : ∀ C ∈ G', C ∈ G ∨ ∃ rr ∈ rrs, rr.ttl > 0 ∧ C.host = rr.name ∧ RT_A = rr.rtype) :
    uni2_Cache V' G' K' (sharedInsertAll c rrs now) T := by
  refine ⟨uni2_Sound.insertAll rrs (uni2_Sound.mono hV hG hK (Nat.le_refl _) h.1) hrr, ?_, ?_⟩
  · exact fun C hC => tuplesAt_sharedInsertAll_ne_nil rrs now _ _ ((hnewV C hC).imp_left (h.2.1 C))
  · exact fun C hC => tuplesAt_sharedInsertAll_ne_nil rrs now _ _ ((hnewG C hC).imp_left (h.2.2 C))

theorem uni2_Sound.addr_of_mem {U : Universe} {V G : List UEntry} {K : List (Name × Nat)} {c : PCache} {T : Nat}
    (h : uni2_Sound V G K c T) (hU : HostsFunctional U) (hG : ∀ E ∈ G, E ∈ U) (E : UEntry) (hE : E ∈ U)
    (hK : (E.host, RT_A) ∉ K) : ∀ t ∈ tuplesAt c E.host RT_A, t.1 = ⟨RT_A, [.a E.addr]⟩ ∧ T ≤ t.2 := by
  intro t ht
  rcases h.2 E.host RT_A t ht with ⟨_, E', hE', hh, ht1, ht2⟩ | ⟨h1, _⟩ | ⟨h1, _⟩ | h1
  · rw [hU E' (hG E' hE') E hE hh] at ht1
    exact ⟨ht1, ht2⟩
  · exact absurd h1 (by decide)
  · exact absurd h1 (by decide)
  · exact absurd h1 hK

theorem uni2_Sound.ns_of_mem {U : Universe} {V G : List UEntry} {K : List (Name × Nat)} {c : PCache} {T : Nat}
    (h : uni2_Sound V G K c T) (hV : ∀ C ∈ V, C ∈ U)
    (ha : ∀ E ∈ U, ∀ E' ∈ U, E.apex = E'.apex → E.host = E'.host) (C : UEntry) (hC : C ∈ U)
    (hK : (C.apex, RT_NS) ∉ K) : ∀ t ∈ tuplesAt c C.apex RT_NS, t.1 = ⟨RT_NS, [.name C.host]⟩ ∧ T ≤ t.2 := by
  intro t ht
  rcases h.2 C.apex RT_NS t ht with ⟨h1, _⟩ | ⟨_, C', hC', hh, ht1, ht2⟩ | ⟨h1, _⟩ | h1
  · exact absurd h1 (by decide)
  · rw [ha C' (hV C' hC') C hC hh] at ht1
    exact ⟨ht1, ht2⟩
  · exact absurd h1 (by decide)
  · exact absurd h1 hK

theorem uni2_Sound.lookup_addr {U : Universe} {V G : List UEntry} {K : List (Name × Nat)} {c : PCache} {T now : Nat}
    (h : uni2_Sound V G K c T) (hT : now + NANOS ≤ T) (hU : HostsFunctional U) (hG : ∀ E ∈ G, E ∈ U)
    (E : UEntry) (hE : E ∈ U) (hK : (E.host, RT_A) ∉ K) (hne : tuplesAt c E.host RT_A ≠ []) :
    (cacheGet c E.host RT_A now).2 ≠ [] ∧
    ∀ rr ∈ (cacheGet c E.host RT_A now).2, rr.name = E.host ∧ rr.rtype = RT_A ∧ rr.fields = [.a E.addr] := by
  have hall := uni2_Sound.addr_of_mem h hU hG E hE hK
  rw [cacheGet_snd_of_live c E.host RT_A now lookupNat_qt_RT_A (fun t ht => Nat.le_trans hT (hall t ht).2)]
  constructor
  · intro hh
    exact hne (List.map_eq_nil_iff.mp hh)
  · intro rr hrr
    obtain ⟨t, ht, rfl⟩ := List.mem_map.mp hrr
    have := (hall t ht).1
    simp [mkRR, this]

theorem uni2_Sound.lookup_ns {U : Universe} {V G : List UEntry} {K : List (Name × Nat)} {c : PCache} {T now : Nat}
    (h : uni2_Sound V G K c T) (hT : now + NANOS ≤ T) (hV : ∀ C ∈ V, C ∈ U)
    (ha : ∀ E ∈ U, ∀ E' ∈ U, E.apex = E'.apex → E.host = E'.host)
    (C : UEntry) (hC : C ∈ V) (hK : (C.apex, RT_NS) ∉ K) (hne : tuplesAt c C.apex RT_NS ≠ []) :
    (cacheGet c C.apex RT_NS now).2 ≠ [] ∧ (cacheGet c C.apex RT_NS now).2.filterMap nsTarget = [C.host] := by
  have hall := uni2_Sound.ns_of_mem h hV ha C (hV C hC) hK
  rw [cacheGet_snd_of_live c C.apex RT_NS now lookupNat_qt_RT_NS (fun t ht => Nat.le_trans hT (hall t ht).2)]
  have hlen : (tuplesAt c C.apex RT_NS).length ≤ 1 :=
    h.1.tuplesAt_length_le (U := [⟨RT_NS, [.name C.host]⟩]) fun t ht => List.mem_singleton.mpr (hall t ht).1
  cases hts : tuplesAt c C.apex RT_NS with
  | nil => exact absurd hts hne
  | cons t rest =>
    rw [hts] at hlen hall
    have hrest : rest = [] := by
      cases rest with
      | nil => rfl
      | cons _ _ => simp at hlen
    subst hrest
    have ht := (hall t List.mem_cons_self).1
    refine ⟨by simp, ?_⟩
    simp [mkRR, nsTarget, ht]

theorem uni2_Sound.nil_of_fresh {V G : List UEntry} {K : List (Name × Nat)} {c : PCache} {T : Nat}
    (h : uni2_Sound V G K c T) (name : Name) (rk : Nat)
    (hA : rk = RT_A ∨ rk = RT_AAAA → ∀ E ∈ G, E.host ≠ name) (hN : rk = RT_NS → ∀ C ∈ V, C.apex ≠ name)
    (hK : (name, rk) ∉ K) : tuplesAt c name rk = [] := by
  apply List.eq_nil_iff_forall_not_mem.mpr
  intro t ht
  rcases h.2 name rk t ht with ⟨h1, E, hE, hh, _⟩ | ⟨h1, C, hC', hh, _⟩ | ⟨h1, E, hE, hh⟩ | h2
  · exact hA (Or.inl h1) E hE hh
  · exact hN h1 C hC' hh
  · exact hA (Or.inr h1) E hE hh
  · exact hK h2

def uniAliasKeys (cn : List Name) : List (Name × Nat) := cn.map (·, RT_CNAME)

theorem uni_mem_aliasKeys {cn : List Name} {name : Name} {rk : Nat} :
    (name, rk) ∈ uniAliasKeys cn ↔ rk = RT_CNAME ∧ name ∈ cn := by
  unfold uniAliasKeys
  rw [List.mem_map]
  constructor
  · rintro ⟨n, hn, he⟩
    cases he
    exact ⟨rfl, hn⟩
  · rintro ⟨rfl, hn⟩
    exact ⟨name, hn, rfl⟩

theorem uni_not_aliasKey {cn : List Name} {name : Name} {rk : Nat} (h : rk ≠ RT_CNAME) :
    (name, rk) ∉ uniAliasKeys cn := fun hk => h (uni_mem_aliasKeys.mp hk).1

end Resolved
