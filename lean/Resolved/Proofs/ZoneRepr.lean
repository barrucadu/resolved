/-
  C02 refinement: the representation relation between the record maps of the tree and the flat entry
  list, preserved by insertion; `zone_result_helper` on a record map against `classify` on the list it
  represents; hence `ZNode.resolve` on a tree representing `es` agrees with `ZSpec.lookup es` under D1
  (`TreeRepr.resolve_refines`) and does not panic when every CNAME entry carries one name
  (`TreeRepr.resolve_ne_panic`).
-/
import Resolved.Proofs.ZoneSpecLemmas
import Resolved.Proofs.ZoneTree

namespace Resolved

open Gen ZSpec

/-- the name is one `from_labels` accepts (all names the Rust code constructs are). -/
def NameOK (n : Name) : Prop := Name.fromLabels n.labels = some n

instance (n : Name) : Decidable (NameOK n) := by unfold NameOK; infer_instance

theorem NameOK.fromLabels_iff {m n : Name} (hm : NameOK m) : Name.fromLabels m.labels = some n ↔ m = n := by
  rw [show Name.fromLabels m.labels = some m from hm]
  exact Option.some.injEq m n ▸ Iff.rfl

/-- `m` stores exactly the records `zrs` (a duplicate-free list in configuration order), grouped by
    type with the per-type order preserved.  A type without records has no key (`none`, not
    `some []`): `ZoneRecords::insert` never stores an empty vector. -/
def RecRepr (m : RecMap) (zrs : List ZoneRecord) : Prop :=
  m.keys.Nodup ∧ ∀ k, m.get k = if ofType zrs k = [] then none else some (ofType zrs k)

theorem recRepr_nil : RecRepr [] [] := by
  refine ⟨by simp [RecMap.keys], ?_⟩
  intro k; simp [ofType]

theorem ofType_mergeEntries (z1 z2 : List ZoneRecord) (k : Nat) :
    ofType (mergeEntries z1 z2) k = mergeEntries (ofType z1 k) (ofType z2 k) := by
  unfold ofType
  rw [mergeEntries_eq, mergeEntries_eq, List.filter_append]
  congr 1
  rw [← eraseDups_filter]
  congr 1
  unfold List.removeAll
  rw [List.filter_filter, List.filter_filter]
  apply List.filter_congr
  intro x _
  by_cases hx : x.rtype = k
  · simp [hx, List.mem_filter]
  · simp [hx]

theorem ofType_nodup (zrs : List ZoneRecord) (k : Nat) (h : zrs.Nodup) : (ofType zrs k).Nodup :=
  h.sublist List.filter_sublist

theorem ofType_pushNew (zrs : List ZoneRecord) (zr : ZoneRecord) (k : Nat) :
    ofType (pushNew zrs zr) k = if zr.rtype = k then pushNew (ofType zrs k) zr else ofType zrs k := by
  have h1 : ofType [zr] k = if zr.rtype = k then [zr] else [] := by
    rw [ofType, List.filter_cons, List.filter_nil]
    exact ite_congr (propext beq_iff_eq) (fun _ => rfl) (fun _ => rfl)
  rw [← mergeEntries_singleton, ofType_mergeEntries, h1]
  by_cases hk : zr.rtype = k
  · rw [if_pos hk, if_pos hk]; rfl
  · rw [if_neg hk, if_neg hk]; rfl

theorem recRepr_insertRecord (m : RecMap) (zrs : List ZoneRecord) (zr : ZoneRecord)
    (h : RecRepr m zrs) : RecRepr (m.insertRecord zr) (pushNew zrs zr) := by
  refine ⟨RecMap.keys_nodup_insertRecord m zr h.1, ?_⟩
  intro k
  rw [RecMap.get_insertRecord, ofType_pushNew]
  by_cases hk : zr.rtype = k
  · simp only [hk, if_true]
    rw [if_neg (pushNew_ne_nil _ _)]
    rw [h.2 k]
    split <;> rename_i h0 <;> simp [h0]
  · simp only [hk, if_false]
    exact h.2 k

/-- the wildcard map of a node stores the wildcard records `zrs` owned there.  `some ws` demands
    `zrs ≠ []`: `wildcards` becomes `Some` only in `insert_wildcard`, which stores a record at once;
    so a node has a wildcard map exactly when it owns a wildcard record (`WildRepr.eq_none_iff`). -/
def WildRepr (w : Option RecMap) (zrs : List ZoneRecord) : Prop :=
  match w with
  | none => zrs = []
  | some ws => zrs ≠ [] ∧ RecRepr ws zrs

theorem WildRepr.none_iff {zrs : List ZoneRecord} : WildRepr none zrs ↔ zrs = [] := Iff.rfl

theorem WildRepr.some_iff {ws : RecMap} {zrs : List ZoneRecord} :
    WildRepr (some ws) zrs ↔ zrs ≠ [] ∧ RecRepr ws zrs := Iff.rfl

theorem WildRepr.eq_none_iff {w : Option RecMap} {zrs : List ZoneRecord} (h : WildRepr w zrs) :
    w = none ↔ zrs = [] := by
  cases w with
  | none => exact ⟨fun _ => h, fun _ => rfl⟩
  | some ws => exact ⟨nofun, fun e => absurd e h.1⟩

theorem wildRepr_insert (w : Option RecMap) (zrs : List ZoneRecord) (zr : ZoneRecord)
    (h : WildRepr w zrs) : WildRepr (some ((w.getD []).insertRecord zr)) (pushNew zrs zr) := by
  refine ⟨pushNew_ne_nil _ _, ?_⟩
  cases w with
  | none =>
    rw [WildRepr.none_iff.mp h]
    exact recRepr_insertRecord [] [] zr recRepr_nil
  | some ws => exact recRepr_insertRecord ws zrs zr h.2

theorem RecRepr.get_eq {m : RecMap} {zrs : List ZoneRecord} (h : RecRepr m zrs) (k : Nat) :
    (m.get k).getD [] = ofType zrs k := by
  rw [h.2 k]; split <;> rename_i h0 <;> simp [h0]

theorem WildRepr.get_eq {w : Option RecMap} {zrs : List ZoneRecord} (h : WildRepr w zrs) (k : Nat) :
    ((w.getD []).get k).getD [] = ofType zrs k := by
  cases w with
  | none => rw [WildRepr.none_iff.mp h]; rfl
  | some ws => exact h.2.get_eq k

theorem RecRepr.nsOf_eq {m : RecMap} {zrs : List ZoneRecord} (h : RecRepr m zrs) :
    nsOf m = ofType zrs RT_NS := h.get_eq RT_NS

theorem RecRepr.nil_right {zrs : List ZoneRecord} (h : RecRepr [] zrs) : zrs = [] := by
  cases zrs with
  | nil => rfl
  | cons z zs =>
    have := h.2 z.rtype
    simp [ofType] at this

theorem RecRepr.cons_inv {k : Nat} {v : List ZoneRecord} {rest : RecMap} {zrs : List ZoneRecord}
    (h : RecRepr ((k, v) :: rest) zrs) :
    v = ofType zrs k ∧ RecRepr rest (zrs.filter (fun z => z.rtype != k)) := by
  obtain ⟨hn, hg⟩ := h
  simp only [RecMap.keys, List.map_cons, List.nodup_cons] at hn
  have hk := hg k
  simp only [RecMap.get_cons, if_true] at hk
  have hv : v = ofType zrs k := by
    split at hk
    · cases hk
    · exact Option.some.inj hk
  refine ⟨hv, hn.2, ?_⟩
  intro k'
  rw [ofType_filter_ne]
  by_cases hkk : k' = k
  · subst hkk
    simp only [if_true]
    exact (RecMap.get_eq_none_iff rest k').mpr hn.1
  · have := hg k'
    have hne : ¬ k = k' := fun e => hkk e.symm
    simp only [RecMap.get_cons, hne, if_false] at this
    simp only [hkk, if_false]
    exact this

theorem RecRepr.flatMap_perm (m : RecMap) : ∀ (zrs : List ZoneRecord), RecRepr m zrs →
    (m.flatMap (·.2)).Perm zrs := by
  induction m with
  | nil => intro zrs h; rw [h.nil_right]; exact List.Perm.refl _
  | cons kv rest ih =>
    intro zrs h
    obtain ⟨k, v⟩ := kv
    obtain ⟨hv, hrest⟩ := h.cons_inv
    simp only [List.flatMap_cons]
    have h1 := ih _ hrest
    have h2 : (ofType zrs k ++ zrs.filter (fun z => z.rtype != k)).Perm zrs := by
      have := List.filter_append_perm (fun z : ZoneRecord => z.rtype == k) zrs
      unfold ofType
      have he : (fun z : ZoneRecord => z.rtype != k) = (fun z => !(z.rtype == k)) := by
        funext z; rfl
      rw [he]; exact this
    rw [hv]
    exact (List.Perm.append_left _ h1).trans h2

theorem RecRepr.mem_flatMap {m : RecMap} {zrs : List ZoneRecord} (h : RecRepr m zrs) (zr : ZoneRecord) :
    zr ∈ m.flatMap (·.2) ↔ zr ∈ zrs :=
  (RecRepr.flatMap_perm m zrs h).mem_iff

theorem recordsAt_append (es1 es2 : List Entry) (rel : List Label) (wild : Bool) :
    recordsAt (es1 ++ es2) rel wild = mergeEntries (recordsAt es1 rel wild) (recordsAt es2 rel wild) := by
  unfold recordsAt
  rw [List.filter_append, List.map_append, mergeEntries_eraseDups_right, mergeEntries_eraseDups]

theorem recordsAt_nodup (es : List Entry) (rel : List Label) (wild : Bool) :
    (recordsAt es rel wild).Nodup := nodup_eraseDups _

theorem recordsAt_snoc (es : List Entry) (e : Entry) (rel : List Label) (wild : Bool) :
    recordsAt (es ++ [e]) rel wild =
      if e.rel = rel ∧ e.wild = wild then pushNew (recordsAt es rel wild) e.zr
      else recordsAt es rel wild := by
  rw [recordsAt_append]
  by_cases h : e.rel = rel ∧ e.wild = wild
  · rw [if_pos h, ← mergeEntries_singleton]
    simp only [recordsAt, List.filter, h.1, h.2, beq_self_eq_true, Bool.and_self, List.map, List.eraseDups_cons,
      List.eraseDups_nil]
  · have : (e.rel == rel && e.wild == wild) = false := by
      rw [Bool.and_eq_false_iff, beq_eq_false_iff_ne, beq_eq_false_iff_ne]
      exact Classical.not_and_iff_not_or_not.mp h
    rw [if_neg h]
    simp only [recordsAt, List.filter, this, List.map, List.eraseDups_nil, mergeEntries_nil_right]

/-- `v`: the two record maps of a node (`ZNode.view`). -/
def ViewRepr (v : RecMap × Option RecMap) (es : List Entry) (rel : List Label) : Prop :=
  RecRepr v.1 (recordsAt es rel false) ∧ WildRepr v.2 (recordsAt es rel true)

/-- `root` is the tree of the entry list `es`.  `exist`: there is a node at reversed path `p` exactly
    when some entry's owner ends in `p.reverse` (so the nodes between the apex and an owner exist).
    `recs` is stated over `baseView`, not `descend`, so that one clause covers the paths without a
    node: they represent no entry.  `names` is what makes `insert` total on the tree. -/
structure TreeRepr (root : ZNode) (es : List Entry) : Prop where
  names : ZNode.NamesOK root
  exist : ∀ p, (root.descend p).isSome = existsNode es p.reverse
  recs : ∀ p, ViewRepr (ZNode.baseView root p) es p.reverse

theorem treeRepr_new (apex : Name) (h : NameOK apex) :
    TreeRepr (ZNode.new apex) [] := by
  refine ⟨ZNode.namesOK_new apex h, ?_, ?_⟩
  · intro p
    rw [ZNode.descend_new]
    cases p <;> simp [existsNode]
  · intro p
    rw [ZNode.baseView_new]
    exact ⟨by rw [recordsAt_nil]; exact recRepr_nil, by rw [recordsAt_nil]; rfl⟩

theorem treeRepr_insertRev (root root' : ZNode) (es : List Entry) (r : List Label) (zr : ZoneRecord)
    (wild : Bool) (h : TreeRepr root es) (hi : root.insertRev r zr wild = some root') :
    TreeRepr root' (es ++ [⟨r.reverse, wild, zr⟩]) := by
  refine ⟨(ZNode.namesOK_insertRev zr wild r root root' h.names hi).1, ?_, ?_⟩
  · intro p
    rw [ZNode.insertRev_descend_isSome zr wild r root root' p hi, existsNode_snoc, h.exist p]
    congr 1
    simp only [isSuffix]
    rw [Bool.eq_iff_iff]
    simp [List.reverse_suffix]
  · intro p
    have hbase := h.recs p
    rw [ZNode.insertRev_baseView hi p]
    unfold ViewRepr
    rw [recordsAt_snoc, recordsAt_snoc]
    by_cases hpr : p = r
    · subst hpr
      rw [if_pos rfl]
      cases wild with
      | true =>
        rw [ZNode.updView_true]
        simp only [Bool.true_eq_false, and_false, and_true, if_false, if_true]
        exact ⟨hbase.1, wildRepr_insert _ _ zr hbase.2⟩
      | false =>
        rw [ZNode.updView_false]
        simp only [Bool.false_eq_true, and_true, if_true, and_false, if_false]
        exact ⟨recRepr_insertRecord _ _ zr hbase.1, hbase.2⟩
    · have hne : ¬ r.reverse = p.reverse := fun hh => hpr (List.reverse_inj.mp hh).symm
      rw [if_neg hpr, if_neg (fun c => hne c.1), if_neg (fun c => hne c.1)]
      exact hbase

/-- the data step of `classify`. -/
def classifyAnswer (zrs : List ZoneRecord) (qname : Name) (qtype : Nat) : ZoneResult :=
  match lookupNat queryTypeFromU16 qtype with
  | some "Wildcard" => .answer (zrs.map (·.toRR qname))
  | some _ => .answer []
  | none => .answer ((ofType zrs qtype).map (·.toRR qname))

/-- `classify` after the delegation test. -/
def classifyData (zrs : List ZoneRecord) (qname : Name) (qtype : Nat) : ZoneResult :=
  match (if rtypeMatches RT_CNAME qtype then none else (ofType zrs RT_CNAME).head?) with
  | some z =>
    match z.fields with
    | [.name target] => .cname target (z.toRR qname)
    | _ => .panic
  | none => classifyAnswer zrs qname qtype

theorem classify_eq (zrs : List ZoneRecord) (qname : Name) (qtype : Nat) (o : Option Name) (cd : Bool) :
    classify zrs qname qtype o cd =
      if cd && qtype != RT_NS && !(ofType zrs RT_NS).isEmpty then
        match o with
        | some o => .delegation ((ofType zrs RT_NS).map (·.toRR o))
        | none => .panic
      else classifyData zrs qname qtype := rfl

theorem answerOf_classifyAnswer (m : RecMap) (zrs : List ZoneRecord) (name : Name) (qtype : Nat)
    (h : RecRepr m zrs) :
    sameResult (answerOf name qtype m) (classifyAnswer zrs name qtype) = true := by
  unfold answerOf classifyAnswer
  generalize lookupNat queryTypeFromU16 qtype = o
  rcases o with _ | s
  · simp only [← h.get_eq qtype]
    cases m.get qtype <;> exact sameResult_refl _
  · by_cases hs : s = "Wildcard"
    · -- ANY: the map lists the records grouped by type, the specification in configuration order
      subst hs
      simp only [← List.map_flatMap]
      exact sameResult_answer_of_perm ((h.flatMap_perm m zrs).map _)
    · split
      · rename_i heq; exact absurd (Option.some.inj heq) hs
      · split
        · rename_i heq; exact absurd (Option.some.inj heq) hs
        · exact sameResult_refl _
        · rename_i heq; cases heq
      · rename_i heq; cases heq

theorem helperData_classifyData (m : RecMap) (zrs : List ZoneRecord) (name : Name) (qtype : Nat)
    (h : RecRepr m zrs) :
    sameResult (helperData name qtype m) (classifyData zrs name qtype) = true := by
  unfold helperData classifyData cnameOf
  have hcn := h.2 RT_CNAME
  cases hm : rtypeMatches RT_CNAME qtype with
  | false =>
    simp only [Bool.not_false, if_true, Bool.false_eq_true, if_false]
    cases hc : ofType zrs RT_CNAME with
    | nil =>
      simp only [hc, if_true] at hcn
      simp only [hcn, List.head?_nil]
      exact answerOf_classifyAnswer m zrs name qtype h
    | cons z zs =>
      simp only [hc, reduceCtorEq, if_false] at hcn
      simp only [hcn, List.head?_cons]
      generalize z.fields = fs
      rcases fs with _ | ⟨f, _ | ⟨g, t⟩⟩
      · exact sameResult_refl _
      · cases f <;> exact sameResult_refl _
      · cases f <;> exact sameResult_refl _
  | true =>
    simp only [Bool.not_true, Bool.false_eq_true, if_false, if_true]
    exact answerOf_classifyAnswer m zrs name qtype h

theorem helper_classify (m : RecMap) (zrs : List ZoneRecord) (name : Name) (qtype : Nat) (nsd : Name)
    (cd : Bool) (h : RecRepr m zrs) :
    sameResult (zoneResultHelper name qtype m nsd cd) (classify zrs name qtype (some nsd) cd) = true := by
  rw [zoneResultHelper_eq, classify_eq, h.nsOf_eq]
  split
  · exact sameResult_refl _
  · exact helperData_classifyData m zrs name qtype h

theorem TreeRepr.node {root : ZNode} {es : List Entry} (h : TreeRepr root es) {p : List Label} {n : ZNode}
    (hn : root.descend p = some n) :
    RecRepr n.this (recordsAt es p.reverse false) ∧ WildRepr n.wildcards (recordsAt es p.reverse true) ∧
      Name.fromLabels (p.reverse ++ root.nsdname.labels) = some n.nsdname := by
  have hv := h.recs p
  rw [ZNode.baseView_of_descend hn] at hv
  exact ⟨hv.1, hv.2, h.names p n hn⟩

theorem TreeRepr.nodeAt_isSome {root : ZNode} {es : List Entry} (h : TreeRepr root es) (rel : List Label) :
    (root.nodeAt rel).isSome = existsNode es rel := by
  rw [ZNode.nodeAt, h.exist, List.reverse_reverse]

theorem TreeRepr.nodeAt {root : ZNode} {es : List Entry} (h : TreeRepr root es) {rel : List Label}
    {n : ZNode} (hn : root.nodeAt rel = some n) :
    RecRepr n.this (recordsAt es rel false) ∧ WildRepr n.wildcards (recordsAt es rel true) ∧
      absName rel root.nsdname = some n.nsdname := by
  have := h.node hn
  rwa [List.reverse_reverse] at this

theorem TreeRepr.node_of_exists {root : ZNode} {es : List Entry} (h : TreeRepr root es)
    (rel : List Label) (hex : existsNode es rel = true) :
    ∃ n, root.descend rel.reverse = some n ∧
      RecRepr n.this (recordsAt es rel false) ∧ WildRepr n.wildcards (recordsAt es rel true) ∧
      absName rel root.nsdname = some n.nsdname := by
  obtain ⟨n, hn⟩ := Option.isSome_iff_exists.mp ((h.nodeAt_isSome rel).trans hex)
  exact ⟨n, hn, h.nodeAt hn⟩

section Refine

variable {root : ZNode} {es : List Entry} {apex qname : Name} {qtype : Nat}

theorem TreeRepr.refines_of_exists (h : TreeRepr root es) (rel : List Label)
    (hex : existsNode es rel = true)
    (hnd : rel = [] ∨ qtype = RT_NS ∨ ofType (recordsAt es rel false) RT_NS = []) :
    sameResult (root.resolve qname qtype rel true) (specExact es apex qname rel qtype) = true := by
  obtain ⟨n, hn, hr, _, _⟩ := h.node_of_exists rel hex
  rw [specExact, if_pos hex, ZNode.resolve_of_nodeAt root n qname qtype rel true hn, classify_eq]
  simp only [Bool.false_and, Bool.false_eq_true, if_false]
  rw [zoneResultHelper_no_deleg_eq]
  · exact helperData_classifyData _ _ _ _ hr
  · rcases hnd with h1 | h1 | h1
    · left; simp [h1]
    · right; left; exact h1
    · right; right; rw [hr.nsOf_eq]; exact h1

/-- no node at `rel`: the descent stops at the closest encloser `c` for lack of a child `l`. -/
theorem TreeRepr.absent (qtype) (h : TreeRepr root es) (hap : root.nsdname = apex)
    (hq : NameOK qname) (rel : List Label)
    (hrel : rel ++ apex.labels = qname.labels) (hex : existsNode es rel = false) :
    ∃ pre l c n nsd, rel = pre ++ l :: c ∧ closestEncloser es rel = (c, some l) ∧
      root.descend c.reverse = some n ∧ RecRepr n.this (recordsAt es c false) ∧ WildRepr n.wildcards (recordsAt es c true) ∧
      root.resolve qname qtype rel true = ZNode.stopResult n qname qtype l c.isEmpty ∧
      Name.fromLabels (l :: n.nsdname.labels) = some nsd ∧ absName (l :: c) apex = some nsd := by
  have hnone : root.nodeAt rel = none := by
    rw [← Option.not_isSome_iff_eq_none, h.nodeAt_isSome, hex]
    exact Bool.false_ne_true
  rcases root.resolve_cases qname qtype rel true with ⟨n, hn, _⟩ | ⟨_, pre, l, c, n, hr, hn, hc, hres⟩
  · rw [hnone] at hn; cases hn
  have hn' : root.descend c.reverse = some n := hn
  have hcex : existsNode es c = true := by
    rw [← h.nodeAt_isSome, hn]; rfl
  have hlex : existsNode es (l :: c) = false := by
    have := h.exist (c.reverse ++ [l])
    rwa [ZNode.descend_append, hn', Option.bind_some, ZNode.descend_cons, hc, List.reverse_append,
      List.reverse_reverse, eq_comm] at this
  have hv := h.nodeAt hn
  rw [hap] at hv
  have hlab : n.nsdname.labels = c ++ apex.labels := Name.fromLabels_labels hv.2.2
  have hsome : (Name.fromLabels (l :: n.nsdname.labels)).isSome := by
    apply Name.fromLabels_suffix_isSome pre (l :: n.nsdname.labels) (List.cons_ne_nil _ _)
    rw [hlab, ← List.cons_append, ← List.append_assoc, ← hr, hrel, hq]; rfl
  obtain ⟨nsd, hnsd⟩ := Option.isSome_iff_exists.mp hsome
  refine ⟨pre, l, c, n, nsd, hr, hr ▸ closestEncloser_eq es pre l c hcex hlex, hn', hv.1, hv.2.1, ?_, hnsd,
    ?_⟩
  · rw [hres, Bool.true_and]
  · rw [← hnsd, hlab]; rfl

theorem TreeRepr.refines_of_absent (h : TreeRepr root es) (hap : root.nsdname = apex)
    (hq : NameOK qname) (rel : List Label)
    (hrel : rel ++ apex.labels = qname.labels)
    (hex : existsNode es rel = false)
    (hnons : ∀ d, d ≠ [] → d <:+ rel → ofType (recordsAt es d false) RT_NS = []) :
    sameResult (root.resolve qname qtype rel true) (specExact es apex qname rel qtype) = true := by
  obtain ⟨pre, l, c, n, nsd, hr, hce, _, hrn, hwn, hres, hnsd, habs⟩ :=
    h.absent qtype hap hq rel hrel hex
  unfold specExact
  simp only [hex, Bool.false_eq_true, if_false, hce]
  rw [hres]
  cases hw : n.wildcards with
  | none =>
    rw [hw] at hwn
    have hcond : c.isEmpty = true ∨ nsOf n.this = [] := by
      cases c with
      | nil => exact Or.inl rfl
      | cons x xs =>
        exact Or.inr (hrn.nsOf_eq.trans
          (hnons _ (List.cons_ne_nil _ _) (hr ▸ ⟨pre ++ [l], by rw [List.append_assoc]; rfl⟩)))
    rw [ZNode.stopResult_noWild hw, if_pos hcond]
    simp only [WildRepr.none_iff.mp hwn, List.isEmpty_nil, if_true]
    rfl
  | some wsm =>
    rw [hw] at hwn
    have : (recordsAt es c true).isEmpty = false := by
      cases hh : recordsAt es c true with
      | nil => exact absurd hh hwn.1
      | cons _ _ => rfl
    rw [ZNode.stopResult_wild hw]
    simp only [this, Bool.false_eq_true, if_false, habs, hnsd]
    exact helper_classify wsm _ qname qtype nsd true hwn.2

/-- The proof splits on the specification's delegation point.  With none: the name exists
    (`refines_of_exists`) or it does not (`refines_of_absent`).  With one, `d`: an NS query at `d`
    itself is answered there; otherwise the tree must refer at `d` too, which it does when the
    descent ends at `d` or stops at `d` — and it stops there because D1 leaves neither a node nor a
    wildcard beneath a delegation point. -/
theorem TreeRepr.resolve_refines (h : TreeRepr root es) (hap : root.nsdname = apex)
    (hq : NameOK qname) (rel : List Label)
    (hrel : rel ++ apex.labels = qname.labels) (hd1 : d1 es = true) :
    sameResult (root.resolve qname qtype rel true) (lookup es apex qname rel qtype) = true := by
  rw [lookup_eq]
  cases hdp : delegationPoint es rel with
  | none =>
    have hnons := delegationPoint_none hdp
    cases hex : existsNode es rel with
    | true =>
      refine h.refines_of_exists rel hex ?_
      by_cases hr : rel = []
      · exact Or.inl hr
      · exact Or.inr (Or.inr (hnons rel hr (List.suffix_refl _)))
    | false => exact h.refines_of_absent hap hq rel hrel hex hnons
  | some d =>
    simp only
    obtain ⟨hdne, hdsuf, hdns⟩ := delegationPoint_some hdp
    have hdex := existsNode_of_ofType_ne_nil hdns
    obtain ⟨n, hn, hrn, hwn, hname⟩ := h.node_of_exists d hdex
    rw [hap] at hname
    have hde : d.isEmpty = false := by
      cases d with
      | nil => exact absurd rfl hdne
      | cons _ _ => rfl
    by_cases hcond : (d == rel && qtype == RT_NS) = true
    · rw [if_pos hcond]
      rw [Bool.and_eq_true, beq_iff_eq, beq_iff_eq] at hcond
      obtain ⟨rfl, hqt⟩ := hcond
      exact h.refines_of_exists d hdex (Or.inr (Or.inl hqt))
    · simp only [hcond, Bool.false_eq_true, if_false, hname]
      apply sameResult_of_eq
      by_cases hdr : d = rel
      · subst hdr
        have hqt : (qtype != RT_NS) = true := by
          rw [bne_iff_ne]; intro hh; apply hcond; rw [hh]; simp
        rw [ZNode.resolve_of_nodeAt root n qname qtype d true hn, zoneResultHelper_eq, hrn.nsOf_eq, if_pos]
        rw [hde, hqt, List.isEmpty_eq_false_iff.mpr hdns]; rfl
      · -- strictly beneath the delegation point nothing exists (D1): the descent stops at it
        obtain ⟨pre, hpre⟩ := hdsuf
        have hprene : pre ≠ [] := by
          intro hh; apply hdr; rw [← hpre, hh]; rfl
        obtain ⟨pre', l, hpl⟩ : ∃ pre' l, pre = pre' ++ [l] :=
          ⟨pre.dropLast, pre.getLast hprene, (List.dropLast_concat_getLast hprene).symm⟩
        have hsplit : pre' ++ l :: d = rel := by rw [← hpre, hpl, List.append_assoc]; rfl
        have hlex := d1_no_child hd1 d hdne hdns l
        have hex : existsNode es rel = false := by
          rw [Bool.eq_false_iff, ← hsplit]
          intro hh
          rw [existsNode_suffix _ _ hh] at hlex; cases hlex
        obtain ⟨_, _, _, n', _, _, hce, hn', _, hwn', hres, _, _⟩ :=
          h.absent qtype hap hq rel hrel hex
        rw [← hsplit, closestEncloser_eq es pre' l d hdex hlex] at hce
        cases hce
        rw [hn] at hn'; cases hn'
        rw [d1_no_wild hd1 d hdne hdns] at hwn'
        have hwild : n.wildcards = none := hwn'.eq_none_iff.mpr rfl
        have hcond : ¬(d.isEmpty = true ∨ nsOf n.this = []) := by
          rw [hde, hrn.nsOf_eq]
          exact fun hc => hc.elim Bool.false_ne_true hdns
        rw [hres, ZNode.stopResult_noWild hwild, if_neg hcond, hrn.nsOf_eq]

end Refine

/-- every configured CNAME record carries a single domain name (what the zone-file parser builds). -/
def CnameFieldsOK (es : List Entry) : Prop :=
  ∀ e ∈ es, e.zr.rtype = RT_CNAME → ∃ c, e.zr.fields = [.name c]

theorem RecRepr.cname_ok {m : RecMap} {es : List Entry} {rel : List Label} {wild : Bool}
    (h : RecRepr m (recordsAt es rel wild)) (hok : CnameFieldsOK es) :
    ∀ z zs, m.get RT_CNAME = some (z :: zs) → ∃ c, z.fields = [.name c] := by
  intro z zs hg
  have h2 := h.2 RT_CNAME
  rw [hg] at h2
  split at h2
  · cases h2
  · have hz : z ∈ ofType (recordsAt es rel wild) RT_CNAME := by
      rw [← Option.some.inj h2]; exact List.mem_cons_self
    obtain ⟨hz1, hz2⟩ := mem_ofType.mp hz
    obtain ⟨e, he, _, _, hzr⟩ := mem_recordsAt.mp hz1
    subst hzr
    exact hok e he hz2

theorem TreeRepr.resolve_ne_panic {root : ZNode} {es : List Entry} {apex qname : Name} (qtype : Nat)
    (h : TreeRepr root es) (hap : root.nsdname = apex)
    (hq : NameOK qname) (rel : List Label)
    (hrel : rel ++ apex.labels = qname.labels) (hok : CnameFieldsOK es) :
    root.resolve qname qtype rel true ≠ .panic := by
  cases hex : existsNode es rel with
  | true =>
    obtain ⟨n, hn, hrn, _, _⟩ := h.node_of_exists rel hex
    rw [ZNode.resolve_of_nodeAt root n qname qtype rel true hn]
    exact zoneResultHelper_ne_panic _ _ _ _ _ (hrn.cname_ok hok)
  | false =>
    obtain ⟨pre, l, c, n, nsd, _, _, _, _, hwn, hres, hnsd, _⟩ :=
      h.absent qtype hap hq rel hrel hex
    rw [hres]
    cases hw : n.wildcards with
    | none =>
      rw [ZNode.stopResult_noWild hw]
      split <;> exact ZoneResult.noConfusion
    | some ws =>
      rw [hw] at hwn
      rw [ZNode.stopResult_wild hw, hnsd]
      exact zoneResultHelper_ne_panic _ _ _ _ _ (hwn.2.cname_ok hok)

end Resolved
