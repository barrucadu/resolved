/-
  The zone tree (C02 / C12): `RecMap` and children lists bridged to `AL`; record sets (`mergeEntries`,
  `insertRecord`, `mergeZrs`); `zoneResultHelper` decomposed; `ZNode.resolve` / `ZNode.insert` on the
  reversed path (`descend`, `descend_closed`, `ZNode.resolve_cases`); where a verdict's records come
  from: one record map the tree stores (`VerdictFrom`, `ZNode.Stores`, `ZNode.resolve_from`, the
  checker `fb_nodeAll`); then `Zone::resolve` and, last, `Zones` (bridged to `AL`; `get`, `resolve`).
-/
import Resolved.Model.Zone
import Resolved.Proofs.Assoc
import Resolved.Proofs.QueryType

namespace Resolved

open Gen

theorem lookupNat_qt_RT_A : lookupNat queryTypeFromU16 RT_A = none := by decide

theorem lookupNat_qt_RT_NS : lookupNat queryTypeFromU16 RT_NS = none := by decide

/-! ## RecMap

`RecMap.get/set` and `ZNode.childGet/childSet` (below) are `AL.get/set` at two key/value types
(`Zones.lookup/setZone`, in the last section, at a third);
`merge_zrs_helper` and the children loop of `ZoneRecords::merge` are the one loop `AL.mergeWith`. -/

theorem RecMap.get_eq_al (m : RecMap) (k : Nat) : m.get k = AL.get m k := by
  induction m with
  | nil => rfl
  | cons kv rest ih => rw [RecMap.get, AL.get, ih]

theorem RecMap.set_eq_al (m : RecMap) (k : Nat) (v : List ZoneRecord) : m.set k v = AL.set m k v := by
  induction m with
  | nil => rfl
  | cons kv rest ih => rw [RecMap.set, AL.set, ih]

def RecMap.keys (m : RecMap) : List Nat := m.map (·.1)

@[simp] theorem RecMap.get_nil (k : Nat) : RecMap.get [] k = none := rfl

theorem RecMap.get_cons (k' : Nat) (v : List ZoneRecord) (rest : RecMap) (k : Nat) :
    RecMap.get ((k', v) :: rest) k = if k' = k then some v else RecMap.get rest k := rfl

theorem RecMap.get_mem {m : RecMap} {k : Nat} {v : List ZoneRecord} (h : RecMap.get m k = some v) :
    (k, v) ∈ m :=
  AL.mem_of_get (RecMap.get_eq_al m k ▸ h)

theorem RecMap.get_of_mem {m : RecMap} (hn : m.keys.Nodup) {k : Nat} {v : List ZoneRecord}
    (h : (k, v) ∈ m) : m.get k = some v :=
  (RecMap.get_eq_al m k).trans (AL.get_of_mem hn h)

theorem RecMap.get_set (m : RecMap) (k k2 : Nat) (v : List ZoneRecord) :
    (m.set k v).get k2 = if k = k2 then some v else m.get k2 := by
  rw [RecMap.set_eq_al, RecMap.get_eq_al, RecMap.get_eq_al, AL.get_set_comm]

theorem RecMap.get_eq_none_iff (m : RecMap) (k : Nat) : m.get k = none ↔ k ∉ m.keys := by
  rw [RecMap.get_eq_al]; exact AL.get_eq_none_iff

theorem RecMap.keys_set (m : RecMap) (k : Nat) (v : List ZoneRecord) :
    (m.set k v).keys = if k ∈ m.keys then m.keys else m.keys ++ [k] := by
  rw [RecMap.set_eq_al]; exact AL.keys_set m k v

theorem RecMap.keys_nodup_set (m : RecMap) (k : Nat) (v : List ZoneRecord) (h : m.keys.Nodup) :
    (m.set k v).keys.Nodup := by
  rw [RecMap.set_eq_al]; exact AL.nodup_keys_set h k v

theorem RecMap.get_filter_ne (m : RecMap) (k0 k : Nat) :
    RecMap.get (m.filter (fun kv => kv.1 != k0)) k = if k = k0 then none else m.get k := by
  rw [RecMap.get_eq_al, RecMap.get_eq_al]; exact AL.get_erase m k0 k

/-! ## `List.eraseDups` -/

section EraseDups
variable {α : Type} [BEq α] [LawfulBEq α]

omit [LawfulBEq α] in
theorem eraseDups_induction {motive : List α → Prop} (nil : motive [])
    (cons : ∀ a as, motive (as.filter fun b => !b == a) → motive (a :: as)) : ∀ l, motive l
  | [] => nil
  | a :: as => cons a as (eraseDups_induction nil cons (as.filter fun b => !b == a))
termination_by l => l.length
decreasing_by exact Nat.lt_succ_of_le (List.length_filter_le _ as)

theorem nodup_eraseDups (l : List α) : l.eraseDups.Nodup := by
  induction l using eraseDups_induction with
  | nil => exact List.nodup_nil
  | cons a as ih =>
    rw [List.eraseDups_cons, List.nodup_cons]
    refine ⟨fun h => ?_, ih⟩
    have := (List.mem_filter.mp (List.mem_eraseDups.mp h)).2
    rw [beq_self_eq_true] at this
    cases this

theorem eraseDups_of_nodup (l : List α) (h : l.Nodup) : l.eraseDups = l := by
  induction l with
  | nil => simp
  | cons a as ih =>
    rw [List.nodup_cons] at h
    rw [List.eraseDups_cons]
    have : (as.filter fun b => !b == a) = as := by
      rw [List.filter_eq_self]
      intro b hb
      simp only [Bool.not_eq_eq_eq_not, Bool.not_true, beq_eq_false_iff_ne, ne_eq]
      rintro rfl; exact h.1 hb
    rw [this, ih h.2]

theorem eraseDups_filter (p : α → Bool) (l : List α) :
    (l.filter p).eraseDups = l.eraseDups.filter p := by
  induction l using eraseDups_induction with
  | nil => rfl
  | cons a as ih =>
    rw [List.eraseDups_cons (a := a) (as := as)]
    by_cases hp : p a = true
    · rw [List.filter_cons_of_pos hp, List.filter_cons_of_pos hp, List.eraseDups_cons, ← ih,
        List.filter_filter, List.filter_filter]
      congr 2
      exact List.filter_congr (fun x _ => Bool.and_comm _ _)
    · -- `a` is filtered out, and with it the need to remove its later copies
      rw [List.filter_cons_of_neg hp, List.filter_cons_of_neg hp, ← ih, List.filter_filter]
      congr 1
      apply List.filter_congr
      intro x _
      by_cases hxa : x = a
      · subst hxa; rw [Bool.not_eq_true] at hp; rw [hp]; rfl
      · rw [beq_false_of_ne hxa, Bool.not_false, Bool.and_true]

end EraseDups

/-! ## `mergeEntries` in closed form -/

theorem mergeEntries_eq (mine other : List ZoneRecord) :
    mergeEntries mine other = mine ++ (other.removeAll mine).eraseDups := by
  induction other generalizing mine with
  | nil => simp [mergeEntries]
  | cons n rest ih =>
    simp only [mergeEntries]
    by_cases h : n ∈ mine
    · simp only [List.contains_eq_mem, h, decide_true, if_true]
      rw [ih]
      simp [List.cons_removeAll, h]
    · simp only [List.contains_eq_mem, h, decide_false, Bool.false_eq_true, if_false]
      rw [ih]
      simp only [List.cons_removeAll, List.elem_eq_mem, h, decide_false, if_true,
        List.eraseDups_cons, List.append_assoc, List.cons_append, List.nil_append]
      congr 3
      unfold List.removeAll
      rw [List.filter_filter]
      apply List.filter_congr
      intro x _
      by_cases hx : x = n <;> simp [hx]

theorem mem_mergeEntries (mine other : List ZoneRecord) (x : ZoneRecord) :
    x ∈ mergeEntries mine other ↔ x ∈ mine ∨ x ∈ other := by
  rw [mergeEntries_eq]
  simp only [List.mem_append, List.mem_eraseDups, List.removeAll, List.mem_filter, List.elem_eq_mem,
    Bool.not_eq_eq_eq_not, Bool.not_true, decide_eq_false_iff_not]
  constructor
  · rintro (h | ⟨h, _⟩)
    · exact Or.inl h
    · exact Or.inr h
  · rintro (h | h)
    · exact Or.inl h
    · by_cases hm : x ∈ mine
      · exact Or.inl hm
      · exact Or.inr ⟨h, hm⟩

theorem mergeEntries_prefix (mine other : List ZoneRecord) : mine <+: mergeEntries mine other := by
  rw [mergeEntries_eq]; exact List.prefix_append _ _

theorem mergeEntries_nodup (mine other : List ZoneRecord) (h : mine.Nodup) :
    (mergeEntries mine other).Nodup := by
  rw [mergeEntries_eq, List.nodup_append]
  refine ⟨h, nodup_eraseDups _, ?_⟩
  intro a ha b hb
  simp only [List.mem_eraseDups, List.removeAll, List.mem_filter, List.elem_eq_mem,
    Bool.not_eq_eq_eq_not, Bool.not_true, decide_eq_false_iff_not] at hb
  rintro rfl; exact hb.2 ha

theorem mergeEntries_eraseDups (a b : List ZoneRecord) :
    mergeEntries a.eraseDups b = (a ++ b).eraseDups := by
  rw [mergeEntries_eq, List.eraseDups_append]
  congr 2
  unfold List.removeAll
  exact List.filter_congr (fun x _ => by simp only [List.elem_eq_mem, List.mem_eraseDups])

theorem mergeEntries_eraseDups_right (x l : List ZoneRecord) :
    mergeEntries x l.eraseDups = mergeEntries x l := by
  rw [mergeEntries_eq, mergeEntries_eq]
  congr 1
  unfold List.removeAll
  rw [← eraseDups_filter, eraseDups_of_nodup _ (nodup_eraseDups _)]

theorem mergeEntries_nil_right (x : List ZoneRecord) : mergeEntries x [] = x := rfl

theorem mergeEntries_nil_left_nodup (y : List ZoneRecord) (h : y.Nodup) : mergeEntries [] y = y := by
  have := mergeEntries_eraseDups [] y
  rwa [List.eraseDups_nil, List.nil_append, eraseDups_of_nodup y h] at this

theorem mergeEntries_eq_nil_iff (x y : List ZoneRecord) : mergeEntries x y = [] ↔ x = [] ∧ y = [] := by
  constructor
  · intro h
    have hx : x = [] := by
      have := mergeEntries_prefix x y
      rw [h] at this; exact List.prefix_nil.mp this
    subst hx
    refine ⟨rfl, ?_⟩
    cases y with
    | nil => rfl
    | cons a as =>
      have : a ∈ mergeEntries [] (a :: as) := (mem_mergeEntries _ _ _).mpr (Or.inr List.mem_cons_self)
      rw [h] at this; cases this
  · rintro ⟨rfl, rfl⟩; rfl

/-! ## `RecMap.insertRecord` -/

/-- the `any(|e| e == &new)` / `push` block of `ZoneRecords::insert`: append unless already there. -/
def pushNew (l : List ZoneRecord) (zr : ZoneRecord) : List ZoneRecord :=
  if l.contains zr then l else l ++ [zr]

theorem mergeEntries_singleton (l : List ZoneRecord) (zr : ZoneRecord) :
    mergeEntries l [zr] = pushNew l zr := rfl

theorem mem_pushNew {l : List ZoneRecord} {zr x : ZoneRecord} : x ∈ pushNew l zr ↔ x ∈ l ∨ x = zr :=
  mem_pushIfNew

theorem pushNew_ne_nil (l : List ZoneRecord) (zr : ZoneRecord) : pushNew l zr ≠ [] := by
  unfold pushNew
  split
  · rename_i h; intro h2; subst h2; simp at h
  · simp

theorem RecMap.get_insertRecord (m : RecMap) (zr : ZoneRecord) (k : Nat) :
    (m.insertRecord zr).get k =
      if zr.rtype = k then some (pushNew ((m.get k).getD []) zr) else m.get k := by
  unfold RecMap.insertRecord
  by_cases hk : zr.rtype = k
  · subst hk
    rw [if_pos rfl]
    cases hg : m.get zr.rtype with
    | none => exact (RecMap.get_set m _ _ _).trans (if_pos rfl)
    | some entries =>
      show (if entries.contains zr then m else _).get zr.rtype = some (if entries.contains zr then _ else _)
      split
      · exact hg
      · exact (RecMap.get_set m _ _ _).trans (if_pos rfl)
  · rw [if_neg hk]
    have hs : ∀ v, (m.set zr.rtype v).get k = m.get k := fun v => (RecMap.get_set m _ k v).trans (if_neg hk)
    cases m.get zr.rtype with
    | none => exact hs _
    | some entries =>
      show (if entries.contains zr then m else _).get k = _
      split
      · rfl
      · exact hs _

theorem RecMap.get_insertRecord_ne (m : RecMap) (zr : ZoneRecord) (k : Nat) (h : k ≠ zr.rtype) :
    (m.insertRecord zr).get k = m.get k :=
  (RecMap.get_insertRecord m zr k).trans (if_neg (Ne.symm h))

theorem RecMap.get_insertRecord_fresh (m : RecMap) (zr : ZoneRecord) (h : m.get zr.rtype = none) :
    (m.insertRecord zr).get zr.rtype = some [zr] := by
  rw [RecMap.get_insertRecord, if_pos rfl, h]
  rfl

theorem RecMap.keys_insertRecord (m : RecMap) (zr : ZoneRecord) :
    (m.insertRecord zr).keys = if zr.rtype ∈ m.keys then m.keys else m.keys ++ [zr.rtype] := by
  unfold RecMap.insertRecord
  cases hg : m.get zr.rtype with
  | none =>
    have := (RecMap.get_eq_none_iff m zr.rtype).mp hg
    simp [RecMap.keys_set, this]
  | some entries =>
    have hin : zr.rtype ∈ m.keys := by
      by_cases hn : zr.rtype ∈ m.keys
      · exact hn
      · rw [← RecMap.get_eq_none_iff, hg] at hn; cases hn
    simp only [hin, if_true]
    split
    · rfl
    · simp [RecMap.keys_set, hin]

theorem RecMap.keys_nodup_insertRecord (m : RecMap) (zr : ZoneRecord) (h : m.keys.Nodup) :
    (m.insertRecord zr).keys.Nodup := by
  unfold RecMap.insertRecord
  split
  · split
    · exact h
    · exact RecMap.keys_nodup_set _ _ _ h
  · exact RecMap.keys_nodup_set _ _ _ h

/-! ## `mergeZrs` -/

theorem mergeZrs_eq_al (a b : RecMap) : mergeZrs a b = AL.mergeWith mergeEntries a b := by
  induction b generalizing a with
  | nil => rfl
  | cons kv rest ih =>
    rw [mergeZrs, AL.mergeWith, ih, RecMap.get_eq_al]
    cases AL.get a kv.1 <;> simp only [RecMap.set_eq_al]

theorem RecMap.get_mergeZrs (a b : RecMap) (k : Nat) (hb : b.keys.Nodup) :
    (mergeZrs a b).get k =
      match a.get k, b.get k with
      | none, none => none
      | some x, none => some x
      | none, some y => some y
      | some x, some y => some (mergeEntries x y) := by
  simp only [mergeZrs_eq_al, RecMap.get_eq_al, AL.get_mergeWith _ a b k hb]
  cases AL.get a k <;> cases AL.get b k <;> rfl

theorem RecMap.keys_nodup_mergeZrs (a b : RecMap) (h : a.keys.Nodup) : (mergeZrs a b).keys.Nodup := by
  rw [mergeZrs_eq_al]; exact AL.nodup_keys_mergeWith _ a b h

/-! ## children lists -/

namespace ZNode

theorem childGet_eq_al (cs : List (Label × ZNode)) (l : Label) : childGet cs l = AL.get cs l := by
  induction cs with
  | nil => rfl
  | cons kv rest ih => rw [childGet, AL.get, ih]

theorem childSet_eq_al (cs : List (Label × ZNode)) (l : Label) (n : ZNode) :
    childSet cs l n = AL.set cs l n := by
  induction cs with
  | nil => rfl
  | cons kv rest ih =>
    rw [childSet, AL.set, ih]
    split
    · rename_i h; rw [h]
    · rfl

def childKeys (cs : List (Label × ZNode)) : List Label := cs.map (·.1)

theorem mem_of_childGet {cs : List (Label × ZNode)} {l : Label} {c : ZNode} (h : childGet cs l = some c) :
    (l, c) ∈ cs :=
  AL.mem_of_get (childGet_eq_al cs l ▸ h)

theorem childGet_of_mem {cs : List (Label × ZNode)} (hn : (childKeys cs).Nodup) {l : Label} {c : ZNode}
    (h : (l, c) ∈ cs) : childGet cs l = some c :=
  (childGet_eq_al cs l).trans (AL.get_of_mem hn h)

theorem childGet_childSet (cs : List (Label × ZNode)) (l l2 : Label) (n : ZNode) :
    childGet (childSet cs l n) l2 = if l = l2 then some n else childGet cs l2 := by
  rw [childSet_eq_al, childGet_eq_al, childGet_eq_al, AL.get_set_comm]

theorem childGet_eq_none_iff (cs : List (Label × ZNode)) (l : Label) :
    childGet cs l = none ↔ l ∉ childKeys cs := by
  rw [childGet_eq_al]; exact AL.get_eq_none_iff

theorem childKeys_childSet (cs : List (Label × ZNode)) (l : Label) (n : ZNode) :
    childKeys (childSet cs l n) = if l ∈ childKeys cs then childKeys cs else childKeys cs ++ [l] := by
  rw [childSet_eq_al]; exact (AL.keys_set cs l n).trans (by congr)

theorem childKeys_nodup_childSet (cs : List (Label × ZNode)) (l : Label) (n : ZNode)
    (h : (childKeys cs).Nodup) : (childKeys (childSet cs l n)).Nodup := by
  rw [childSet_eq_al]; exact AL.nodup_keys_set h l n

theorem mem_childSet {cs : List (Label × ZNode)} {l : Label} {n : ZNode} {x : Label × ZNode}
    (h : x ∈ childSet cs l n) : x = (l, n) ∨ x ∈ cs :=
  AL.eq_or_mem_of_mem_set (childSet_eq_al cs l n ▸ h)

theorem mergeChildren_eq_al (ch och : List (Label × ZNode)) :
    mergeChildren ch och = AL.mergeWith ZNode.merge ch och := by
  induction och generalizing ch with
  | nil => rw [mergeChildren]; rfl
  | cons kv rest ih =>
    rw [mergeChildren, AL.mergeWith, ih, childGet_eq_al]
    cases AL.get ch kv.1 <;> simp only [childSet_eq_al]

end ZNode

/-! ## `zoneResultHelper` decomposed -/

def nsOf (records : RecMap) : List ZoneRecord := (records.get RT_NS).getD []

theorem nsOf_ne_nil {records : RecMap} (h : nsOf records ≠ []) :
    ∃ z zs, records.get RT_NS = some (z :: zs) ∧ nsOf records = z :: zs := by
  unfold nsOf at h ⊢
  rcases hg : records.get RT_NS with _ | _ | ⟨z, zs⟩
  · rw [hg] at h; exact absurd rfl h
  · rw [hg] at h; exact absurd rfl h
  · exact ⟨z, zs, rfl, rfl⟩

theorem nsOf_eq_nil_iff {m : RecMap} : nsOf m = [] ↔ m.get RT_NS = none ∨ m.get RT_NS = some [] := by
  unfold nsOf
  rcases m.get RT_NS with _ | _ | ⟨z, zs⟩ <;> simp

theorem nsOf_of_get {records : RecMap} {l : List ZoneRecord} (h : records.get RT_NS = some l) :
    nsOf records = l := by
  rw [nsOf, h]; rfl

/-- the CNAME step of `zone_result_helper`. -/
def cnameOf (name : Name) (qtype : Nat) (records : RecMap) : Option ZoneResult :=
  if !rtypeMatches RT_CNAME qtype then
    match records.get RT_CNAME with
    | some (z :: _) =>
      match z.fields with
      | [.name cname] => some (.cname cname (z.toRR name))
      | _ => some .panic
    | _ => none
  else none

/-- the data step of `zone_result_helper`. -/
def answerOf (name : Name) (qtype : Nat) (records : RecMap) : ZoneResult :=
  match lookupNat queryTypeFromU16 qtype with
  | some "Wildcard" => .answer (records.flatMap (fun kv => kv.2.map (·.toRR name)))
  | some _ => .answer []
  | none =>
    match records.get qtype with
    | some zrs => .answer (zrs.map (·.toRR name))
    | none => .answer []

/-- `zone_result_helper` after the delegation test: CNAME, then data. -/
def helperData (name : Name) (qtype : Nat) (records : RecMap) : ZoneResult :=
  match cnameOf name qtype records with
  | some r => r
  | none => answerOf name qtype records

theorem zoneResultHelper_eq (name : Name) (qtype : Nat) (records : RecMap) (nsd : Name) (cd : Bool) :
    zoneResultHelper name qtype records nsd cd =
      if cd && qtype != RT_NS && !(nsOf records).isEmpty then
        .delegation ((nsOf records).map (·.toRR nsd))
      else helperData name qtype records := by
  unfold zoneResultHelper nsOf
  rcases records.get RT_NS with _ | _ | ⟨z, zs⟩
  · simp only [ite_self, Option.getD_none, List.isEmpty_nil, Bool.not_true, Bool.and_false,
      Bool.false_eq_true, if_false]; rfl
  · simp only [ite_self, Option.getD_some, List.isEmpty_nil, Bool.not_true, Bool.and_false,
      Bool.false_eq_true, if_false]; rfl
  · simp only [Option.getD_some, List.isEmpty_cons, Bool.not_false, Bool.and_true]
    by_cases hc : (cd && qtype != RT_NS) = true
    · rw [if_pos hc, if_pos hc]
    · rw [if_neg hc, if_neg hc]; rfl

theorem cnameOf_cases (name : Name) (qtype : Nat) (records : RecMap) :
    cnameOf name qtype records = none ∨
    (∃ z zs, records.get RT_CNAME = some (z :: zs) ∧ (∀ c, z.fields ≠ [.name c]) ∧
      cnameOf name qtype records = some .panic) ∨
    ∃ z zs c, records.get RT_CNAME = some (z :: zs) ∧ z.fields = [.name c] ∧
      rtypeMatches RT_CNAME qtype = false ∧
      cnameOf name qtype records = some (.cname c (z.toRR name)) := by
  unfold cnameOf
  split
  · rename_i hm
    split
    · rename_i z zs hz
      split
      · rename_i c hc
        exact Or.inr (Or.inr ⟨z, zs, c, hz, hc, by simpa using hm, rfl⟩)
      · rename_i hno
        exact Or.inr (Or.inl ⟨z, zs, hz, hno, rfl⟩)
    · exact Or.inl rfl
  · exact Or.inl rfl

theorem answerOf_is_answer (name : Name) (qtype : Nat) (records : RecMap) :
    ∃ rrs, answerOf name qtype records = .answer rrs := by
  unfold answerOf
  split
  · exact ⟨_, rfl⟩
  · exact ⟨_, rfl⟩
  · split <;> exact ⟨_, rfl⟩

theorem helperData_shape (name : Name) (qtype : Nat) (records : RecMap) :
    (∃ rrs, helperData name qtype records = .answer rrs) ∨ helperData name qtype records = .panic ∨
      ∃ c rr, helperData name qtype records = .cname c rr := by
  unfold helperData
  rcases cnameOf_cases name qtype records with h | ⟨_, _, _, _, h⟩ | ⟨z, zs, c, _, _, _, h⟩ <;> rw [h]
  · exact Or.inl (answerOf_is_answer name qtype records)
  · exact Or.inr (Or.inl rfl)
  · exact Or.inr (Or.inr ⟨_, _, rfl⟩)

theorem zoneResultHelper_ne_nameError (name : Name) (qtype : Nat) (records : RecMap) (nsd : Name)
    (cd : Bool) : zoneResultHelper name qtype records nsd cd ≠ .nameError := by
  rw [zoneResultHelper_eq]
  split
  · exact ZoneResult.noConfusion
  · intro h
    rcases helperData_shape name qtype records with ⟨_, h'⟩ | h' | ⟨_, _, h'⟩ <;> rw [h'] at h <;> cases h

theorem helperData_ne_panic (name : Name) (qtype : Nat) (m : RecMap)
    (h : ∀ z zs, m.get RT_CNAME = some (z :: zs) → ∃ c, z.fields = [.name c]) :
    helperData name qtype m ≠ .panic := by
  unfold helperData
  rcases cnameOf_cases name qtype m with hc | ⟨z, zs, hg, hno, _⟩ | ⟨z, zs, c, _, _, _, hc⟩
  · rw [hc]; obtain ⟨r, hr⟩ := answerOf_is_answer name qtype m; rw [hr]; simp
  · obtain ⟨c, hcf⟩ := h z zs hg
    exact absurd hcf (hno c)
  · rw [hc]; simp

theorem zoneResultHelper_ne_panic (name : Name) (qtype : Nat) (m : RecMap) (nsd : Name) (cd : Bool)
    (h : ∀ z zs, m.get RT_CNAME = some (z :: zs) → ∃ c, z.fields = [.name c]) :
    zoneResultHelper name qtype m nsd cd ≠ .panic := by
  rw [zoneResultHelper_eq]
  split
  · simp
  · exact helperData_ne_panic name qtype m h

theorem zoneResultHelper_delegation_iff (name : Name) (qtype : Nat) (records : RecMap) (nsd : Name)
    (cd : Bool) (rrs : List RR) :
    zoneResultHelper name qtype records nsd cd = .delegation rrs ↔
      cd = true ∧ qtype ≠ RT_NS ∧
      ∃ z zs, records.get RT_NS = some (z :: zs) ∧ rrs = (z :: zs).map (·.toRR nsd) := by
  rw [zoneResultHelper_eq]
  split
  · rename_i hc
    simp only [Bool.and_eq_true, bne_iff_ne, ne_eq, Bool.not_eq_true', List.isEmpty_eq_false_iff] at hc
    obtain ⟨⟨hcd, hq⟩, hns⟩ := hc
    obtain ⟨z, zs, hg, hns'⟩ := nsOf_ne_nil hns
    rw [hns', ZoneResult.delegation.injEq]
    exact ⟨fun h => ⟨hcd, hq, z, zs, hg, h.symm⟩,
      fun ⟨_, _, z', zs', h1, h⟩ => by cases hg.symm.trans h1; exact h.symm⟩
  · rename_i hc
    constructor
    · intro h
      rcases helperData_shape name qtype records with ⟨_, h'⟩ | h' | ⟨_, _, h'⟩ <;> rw [h'] at h <;> cases h
    · rintro ⟨hcd, hq, z, zs, hg, _⟩
      exfalso; apply hc
      simp [hcd, hq, nsOf, hg]

theorem zoneResultHelper_no_deleg_eq (name : Name) (qtype : Nat) (records : RecMap) (nsd : Name)
    (cd : Bool) (h : cd = false ∨ qtype = RT_NS ∨ nsOf records = []) :
    zoneResultHelper name qtype records nsd cd = helperData name qtype records := by
  rw [zoneResultHelper_eq]
  rcases h with h | h | h <;> simp [h]

theorem answerOf_of_recordType (name : Name) (records : RecMap) {qtype : Nat}
    (hq : lookupNat queryTypeFromU16 qtype = none) :
    answerOf name qtype records = .answer (((records.get qtype).getD []).map (·.toRR name)) := by
  unfold answerOf
  rw [hq]
  cases records.get qtype <;> rfl

theorem answerOf_answer (name : Name) (qtype : Nat) (records : RecMap) (rrs : List RR)
    (h : answerOf name qtype records = .answer rrs) :
    (∀ rr ∈ rrs, ∃ k zrs zr, (k, zrs) ∈ records ∧ zr ∈ zrs ∧ rr = zr.toRR name ∧
      rtypeMatches k qtype = true) ∧
    (lookupNat queryTypeFromU16 qtype = none → rrs = ((records.get qtype).getD []).map (·.toRR name)) := by
  cases hq : lookupNat queryTypeFromU16 qtype with
  | none =>
    rw [answerOf_of_recordType name records hq] at h
    cases h
    refine ⟨fun rr hrr => ?_, fun _ => rfl⟩
    obtain ⟨zr, hzr, rfl⟩ := List.mem_map.mp hrr
    cases hg : records.get qtype with
    | none => rw [hg] at hzr; cases hzr
    | some zrs =>
      rw [hg] at hzr
      exact ⟨qtype, zrs, zr, RecMap.get_mem hg, hzr, rfl, (rtypeMatches_of_recordType hq _).trans (beq_self_eq_true _)⟩
  | some s =>
    refine ⟨fun rr hrr => ?_, fun hn => nomatch hn⟩
    unfold answerOf at h
    rw [hq] at h
    split at h
    · rename_i heq
      cases h
      obtain ⟨⟨k, zrs⟩, hkv, hrr⟩ := List.mem_flatMap.mp hrr
      obtain ⟨zr, hzr, rfl⟩ := List.mem_map.mp hrr
      exact ⟨k, zrs, zr, hkv, hzr, rfl, rtypeMatches_of_wildcard (hq.trans heq) _⟩
    · cases h; cases hrr
    · rename_i heq; cases heq

theorem helperData_cname_of (name : Name) (qtype : Nat) (records : RecMap) (z : ZoneRecord)
    (zs : List ZoneRecord) (c : Name) (hg : records.get RT_CNAME = some (z :: zs))
    (hf : z.fields = [.name c]) (hm : rtypeMatches RT_CNAME qtype = false) :
    helperData name qtype records = .cname c (z.toRR name) := by
  unfold helperData cnameOf
  simp [hm, hg, hf]

theorem helperData_nil (name : Name) (qtype : Nat) : helperData name qtype [] = .answer [] := by
  have hc : cnameOf name qtype [] = none := by unfold cnameOf; split <;> rfl
  unfold helperData
  rw [hc]
  show answerOf name qtype [] = _
  unfold answerOf
  split <;> rfl

theorem helperData_plain (name : Name) (qtype : Nat) (records : RecMap)
    (hq : lookupNat queryTypeFromU16 qtype = none) (hcn : records.get RT_CNAME = none) :
    helperData name qtype records = .answer (((records.get qtype).getD []).map (·.toRR name)) := by
  have hc : cnameOf name qtype records = none := by unfold cnameOf; rw [hcn]; split <;> rfl
  unfold helperData
  rw [hc]
  exact answerOf_of_recordType name records hq

theorem zoneResultHelper_plain (name : Name) (qtype : Nat) (records : RecMap) (nsd : Name) (cd : Bool)
    (hq : lookupNat queryTypeFromU16 qtype = none)
    (hns : cd = false ∨ qtype = RT_NS ∨ nsOf records = []) (hcn : records.get RT_CNAME = none) :
    zoneResultHelper name qtype records nsd cd =
      .answer (((records.get qtype).getD []).map (·.toRR name)) :=
  (zoneResultHelper_no_deleg_eq name qtype records nsd cd hns).trans
    (helperData_plain name qtype records hq hcn)

theorem helperData_of_matches (name : Name) (qtype : Nat) (records : RecMap)
    (hm : rtypeMatches RT_CNAME qtype = true) :
    helperData name qtype records = answerOf name qtype records := by
  unfold helperData cnameOf
  simp [hm]

/-! ## reversed-path presentation: descend from the apex, first label = the one next to the apex -/

namespace ZNode

@[simp] theorem nsdname_mk (n : Name) (t : RecMap) (w : Option RecMap) (c : List (Label × ZNode)) :
    (ZNode.mk n t w c).nsdname = n := rfl
@[simp] theorem this_mk (n : Name) (t : RecMap) (w : Option RecMap) (c : List (Label × ZNode)) :
    (ZNode.mk n t w c).this = t := rfl
@[simp] theorem wildcards_mk (n : Name) (t : RecMap) (w : Option RecMap) (c : List (Label × ZNode)) :
    (ZNode.mk n t w c).wildcards = w := rfl
@[simp] theorem children_mk (n : Name) (t : RecMap) (w : Option RecMap) (c : List (Label × ZNode)) :
    (ZNode.mk n t w c).children = c := rfl
@[simp] theorem nsdname_new (n : Name) : (ZNode.new n).nsdname = n := rfl
@[simp] theorem this_new (n : Name) : (ZNode.new n).this = [] := rfl
@[simp] theorem wildcards_new (n : Name) : (ZNode.new n).wildcards = none := rfl
@[simp] theorem children_new (n : Name) : (ZNode.new n).children = [] := rfl

def descend (node : ZNode) : List Label → Option ZNode
  | [] => some node
  | l :: rest =>
    match childGet node.children l with
    | some c => c.descend rest
    | none => none

/-- what `resolve` returns at the node where the descent stops for lack of a child. -/
def stopResult (n : ZNode) (name : Name) (qtype : Nat) (lbl : Label) (isApex : Bool) : ZoneResult :=
  match n.wildcards with
  | some ws =>
    match Name.fromLabels (lbl :: n.nsdname.labels) with
    | some nsd => zoneResultHelper name qtype ws nsd true
    | none => .panic
  | none =>
    if isApex then .nameError
    else
      match n.this.get RT_NS with
      | some (z :: zs) => .delegation ((z :: zs).map (·.toRR n.nsdname))
      | _ => .nameError

/-- `resolve` on the reversed relative name, by structural recursion. -/
def resolveRev (node : ZNode) (name : Name) (qtype : Nat) : List Label → Bool → ZoneResult
  | [], isApex => zoneResultHelper name qtype node.this node.nsdname (!isApex)
  | lbl :: rest, isApex =>
    match childGet node.children lbl with
    | some child => child.resolveRev name qtype rest false
    | none => stopResult node name qtype lbl isApex

theorem resolve_reverse (name : Name) (qtype : Nat) (r : List Label) :
    ∀ (node : ZNode) (isApex : Bool),
      node.resolve name qtype r.reverse isApex = node.resolveRev name qtype r isApex := by
  induction r with
  | nil =>
    intro node isApex
    rw [ZNode.resolve]
    split
    · rfl
    · rename_i h; simp at h
  | cons l rest ih =>
    intro node isApex
    rw [ZNode.resolve]
    split
    · rename_i h; simp at h
    · rename_i lbl h
      have hl : lbl = l := by simpa using h.symm
      subst hl
      simp only [List.reverse_cons, List.dropLast_concat, resolveRev]
      cases hc : childGet node.children lbl with
      | some child => simp only; exact ih child false
      | none => rfl

theorem resolve_eq_rev (node : ZNode) (name : Name) (qtype : Nat) (rel : List Label) (isApex : Bool) :
    node.resolve name qtype rel isApex = node.resolveRev name qtype rel.reverse isApex := by
  have := resolve_reverse name qtype rel.reverse node isApex
  simpa using this

/-- `insert` / `insert_wildcard` on the reversed relative name, by structural recursion. -/
def insertRev (node : ZNode) : List Label → ZoneRecord → Bool → Option ZNode
  | [], zr, wild =>
    if wild then
      match node.wildcards with
      | some ws => some (.mk node.nsdname node.this (some (ws.insertRecord zr)) node.children)
      | none => some (.mk node.nsdname node.this (some [(zr.rtype, [zr])]) node.children)
    else some (.mk node.nsdname (node.this.insertRecord zr) node.wildcards node.children)
  | lbl :: rest, zr, wild =>
    match childGet node.children lbl with
    | some child =>
      match child.insertRev rest zr wild with
      | some child' =>
        some (.mk node.nsdname node.this node.wildcards (childSet node.children lbl child'))
      | none => none
    | none =>
      match Name.fromLabels (lbl :: node.nsdname.labels) with
      | none => none
      | some nsd =>
        match (ZNode.new nsd).insertRev rest zr wild with
        | some child' =>
          some (.mk node.nsdname node.this node.wildcards (childSet node.children lbl child'))
        | none => none

theorem insert_reverse (zr : ZoneRecord) (wild : Bool) (r : List Label) :
    ∀ (node : ZNode), node.insert r.reverse zr wild = node.insertRev r zr wild := by
  induction r with
  | nil =>
    intro node
    rw [ZNode.insert]
    split
    · rfl
    · rename_i h; simp at h
  | cons l rest ih =>
    intro node
    rw [ZNode.insert]
    split
    · rename_i h; simp at h
    · rename_i lbl h
      have hl : lbl = l := by simpa using h.symm
      subst hl
      simp only [List.reverse_cons, List.dropLast_concat, insertRev]
      cases hc : childGet node.children lbl with
      | some child => simp only; rw [ih child]; rfl
      | none =>
        cases hn : Name.fromLabels (lbl :: node.nsdname.labels) with
        | none => rfl
        | some nsd => simp only; rw [ih (ZNode.new nsd)]; rfl

theorem insert_eq_rev (node : ZNode) (rel : List Label) (zr : ZoneRecord) (wild : Bool) :
    node.insert rel zr wild = node.insertRev rel.reverse zr wild := by
  have := insert_reverse zr wild rel.reverse node
  simpa using this

@[simp] theorem descend_nil (node : ZNode) : node.descend [] = some node := rfl

theorem descend_cons (node : ZNode) (l : Label) (rest : List Label) :
    node.descend (l :: rest) = (childGet node.children l).bind (fun c => c.descend rest) := by
  simp only [descend]; cases childGet node.children l <;> rfl

/-- a property every child inherits holds of every node a descent reaches. -/
theorem descend_closed {Q : ZNode → Prop}
    (step : ∀ {n : ZNode} {l : Label} {c : ZNode}, Q n → childGet n.children l = some c → Q c) :
    ∀ (p : List Label) {node n : ZNode}, Q node → node.descend p = some n → Q n
  | [], _, _, h, hd => Option.some.inj hd ▸ h
  | l :: rest, node, n, h, hd => by
    rw [descend_cons] at hd
    obtain ⟨c, hc, hd⟩ := Option.bind_eq_some_iff.mp hd
    exact descend_closed step rest (step h hc) hd

theorem descend_append (node : ZNode) (r1 r2 : List Label) :
    node.descend (r1 ++ r2) = (node.descend r1).bind (fun n => n.descend r2) := by
  induction r1 generalizing node with
  | nil => simp
  | cons l rest ih =>
    simp only [List.cons_append, descend_cons]
    cases childGet node.children l with
    | none => rfl
    | some c => simp [ih]

theorem descend_prefix_isSome (node : ZNode) (r1 r2 : List Label)
    (h : (node.descend (r1 ++ r2)).isSome) : (node.descend r1).isSome := by
  rw [descend_append] at h
  cases hd : node.descend r1 with
  | none => simp [hd] at h
  | some n => rfl

theorem resolveRev_descend (name : Name) (qtype : Nat) (r1 r2 : List Label) :
    ∀ (node n : ZNode) (isApex : Bool), node.descend r1 = some n →
      node.resolveRev name qtype (r1 ++ r2) isApex =
        n.resolveRev name qtype r2 (isApex && r1.isEmpty) := by
  induction r1 with
  | nil => intro node n isApex h; simp at h; subst h; simp
  | cons l rest ih =>
    intro node n isApex h
    simp only [descend_cons] at h
    cases hc : childGet node.children l with
    | none => simp [hc] at h
    | some c =>
      simp only [hc, Option.bind_some] at h
      simp only [List.cons_append, resolveRev, hc, List.isEmpty_cons, Bool.and_false]
      rw [ih c n false h]; simp

theorem stopResult_wild {n : ZNode} {ws : RecMap} (hw : n.wildcards = some ws) (name : Name) (qtype : Nat)
    (lbl : Label) (isApex : Bool) :
    stopResult n name qtype lbl isApex =
      match Name.fromLabels (lbl :: n.nsdname.labels) with
      | some nsd => zoneResultHelper name qtype ws nsd true
      | none => .panic := by
  rw [stopResult, hw]

theorem stopResult_noWild {n : ZNode} (hw : n.wildcards = none) (name : Name) (qtype : Nat)
    (lbl : Label) (isApex : Bool) :
    stopResult n name qtype lbl isApex =
      if isApex = true ∨ nsOf n.this = [] then .nameError
      else .delegation ((nsOf n.this).map (·.toRR n.nsdname)) := by
  rw [stopResult, hw]
  cases isApex with
  | true => rw [if_pos (Or.inl rfl)]; rfl
  | false =>
    simp only [Bool.false_eq_true, if_false, false_or]
    rcases hg : n.this.get RT_NS with _ | _ | ⟨z, zs⟩
    · exact (if_pos (show nsOf n.this = [] by rw [nsOf, hg]; rfl)).symm
    · exact (if_pos (nsOf_of_get hg)).symm
    · rw [nsOf_of_get hg]
      exact (if_neg (List.cons_ne_nil z zs)).symm

theorem descend_none_split (r : List Label) : ∀ (node : ZNode), node.descend r = none →
    ∃ r1 l r2 n, r = r1 ++ l :: r2 ∧ node.descend r1 = some n ∧ childGet n.children l = none := by
  induction r with
  | nil => intro node h; simp at h
  | cons l rest ih =>
    intro node h
    cases hc : childGet node.children l with
    | none => exact ⟨[], l, rest, node, rfl, rfl, hc⟩
    | some c =>
      simp only [descend_cons, hc, Option.bind_some] at h
      obtain ⟨r1, l', r2, n, hr, hd, hn⟩ := ih c h
      refine ⟨l :: r1, l', r2, n, by simp [hr], ?_, hn⟩
      simp [descend_cons, hc, hd]

end ZNode

/-- The path `rel` (name order; followed from its LAST label) exists in the tree under `node`. -/
inductive PathExists : ZNode → List Label → Prop
  | here (node : ZNode) : PathExists node []
  | step (node child : ZNode) (rel : List Label) (lbl : Label) :
      ZNode.childGet node.children lbl = some child → PathExists child rel →
      PathExists node (rel ++ [lbl])

theorem pathExists_iff_descend_rev (r : List Label) : ∀ (node : ZNode),
    PathExists node r.reverse ↔ (node.descend r).isSome := by
  induction r with
  | nil => intro node; simp; exact PathExists.here node
  | cons l rest ih =>
    intro node
    simp only [List.reverse_cons, ZNode.descend_cons]
    constructor
    · intro h
      generalize hq : rest.reverse ++ [l] = q at h
      cases h with
      | here => simp at hq
      | step _ child rel lbl hc hp =>
        have := List.append_inj' hq (by simp)
        obtain ⟨h1, h2⟩ := this
        simp only [List.cons.injEq, and_true] at h2
        subst h2; subst h1
        simp [hc, (ih child).mp hp]
    · intro h
      cases hc : ZNode.childGet node.children l with
      | none => simp [hc] at h
      | some c =>
        simp only [hc, Option.bind_some] at h
        exact PathExists.step node c _ l hc ((ih c).mpr h)

theorem pathExists_iff_descend (node : ZNode) (rel : List Label) :
    PathExists node rel ↔ (node.descend rel.reverse).isSome := by
  have := pathExists_iff_descend_rev rel.reverse node
  simpa using this

/-- the node owning the relative name `rel` (name order), if it exists -/
def ZNode.nodeAt (node : ZNode) (rel : List Label) : Option ZNode := node.descend rel.reverse

theorem ZNode.resolve_of_nodeAt (node n : ZNode) (name : Name) (qtype : Nat) (rel : List Label)
    (isApex : Bool) (h : node.nodeAt rel = some n) :
    node.resolve name qtype rel isApex =
      zoneResultHelper name qtype n.this n.nsdname (!(isApex && rel.isEmpty)) := by
  have := ZNode.resolveRev_descend name qtype rel.reverse [] node n isApex h
  rw [ZNode.resolve_eq_rev]
  simpa [ZNode.resolveRev] using this

theorem ZNode.resolve_stop (node n : ZNode) (name : Name) (qtype : Nat) (pre suf : List Label) (lbl : Label)
    (isApex : Bool) (hn : node.nodeAt suf = some n) (hc : ZNode.childGet n.children lbl = none) :
    node.resolve name qtype (pre ++ lbl :: suf) isApex =
      ZNode.stopResult n name qtype lbl (isApex && suf.isEmpty) := by
  rw [ZNode.resolve_eq_rev, List.reverse_append, List.reverse_cons, List.append_assoc,
    ZNode.resolveRev_descend name qtype _ _ node n isApex hn, List.singleton_append,
    ZNode.resolveRev, hc, List.isEmpty_reverse]

/-- the split every later result on `resolve` starts from: the whole path exists and the helper runs
    at its node, or the descent stops at the deepest existing node `n` for lack of a child `lbl`. -/
theorem ZNode.resolve_cases (node : ZNode) (name : Name) (qtype : Nat) (rel : List Label) (isApex : Bool) :
    (∃ n, node.nodeAt rel = some n ∧
      node.resolve name qtype rel isApex =
        zoneResultHelper name qtype n.this n.nsdname (!(isApex && rel.isEmpty))) ∨
    (node.nodeAt rel = none ∧ ∃ pre lbl suf n, rel = pre ++ lbl :: suf ∧ node.nodeAt suf = some n ∧
      ZNode.childGet n.children lbl = none ∧
      node.resolve name qtype rel isApex = ZNode.stopResult n name qtype lbl (isApex && suf.isEmpty)) := by
  cases h : node.nodeAt rel with
  | some n => exact .inl ⟨n, rfl, ZNode.resolve_of_nodeAt node n name qtype rel isApex h⟩
  | none =>
    obtain ⟨r1, l, r2, n, hr, hd, hc⟩ := ZNode.descend_none_split _ node h
    have hrel : rel = r2.reverse ++ l :: r1.reverse := by
      rw [← rel.reverse_reverse, hr, List.reverse_append, List.reverse_cons, List.append_assoc]; rfl
    have hn : node.nodeAt r1.reverse = some n := by rw [ZNode.nodeAt, List.reverse_reverse]; exact hd
    exact .inr ⟨rfl, r2.reverse, l, r1.reverse, n, hrel, hn, hc,
      hrel ▸ ZNode.resolve_stop node n name qtype _ _ l isApex hn hc⟩

theorem ZNode.stopResult_nameError (n : ZNode) (name : Name) (qtype : Nat) (lbl : Label) (isApex : Bool)
    (h : ZNode.stopResult n name qtype lbl isApex = .nameError) :
    n.wildcards = none ∧ (isApex = true ∨ nsOf n.this = []) := by
  cases hw : n.wildcards with
  | some ws =>
    rw [ZNode.stopResult_wild hw] at h
    cases hn : Name.fromLabels (lbl :: n.nsdname.labels) with
    | some nsd => rw [hn] at h; exact absurd h (zoneResultHelper_ne_nameError _ _ _ _ _)
    | none => rw [hn] at h; cases h
  | none =>
    rw [ZNode.stopResult_noWild hw] at h
    split at h
    · rename_i hc; exact ⟨rfl, hc⟩
    · cases h

/-! ## every verdict is made of one stored record map -/

/-- The verdict `zr` for `(name, qtype)` is made of the one record map `recs`; a referral's records are
    owned by `nsd`.  Name errors and panics carry no records. -/
structure VerdictFrom (recs : RecMap) (name : Name) (qtype : Nat) (nsd : Name) (zr : ZoneResult) : Prop where
  answer : ∀ rrs, zr = .answer rrs → ∀ rr ∈ rrs, ∃ k zrs z, (k, zrs) ∈ recs ∧ z ∈ zrs ∧
    rr = z.toRR name ∧ rtypeMatches k qtype = true
  answerTyped : ∀ rrs, zr = .answer rrs → lookupNat queryTypeFromU16 qtype = none → rrs ≠ [] →
    ∃ zrs, recs.get qtype = some zrs ∧ rrs = zrs.map (·.toRR name)
  cname : ∀ c rr, zr = .cname c rr → ∃ z zs, recs.get RT_CNAME = some (z :: zs) ∧
    z.fields = [.name c] ∧ rr = z.toRR name ∧ rtypeMatches RT_CNAME qtype = false
  delegation : ∀ rrs, zr = .delegation rrs → ∃ z zs, recs.get RT_NS = some (z :: zs) ∧
    rrs = (z :: zs).map (·.toRR nsd)

theorem VerdictFrom.empty (recs : RecMap) (name : Name) (qtype : Nat) (nsd : Name) {zr : ZoneResult}
    (h : zr = .nameError ∨ zr = .panic) : VerdictFrom recs name qtype nsd zr := by
  rcases h with rfl | rfl <;> exact ⟨nofun, nofun, nofun, nofun⟩

theorem VerdictFrom.nsSet (recs : RecMap) (name : Name) (qtype : Nat) (nsd : Name) {z : ZoneRecord}
    {zs : List ZoneRecord} (hg : recs.get RT_NS = some (z :: zs)) :
    VerdictFrom recs name qtype nsd (.delegation ((z :: zs).map (·.toRR nsd))) :=
  ⟨nofun, nofun, nofun, fun _ h => ⟨z, zs, hg, (ZoneResult.delegation.inj h).symm⟩⟩

theorem VerdictFrom.helper (name : Name) (qtype : Nat) (recs : RecMap) (nsd : Name) (cd : Bool) :
    VerdictFrom recs name qtype nsd (zoneResultHelper name qtype recs nsd cd) := by
  rw [zoneResultHelper_eq]
  split
  · rename_i hd
    simp only [Bool.and_eq_true, Bool.not_eq_true', List.isEmpty_eq_false_iff] at hd
    obtain ⟨z, zs, hg, hns⟩ := nsOf_ne_nil hd.2
    rw [hns]
    exact .nsSet recs name qtype nsd hg
  · rw [helperData]
    rcases cnameOf_cases name qtype recs with hc | ⟨_, _, _, _, hc⟩ | ⟨z, zs, c, hg, hf, hm, hc⟩ <;> rw [hc]
    · show VerdictFrom recs name qtype nsd (answerOf name qtype recs)
      obtain ⟨r, hr⟩ := answerOf_is_answer name qtype recs
      refine ⟨fun rrs h => (answerOf_answer name qtype recs rrs h).1, fun rrs h hq hne => ?_,
        fun c rr h => ?_, fun rrs h => ?_⟩
      · have he := (answerOf_answer name qtype recs rrs h).2 hq
        cases hg : recs.get qtype with
        | none => rw [hg] at he; exact absurd he hne
        | some zrs => rw [hg] at he; exact ⟨zrs, rfl, he⟩
      · rw [hr] at h; cases h
      · rw [hr] at h; cases h
    · exact .empty recs name qtype nsd (Or.inr rfl)
    · exact ⟨nofun, nofun, fun c' rr h => by cases h; exact ⟨z, zs, hg, hf, rfl, hm⟩, nofun⟩

def ZNode.Stores (node : ZNode) (recs : RecMap) : Prop :=
  ∃ p n, node.descend p = some n ∧ (recs = n.this ∨ n.wildcards = some recs)

theorem ZNode.forall_stores_iff {node : ZNode} {P : RecMap → Prop} :
    (∀ recs, node.Stores recs → P recs) ↔
      ∀ p n, node.descend p = some n → P n.this ∧ ∀ ws, n.wildcards = some ws → P ws :=
  ⟨fun h p n hd => ⟨h _ ⟨p, n, hd, Or.inl rfl⟩, fun _ hw => h _ ⟨p, n, hd, Or.inr hw⟩⟩,
   fun h recs ⟨p, n, hd, hr⟩ => hr.elim (fun e => e ▸ (h p n hd).1) ((h p n hd).2 recs)⟩

theorem ZNode.resolve_from (node : ZNode) (name : Name) (qtype : Nat) (rel : List Label) (isApex : Bool) :
    ∃ recs nsd, node.Stores recs ∧ VerdictFrom recs name qtype nsd (node.resolve name qtype rel isApex) := by
  rcases node.resolve_cases name qtype rel isApex with ⟨n, hn, he⟩ | ⟨-, _, lbl, suf, n, _, hn, _, he⟩
  · exact ⟨n.this, n.nsdname, ⟨_, n, hn, Or.inl rfl⟩, he ▸ .helper name qtype n.this n.nsdname _⟩
  · -- the descent stopped at `n`: its wildcard map answers, or its NS set refers, or nothing does
    have hown : node.Stores n.this := ⟨_, n, hn, Or.inl rfl⟩
    rw [he]
    cases hw : n.wildcards with
    | some ws =>
      rw [ZNode.stopResult_wild hw]
      cases Name.fromLabels (lbl :: n.nsdname.labels) with
      | some nsd => exact ⟨ws, nsd, ⟨_, n, hn, Or.inr hw⟩, .helper name qtype ws nsd true⟩
      | none => exact ⟨n.this, name, hown, .empty _ _ _ _ (Or.inr rfl)⟩
    | none =>
      rw [ZNode.stopResult_noWild hw]
      split
      · exact ⟨n.this, name, hown, .empty _ _ _ _ (Or.inl rfl)⟩
      · rename_i hc
        obtain ⟨z, zs, hg, hns⟩ := nsOf_ne_nil fun e => hc (Or.inr e)
        rw [hns]
        exact ⟨n.this, n.nsdname, hown, .nsSet n.this name qtype n.nsdname hg⟩

/-- A referral is the NS set of the own map of a node other than the apex, under that node's name;
    the other disjunct, `n.wildcards ≠ none`, leaves open what comes out where the descent stops at a
    node with a wildcard map. -/
theorem ZNode.resolve_delegation {node : ZNode} {name : Name} {qtype : Nat} {rel : List Label}
    {isApex : Bool} {rrs : List RR} (h : node.resolve name qtype rel isApex = .delegation rrs) :
    ∃ p n, node.descend p = some n ∧
      ((∃ z zs, n.this.get RT_NS = some (z :: zs) ∧ rrs = (z :: zs).map (·.toRR n.nsdname) ∧
          (p = [] → isApex = false)) ∨ n.wildcards ≠ none) := by
  rcases node.resolve_cases name qtype rel isApex with ⟨n, hn, he⟩ | ⟨-, _, lbl, suf, n, _, hn, _, he⟩
  · rw [he] at h
    obtain ⟨hcd, _, z, zs, hg, he⟩ := (zoneResultHelper_delegation_iff _ _ _ _ _ _).mp h
    exact ⟨_, n, hn, Or.inl ⟨z, zs, hg, he,
      fun hp => by simpa [List.reverse_eq_nil_iff.mp hp] using hcd⟩⟩
  · refine ⟨_, n, hn, ?_⟩
    cases hw : n.wildcards with
    | some _ => exact Or.inr nofun
    | none =>
      rw [he, ZNode.stopResult_noWild hw] at h
      split at h
      · cases h
      · rename_i hc
        obtain ⟨z, zs, hg, hns⟩ := nsOf_ne_nil fun e => hc (Or.inr e)
        rw [hns] at h
        cases h
        exact Or.inl ⟨z, zs, hg, rfl,
          fun hp => by simpa [List.reverse_eq_nil_iff.mp hp] using fun ha => hc (Or.inl ha)⟩

mutual
/-- the Boolean check of `P` on every record map the tree stores (`fb_nodeAll_stores`). -/
def fb_nodeAll (P : RecMap → Bool) : ZNode → Bool
  | .mk _ this wild ch =>
    P this && (match wild with | some ws => P ws | none => true) && fb_childrenAll P ch
def fb_childrenAll (P : RecMap → Bool) : List (Label × ZNode) → Bool
  | [] => true
  | (_, c) :: rest => fb_nodeAll P c && fb_childrenAll P rest
end

theorem fb_childrenAll_mem (P : RecMap → Bool) : ∀ (ch : List (Label × ZNode)), fb_childrenAll P ch = true →
    ∀ kv ∈ ch, fb_nodeAll P kv.2 = true := by
  intro ch
  induction ch with
  | nil => intro _ kv h; cases h
  | cons x rest ih =>
    intro h kv hkv
    obtain ⟨l, c⟩ := x
    simp only [fb_childrenAll, Bool.and_eq_true] at h
    rcases List.mem_cons.mp hkv with rfl | hk
    · exact h.1
    · exact ih h.2 kv hk

theorem fb_nodeAll_descend (P : RecMap → Bool) : ∀ (p : List Label) (node n : ZNode),
    fb_nodeAll P node = true → node.descend p = some n →
    P n.this = true ∧ ∀ ws, n.wildcards = some ws → P ws = true := by
  intro p node n h hd
  have hn : fb_nodeAll P n = true :=
    ZNode.descend_closed (Q := fun n => fb_nodeAll P n = true) (fun {n l c} h hc => by
      cases n with
      | mk nsd this wild ch =>
        simp only [fb_nodeAll, Bool.and_eq_true] at h
        exact fb_childrenAll_mem P ch h.2 (l, c) (ZNode.mem_of_childGet hc)) p h hd
  cases n with
  | mk nsd this wild ch =>
    simp only [fb_nodeAll, Bool.and_eq_true] at hn
    exact ⟨hn.1.1, fun ws hws => by cases (show wild = some ws from hws); exact hn.1.2⟩

theorem fb_nodeAll_stores {P : RecMap → Bool} {node : ZNode} (h : fb_nodeAll P node = true) :
    ∀ recs, node.Stores recs → P recs = true :=
  ZNode.forall_stores_iff.mpr fun p n => fb_nodeAll_descend P p node n h

/-! ## `Zone::resolve`: one level above the tree -/

theorem Zone.relativeDomain_eq_some_iff {z : Zone} {name : Name} {rel : List Label} :
    z.relativeDomain name = some rel ↔ rel ++ z.apex.labels = name.labels := by
  unfold Zone.relativeDomain Name.isSubdomainOf
  constructor
  · intro h
    split at h
    · rename_i hs
      obtain ⟨t, ht⟩ := List.isSuffixOf_iff_suffix.mp hs
      rw [← Option.some.inj h, ← ht]
      simp
    · cases h
  · intro h
    rw [if_pos (List.isSuffixOf_iff_suffix.mpr ⟨rel, h⟩), ← h]
    simp

theorem Zone.relativeDomain_isSome {z : Zone} {name : Name} (h : name.isSubdomainOf z.apex = true) :
    ∃ rel, z.relativeDomain name = some rel :=
  (List.isSuffixOf_iff_suffix.mp h).imp fun _ => Zone.relativeDomain_eq_some_iff.mpr

theorem Zone.resolve_eq_some_iff {z : Zone} {name : Name} {qtype : Nat} {r : ZoneResult} :
    z.resolve name qtype = some r ↔
      ∃ rel, z.relativeDomain name = some rel ∧ z.records.resolve name qtype rel true = r := by
  rw [Zone.resolve, Option.map_eq_some_iff]

theorem Zone.resolve_isSome (z : Zone) (name : Name) (qtype : Nat) :
    (z.resolve name qtype).isSome = name.isSubdomainOf z.apex := by
  rw [Zone.resolve, Option.isSome_map, Zone.relativeDomain]
  cases name.isSubdomainOf z.apex <;> rfl

theorem Zone.resolve_from {z : Zone} {name : Name} {qtype : Nat} {zr : ZoneResult}
    (h : z.resolve name qtype = some zr) :
    ∃ recs nsd, z.records.Stores recs ∧ VerdictFrom recs name qtype nsd zr :=
  let ⟨rel, _, e⟩ := Zone.resolve_eq_some_iff.mp h
  e ▸ z.records.resolve_from name qtype rel true

theorem Zone.soaRR_eq_some_iff {z : Zone} {rr : RR} :
    z.soaRR = some rr ↔ ∃ s, z.soa = some s ∧ rr = s.toRR z.apex := by
  rw [Zone.soaRR, Option.map_eq_some_iff]
  exact exists_congr fun _ => and_congr Iff.rfl eq_comm

theorem Zone.soaRR_eq_none_iff {z : Zone} : z.soaRR = none ↔ z.soa = none := by
  rw [Zone.soaRR, Option.map_eq_none_iff]

/-! ## `Zones` -/

namespace Zones

theorem lookup_eq_al (l : List (Name × Zone)) (n : Name) : lookup l n = AL.get l n := by
  induction l with
  | nil => rfl
  | cons kv rest ih => rw [lookup, AL.get, ih]

theorem setZone_eq_al (l : List (Name × Zone)) (n : Name) (z : Zone) :
    setZone l n z = AL.set l n z := by
  induction l with
  | nil => rfl
  | cons kv rest ih =>
    rw [setZone, AL.set, ih]
    split
    · rename_i h; rw [h]
    · rfl

theorem lookup_mem {l : List (Name × Zone)} {n : Name} {z : Zone} (h : lookup l n = some z) :
    (n, z) ∈ l :=
  AL.mem_of_get (lookup_eq_al l n ▸ h)

theorem mem_setZone {l : List (Name × Zone)} {n k : Name} {v z : Zone} (h : (k, z) ∈ setZone l n v) :
    (k, z) ∈ l ∨ (k = n ∧ z = v) :=
  (AL.eq_or_mem_of_mem_set (setZone_eq_al l n v ▸ h)).symm.imp_right Prod.mk.inj

theorem lookup_setZone (l : List (Name × Zone)) (n k : Name) (v : Zone) :
    lookup (setZone l n v) k = if n = k then some v else lookup l k := by
  rw [setZone_eq_al, lookup_eq_al, lookup_eq_al, AL.get_set_comm]

theorem lookup_insert (zs : Zones) (z : Zone) (k : Name) :
    lookup (zs.insert z).zones k = if z.apex = k then some z else lookup zs.zones k :=
  lookup_setZone _ _ _ _

end Zones

/-- the `for i in 0..len` loop of `Zones::get`: the first (longest) suffix that names a configured
    zone wins. -/
theorem Zones.getLoop_some (zs : Zones) : ∀ (ls : List Label) (z : Zone), zs.getLoop ls = some z →
    ∃ suf n, suf <:+ ls ∧ suf ≠ [] ∧ Name.fromLabels suf = some n ∧ Zones.lookup zs.zones n = some z ∧
      ∀ suf', suf' <:+ ls → suf.length < suf'.length →
        (Name.fromLabels suf').bind (Zones.lookup zs.zones) = none := by
  intro ls
  induction ls with
  | nil => intro z h; simp [Zones.getLoop] at h
  | cons l rest ih =>
    intro z h
    simp only [Zones.getLoop] at h
    cases hb : (Name.fromLabels (l :: rest)).bind (Zones.lookup zs.zones) with
    | some z' =>
      rw [hb] at h
      simp only [Option.some.injEq] at h; subst h
      cases hf : Name.fromLabels (l :: rest) with
      | none => simp [hf] at hb
      | some n =>
        simp only [hf, Option.bind_some] at hb
        refine ⟨l :: rest, n, List.suffix_refl _, by simp, hf, hb, ?_⟩
        intro suf' hs hlen
        have := hs.length_le
        omega
    | none =>
      rw [hb] at h
      obtain ⟨suf, n, hs, hne, hf, hl, hmax⟩ := ih z h
      refine ⟨suf, n, List.suffix_cons_iff.mpr (Or.inr hs), hne, hf, hl, ?_⟩
      intro suf' hs' hlen
      rcases List.suffix_cons_iff.mp hs' with rfl | hs'
      · exact hb
      · exact hmax suf' hs' hlen

theorem Zones.get_mem {zs : Zones} {name : Name} {z : Zone} (h : zs.get name = some z) :
    ∃ k, Zones.lookup zs.zones k = some z := by
  obtain ⟨_, n, _, _, _, hl, _⟩ := Zones.getLoop_some zs name.labels z h
  exact ⟨n, hl⟩

theorem Zones.resolve_eq_some_iff {zs : Zones} {name : Name} {qtype : Nat} {z : Zone} {o : Option ZoneResult} :
    zs.resolve name qtype = some (z, o) ↔ zs.get name = some z ∧ o = z.resolve name qtype := by
  unfold Zones.resolve
  cases zs.get name with
  | none => exact ⟨nofun, fun h => nomatch h.1⟩
  | some z' =>
    simp only [Option.map_some, Option.some.injEq, Prod.mk.injEq]
    exact ⟨fun h => ⟨h.1, h.1 ▸ h.2.symm⟩, fun h => ⟨h.1, h.1 ▸ h.2.symm⟩⟩

theorem Zones.resolve_from {zs : Zones} {name : Name} {qtype : Nat} {z : Zone} {zr : ZoneResult}
    (h : zs.resolve name qtype = some (z, some zr)) :
    zs.get name = some z ∧ ∃ recs nsd, z.records.Stores recs ∧ VerdictFrom recs name qtype nsd zr :=
  let ⟨hg, ho⟩ := Zones.resolve_eq_some_iff.mp h
  ⟨hg, Zone.resolve_from ho.symm⟩

end Resolved
