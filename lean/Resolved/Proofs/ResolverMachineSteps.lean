/-
  The machines one step at a time.  The bodies of the mutual block and of `resolveFwd` are cut into small named
  pieces, each a verbatim fragment of the model text (`recUpstream`, `loopQuery`, `loopAfterReply`, `loopNoAddr`,
  `lookupStep`, `fwdAlias`, `fwdUpstream`, …); one step equation per function (`*_succ`, `*_cons`), each followed
  by its branches as lemmas and by the fuel-0 equation; the 60 s wrappers.  The entry `resolveRec` and `resolveFwd`
  share (three guards, the local lookup) is `machineEntry`: its six branches and its case principle are stated once.
-/
import Resolved.Proofs.NameLemmas
import Resolved.Proofs.ResolverMachine

namespace Resolved

open Gen

/-! ## `resolveRec`, `candidateLoop`, `resolveCombined` one step at a time -/

/-- the RRs already known when the upstream part starts (`combined_rrs`). -/
def initialCombined : Except ResolutionError LocalResult → List RR
  | .ok (.partialAnswer rrs) => rrs
  | _ => []

/-- the first candidate nameservers: the local delegation, else `candidate_nameservers`. -/
def initialCandidates (st2 : St) (q : Question) : Except ResolutionError LocalResult → St × Option Nameservers
  | .ok (.delegation _ _ d) => (st2, some d)
  | _ => candidateNameservers st2 q.name.labels

/-- the upstream part of `resolveRec` (question already pushed). -/
def recUpstream (cfg : RecCfg) (fuel : Nat) (st2 : St) (q : Question)
    (other : Except ResolutionError LocalResult) : St × Except ResolutionError ResolvedRecord :=
  match (initialCandidates st2 q other).2 with
  | none =>
    (⟨(initialCandidates st2 q other).1.ctx.pop, (initialCandidates st2 q other).1.run⟩, .error (.deadEnd q))
  | some c =>
    (⟨(candidateLoop cfg fuel (initialCandidates st2 q other).1 q (initialCombined other) c.matchCount
          c.hostnames [] true).1.ctx.pop,
      (candidateLoop cfg fuel (initialCandidates st2 q other).1 q (initialCombined other) c.matchCount
          c.hostnames [] true).1.run⟩,
     (candidateLoop cfg fuel (initialCandidates st2 q other).1 q (initialCombined other) c.matchCount
          c.hostnames [] true).2)

/-- the entry of `resolve_recursive_notimeout` and of `resolve_forwarding_notimeout`, the same text in both: three
    guards, each ending the call, then the local lookup; a finished local result is returned, `alias` and `other`
    are what the machine goes on with after a local alias and after any other local outcome. -/
def machineEntry (st : St) (q : Question) (alias : List RR → Question → St × Except ResolutionError ResolvedRecord)
    (other : Except ResolutionError LocalResult → St × Except ResolutionError ResolvedRecord) :
    St × Except ResolutionError ResolvedRecord :=
  if st.run.timedOut then (st, .error .timeout)
  else if st.ctx.atRecursionLimit then (st, .error .recursionLimit)
  else if st.ctx.isDuplicate q then (st, .error (.duplicateQuestion q))
  else
    match (resolveLocal (RECURSION_LIMIT + 1) st.ctx q).2 with
    | .ok (.done resolved) => (⟨(resolveLocal (RECURSION_LIMIT + 1) st.ctx q).1, st.run⟩, .ok resolved)
    | .ok (.cname rrs cq) => alias rrs cq
    | o => other o

section Entry

variable {st : St} {q : Question} {alias : List RR → Question → St × Except ResolutionError ResolvedRecord}
  {other : Except ResolutionError LocalResult → St × Except ResolutionError ResolvedRecord}

theorem machineEntry_timedOut (ht : st.run.timedOut = true) : machineEntry st q alias other = (st, .error .timeout) := by
  rw [machineEntry, if_pos ht]

theorem machineEntry_atLimit (ht : st.run.timedOut = false) (hl : st.ctx.stack.length = RECURSION_LIMIT) :
    machineEntry st q alias other = (st, .error .recursionLimit) := by
  rw [machineEntry, ht, if_pos (Ctx.atRecursionLimit_iff.mpr hl)]
  rfl

theorem machineEntry_duplicate (ht : st.run.timedOut = false) (hl : st.ctx.stack.length ≠ RECURSION_LIMIT)
    (hd : q ∈ st.ctx.stack) : machineEntry st q alias other = (st, .error (.duplicateQuestion q)) := by
  rw [machineEntry, ht, Ctx.atRecursionLimit_eq_false.mpr hl, if_pos (Ctx.isDuplicate_iff.mpr hd)]
  rfl

theorem machineEntry_local_done {res : ResolvedRecord} (ht : st.run.timedOut = false)
    (h : (resolveLocal (RECURSION_LIMIT + 1) st.ctx q).2 = .ok (.done res)) :
    machineEntry st q alias other = (⟨(resolveLocal (RECURSION_LIMIT + 1) st.ctx q).1, st.run⟩, .ok res) := by
  obtain ⟨hl, hd⟩ := resolveLocal_ok_guards h
  rw [machineEntry, ht, hl, hd, h]
  rfl

theorem machineEntry_local_alias {rrs : List RR} {cq : Question} (ht : st.run.timedOut = false)
    (h : (resolveLocal (RECURSION_LIMIT + 1) st.ctx q).2 = .ok (.cname rrs cq)) :
    machineEntry st q alias other = alias rrs cq := by
  obtain ⟨hl, hd⟩ := resolveLocal_ok_guards h
  rw [machineEntry, ht, hl, hd, h]
  rfl

theorem machineEntry_other (ht : st.run.timedOut = false) (hl : st.ctx.stack.length ≠ RECURSION_LIMIT)
    (hd : q ∉ st.ctx.stack) (hdone : ∀ r, (resolveLocal (RECURSION_LIMIT + 1) st.ctx q).2 ≠ .ok (.done r))
    (halias : ∀ rrs cq, (resolveLocal (RECURSION_LIMIT + 1) st.ctx q).2 ≠ .ok (.cname rrs cq)) :
    machineEntry st q alias other = other (resolveLocal (RECURSION_LIMIT + 1) st.ctx q).2 := by
  rw [machineEntry, ht, Ctx.atRecursionLimit_eq_false.mpr hl, Ctx.isDuplicate_eq_false.mpr hd]
  -- `simp` discharges the first two arms of the `match` by `hdone` and `halias`
  simp only [Bool.false_eq_true, if_false]

end Entry

/-- the guards in the words of the question stack; in `goOn`, the stack of the context the local lookup returns
    (it is that of the one given).  The alias branch and the remaining one are one case, `goOn`: both push the question
    onto that context, so they share its guards; `done` returns without pushing and carries none. -/
theorem machineEntry_cases {motive : St × Except ResolutionError ResolvedRecord → Prop} (st : St) (q : Question)
    (alias : List RR → Question → St × Except ResolutionError ResolvedRecord)
    (other : Except ResolutionError LocalResult → St × Except ResolutionError ResolvedRecord)
    (timedOut : st.run.timedOut = true → motive (st, .error .timeout))
    (atLimit : st.run.timedOut = false → st.ctx.stack.length = RECURSION_LIMIT → motive (st, .error .recursionLimit))
    (duplicate : st.run.timedOut = false → st.ctx.stack.length ≠ RECURSION_LIMIT → q ∈ st.ctx.stack →
      motive (st, .error (.duplicateQuestion q)))
    (done : ∀ res, st.run.timedOut = false → (resolveLocal (RECURSION_LIMIT + 1) st.ctx q).2 = .ok (.done res) →
      motive (⟨(resolveLocal (RECURSION_LIMIT + 1) st.ctx q).1, st.run⟩, .ok res))
    (goOn : st.run.timedOut = false → (resolveLocal (RECURSION_LIMIT + 1) st.ctx q).1.stack.length ≠ RECURSION_LIMIT →
      q ∉ (resolveLocal (RECURSION_LIMIT + 1) st.ctx q).1.stack →
      (∀ rrs cq, (resolveLocal (RECURSION_LIMIT + 1) st.ctx q).2 = .ok (.cname rrs cq) → motive (alias rrs cq)) ∧
      ((∀ r, (resolveLocal (RECURSION_LIMIT + 1) st.ctx q).2 ≠ .ok (.done r)) →
        (∀ rrs cq, (resolveLocal (RECURSION_LIMIT + 1) st.ctx q).2 ≠ .ok (.cname rrs cq)) →
        motive (other (resolveLocal (RECURSION_LIMIT + 1) st.ctx q).2))) :
    motive (machineEntry st q alias other) := by
  cases ht : st.run.timedOut with
  | true => rw [machineEntry_timedOut ht]; exact timedOut ht
  | false =>
  by_cases hl : st.ctx.stack.length = RECURSION_LIMIT
  · rw [machineEntry_atLimit ht hl]; exact atLimit ht hl
  by_cases hd : q ∈ st.ctx.stack
  · rw [machineEntry_duplicate ht hl hd]; exact duplicate ht hl hd
  have go := goOn ht (by rwa [resolveLocal_stack]) (by rwa [resolveLocal_stack])
  by_cases h1 : ∃ r, (resolveLocal (RECURSION_LIMIT + 1) st.ctx q).2 = .ok (.done r)
  · obtain ⟨r, h1⟩ := h1
    rw [machineEntry_local_done ht h1]; exact done r ht h1
  by_cases h2 : ∃ rrs cq, (resolveLocal (RECURSION_LIMIT + 1) st.ctx q).2 = .ok (.cname rrs cq)
  · obtain ⟨rrs, cq, h2⟩ := h2
    rw [machineEntry_local_alias ht h2]; exact go.1 rrs cq h2
  · have h1' := fun r h => h1 ⟨r, h⟩
    have h2' := fun rrs cq h => h2 ⟨rrs, cq, h⟩
    rw [machineEntry_other ht hl hd h1' h2']; exact go.2 h1' h2'

theorem resolveRec_succ (cfg : RecCfg) (fuel : Nat) (st : St) (q : Question) :
    resolveRec cfg (fuel + 1) st q =
      machineEntry st q
        (fun rrs cq =>
          (⟨(resolveCombined cfg fuel ⟨(resolveLocal (RECURSION_LIMIT + 1) st.ctx q).1.push q, st.run⟩ rrs cq).1.ctx.pop,
            (resolveCombined cfg fuel ⟨(resolveLocal (RECURSION_LIMIT + 1) st.ctx q).1.push q, st.run⟩ rrs cq).1.run⟩,
           (resolveCombined cfg fuel ⟨(resolveLocal (RECURSION_LIMIT + 1) st.ctx q).1.push q, st.run⟩ rrs cq).2))
        (recUpstream cfg fuel ⟨(resolveLocal (RECURSION_LIMIT + 1) st.ctx q).1.push q, st.run⟩ q) := by
  rw [resolveRec, machineEntry]
  generalize resolveLocal (RECURSION_LIMIT + 1) st.ctx q = p
  obtain ⟨ctx1, loc⟩ := p
  cases loc with
  | error e => rfl
  | ok lr => cases lr <;> rfl

theorem resolveRec_zero (cfg : RecCfg) (st : St) (q : Question) :
    resolveRec cfg 0 st q = (st, .error .outOfFuel) := by
  rw [resolveRec]

theorem resolveRec_local_error {cfg : RecCfg} {fuel : Nat} {st : St} {q : Question} {e : ResolutionError}
    (ht : st.run.timedOut = false) (hl : st.ctx.stack.length ≠ RECURSION_LIMIT) (hd : q ∉ st.ctx.stack)
    (h : (resolveLocal (RECURSION_LIMIT + 1) st.ctx q).2 = .error e) :
    resolveRec cfg (fuel + 1) st q =
      recUpstream cfg fuel ⟨(resolveLocal (RECURSION_LIMIT + 1) st.ctx q).1.push q, st.run⟩ q (.error e) := by
  rw [resolveRec_succ, machineEntry_other ht hl hd (by rw [h]; nofun) (by rw [h]; nofun), h]

theorem recUpstream_found {cfg : RecCfg} {fuel : Nat} {st2 st3 : St} {q : Question}
    {other : Except ResolutionError LocalResult} {c : Nameservers} (h : initialCandidates st2 q other = (st3, some c)) :
    recUpstream cfg fuel st2 q other =
      (⟨(candidateLoop cfg fuel st3 q (initialCombined other) c.matchCount c.hostnames [] true).1.ctx.pop,
        (candidateLoop cfg fuel st3 q (initialCombined other) c.matchCount c.hostnames [] true).1.run⟩,
       (candidateLoop cfg fuel st3 q (initialCombined other) c.matchCount c.hostnames [] true).2) := by
  unfold recUpstream
  rw [h]

theorem recUpstream_none {cfg : RecCfg} {fuel : Nat} {st2 st3 : St} {q : Question}
    {other : Except ResolutionError LocalResult} (h : initialCandidates st2 q other = (st3, none)) :
    recUpstream cfg fuel st2 q other = (⟨st3.ctx.pop, st3.run⟩, .error (.deadEnd q)) := by
  unfold recUpstream
  rw [h]

theorem recUpstream_cases (cfg : RecCfg) (fuel : Nat) (st2 : St) (q : Question)
    (other : Except ResolutionError LocalResult) :
    (∃ st3, initialCandidates st2 q other = (st3, none) ∧
      recUpstream cfg fuel st2 q other = (⟨st3.ctx.pop, st3.run⟩, .error (.deadEnd q))) ∨
    ∃ st3 c, initialCandidates st2 q other = (st3, some c) ∧
      recUpstream cfg fuel st2 q other =
        (⟨(candidateLoop cfg fuel st3 q (initialCombined other) c.matchCount c.hostnames [] true).1.ctx.pop,
          (candidateLoop cfg fuel st3 q (initialCombined other) c.matchCount c.hostnames [] true).1.run⟩,
         (candidateLoop cfg fuel st3 q (initialCombined other) c.matchCount c.hostnames [] true).2) := by
  cases h : initialCandidates st2 q other with
  | mk st3 cand =>
    cases cand with
    | none => exact Or.inl ⟨st3, rfl, recUpstream_none h⟩
    | some c => exact Or.inr ⟨st3, c, rfl, recUpstream_found h⟩

theorem initialCandidates_cases (st2 : St) (q : Question) (other : Except ResolutionError LocalResult) :
    (∃ rrs soa d, other = .ok (.delegation rrs soa d) ∧ initialCandidates st2 q other = (st2, some d)) ∨
    initialCandidates st2 q other = candidateNameservers st2 q.name.labels := by
  unfold initialCandidates
  split
  · exact Or.inl ⟨_, _, _, rfl, rfl⟩
  · exact Or.inr rfl

/-- the glue short-cut of the referral branch. -/
def glueFor (q : Question) (rrs : List RR) : Option RR :=
  if q.qtype == RT_A then getRecord rrs q.name RT_A
  else if q.qtype == RT_AAAA then getRecord rrs q.name RT_AAAA
  else none

/-- what the short-cut picks: a record of the list, owned by the question name, of the type asked, and only for
    address questions. -/
theorem glueFor_some {q : Question} {rrs : List RR} {rr : RR} (h : glueFor q rrs = some rr) :
    rr ∈ rrs ∧ rr.name = q.name ∧ rr.rtype = q.qtype ∧ (q.qtype = RT_A ∨ q.qtype = RT_AAAA) := by
  unfold glueFor at h
  split at h
  · rename_i ht
    have := getRecord_some h
    exact ⟨this.1, this.2.1, this.2.2.trans (beq_iff_eq.mp ht).symm, Or.inl (beq_iff_eq.mp ht)⟩
  · split at h
    · rename_i ht
      have := getRecord_some h
      exact ⟨this.1, this.2.1, this.2.2.trans (beq_iff_eq.mp ht).symm, Or.inr (beq_iff_eq.mp ht)⟩
    · cases h

/-- what the loop does with the filtered reply of the server asked. -/
def loopAfterReply (cfg : RecCfg) (fuel : Nat) (st2 : St) (q : Question) (combined : List RR) :
    Option NameserverResponse → St × Except ResolutionError ResolvedRecord
  | some (.answer rrs soaRR) =>
    (⟨st2.ctx.cacheInsertAll rrs, st2.run⟩, .ok (.nonAuthoritative (prioritisingMerge combined rrs) soaRR))
  | some (.delegation rrs hostnames name) =>
    match glueFor q rrs with
    | some rr => (⟨st2.ctx.cacheInsertAll rrs, st2.run⟩, .ok (.nonAuthoritative (prioritisingMerge combined [rr]) none))
    | none =>
      candidateLoop cfg fuel ⟨st2.ctx.cacheInsertAll rrs, st2.run⟩ q combined name.labels.length
        (cfg.hostOrder hostnames) [] true
  | some (.cname rrs cname) =>
    resolveCombined cfg fuel ⟨st2.ctx.cacheInsertAll rrs, st2.run⟩ (prioritisingMerge combined rrs)
      { name := cname, qclass := q.qclass, qtype := q.qtype }
  | none => (st2, .error (.deadEnd q))

/-- the candidate has the address `addr`: its server is asked. -/
def loopQuery (cfg : RecCfg) (fuel : Nat) (st1 : St) (q : Question) (combined : List RR) (mc : Nat)
    (addr : FieldVal) : St × Except ResolutionError ResolvedRecord :=
  if (queryNameserver cfg.oracle st1.run addr cfg.port q false).1.timedOut then
    (⟨st1.ctx, (queryNameserver cfg.oracle st1.run addr cfg.port q false).1⟩, .error .timeout)
  else
    loopAfterReply cfg fuel ⟨st1.ctx, (queryNameserver cfg.oracle st1.run addr cfg.port q false).1⟩ q combined
      ((queryNameserver cfg.oracle st1.run addr cfg.port q false).2.bind
        (fun res => validateNameserverResponse q res mc))

/-- no address for the candidate: next candidate (or switch to recursive address lookups). -/
def loopNoAddr (cfg : RecCfg) (fuel : Nat) (st1 : St) (q : Question) (combined : List RR) (mc : Nat)
    (candidate : Name) (rest next : List Name) (locally : Bool) : St × Except ResolutionError ResolvedRecord :=
  if locally then
    if rest.isEmpty then candidateLoop cfg fuel st1 q combined mc (next ++ [candidate]) [] false
    else candidateLoop cfg fuel st1 q combined mc rest (next ++ [candidate]) true
  else candidateLoop cfg fuel st1 q combined mc rest next false

theorem loopAfterReply_answer (cfg : RecCfg) (fuel : Nat) (st2 : St) (q : Question) (combined rrs : List RR)
    (soa : Option RR) :
    loopAfterReply cfg fuel st2 q combined (some (.answer rrs soa)) =
      (⟨st2.ctx.cacheInsertAll rrs, st2.run⟩, .ok (.nonAuthoritative (prioritisingMerge combined rrs) soa)) := rfl

theorem loopAfterReply_glue (cfg : RecCfg) (fuel : Nat) (st2 : St) {q : Question} (combined : List RR)
    {rrs : List RR} (hosts : List Name) (zone : Name) {rr : RR} (h : glueFor q rrs = some rr) :
    loopAfterReply cfg fuel st2 q combined (some (.delegation rrs hosts zone)) =
      (⟨st2.ctx.cacheInsertAll rrs, st2.run⟩, .ok (.nonAuthoritative (prioritisingMerge combined [rr]) none)) := by
  simp only [loopAfterReply, h]

theorem loopAfterReply_follow (cfg : RecCfg) (fuel : Nat) (st2 : St) {q : Question} (combined : List RR)
    {rrs : List RR} (hosts : List Name) (zone : Name) (h : glueFor q rrs = none) :
    loopAfterReply cfg fuel st2 q combined (some (.delegation rrs hosts zone)) =
      candidateLoop cfg fuel ⟨st2.ctx.cacheInsertAll rrs, st2.run⟩ q combined zone.labels.length
        (cfg.hostOrder hosts) [] true := by
  simp only [loopAfterReply, h]

theorem loopAfterReply_alias (cfg : RecCfg) (fuel : Nat) (st2 : St) (q : Question) (combined rrs : List RR)
    (cname : Name) :
    loopAfterReply cfg fuel st2 q combined (some (.cname rrs cname)) =
      resolveCombined cfg fuel ⟨st2.ctx.cacheInsertAll rrs, st2.run⟩ (prioritisingMerge combined rrs)
        { name := cname, qclass := q.qclass, qtype := q.qtype } := rfl

theorem loopQuery_timedOut {cfg : RecCfg} {fuel : Nat} {st1 : St} {q : Question} {combined : List RR} {mc : Nat}
    {addr : FieldVal} (h : (queryNameserver cfg.oracle st1.run addr cfg.port q false).1.timedOut = true) :
    loopQuery cfg fuel st1 q combined mc addr =
      (⟨st1.ctx, (queryNameserver cfg.oracle st1.run addr cfg.port q false).1⟩, .error .timeout) := by
  unfold loopQuery
  rw [if_pos h]

theorem loopQuery_live {cfg : RecCfg} {fuel : Nat} {st1 : St} {q : Question} {combined : List RR} {mc : Nat}
    {addr : FieldVal} (h : (queryNameserver cfg.oracle st1.run addr cfg.port q false).1.timedOut = false) :
    loopQuery cfg fuel st1 q combined mc addr =
      loopAfterReply cfg fuel ⟨st1.ctx, (queryNameserver cfg.oracle st1.run addr cfg.port q false).1⟩ q combined
        ((queryNameserver cfg.oracle st1.run addr cfg.port q false).2.bind
          (fun res => validateNameserverResponse q res mc)) := by
  unfold loopQuery
  rw [if_neg (by rw [h]; exact Bool.false_ne_true)]

theorem loopQuery_reply {cfg : RecCfg} {f : Nat} {st1 : St} {q : Question} {combined : List RR} {mc : Nat}
    {addr : FieldVal} {run2 : Run} {m : Message}
    (hq : queryNameserver cfg.oracle st1.run addr cfg.port q false = (run2, some m)) (hlive2 : run2.timedOut = false) :
    loopQuery cfg f st1 q combined mc addr =
      loopAfterReply cfg f ⟨st1.ctx, run2⟩ q combined (validateNameserverResponse q m mc) := by
  unfold loopQuery
  rw [hq]
  simp only [hlive2, Bool.false_eq_true, if_false, Option.bind_some]

theorem loopNoAddr_skipFast {cfg : RecCfg} {fuel : Nat} {st1 : St} {q : Question} {combined : List RR} {mc : Nat}
    {candidate : Name} {rest next : List Name} (h : rest.isEmpty = false) :
    loopNoAddr cfg fuel st1 q combined mc candidate rest next true =
      candidateLoop cfg fuel st1 q combined mc rest (next ++ [candidate]) true := by
  simp only [loopNoAddr, h, if_true, Bool.false_eq_true, if_false]

theorem loopNoAddr_switchSlow {cfg : RecCfg} {fuel : Nat} {st1 : St} {q : Question} {combined : List RR} {mc : Nat}
    {candidate : Name} {rest next : List Name} (h : rest.isEmpty = true) :
    loopNoAddr cfg fuel st1 q combined mc candidate rest next true =
      candidateLoop cfg fuel st1 q combined mc (next ++ [candidate]) [] false := by
  simp only [loopNoAddr, h, if_true]

theorem loopNoAddr_loop (cfg : RecCfg) (fuel : Nat) (st1 : St) (q : Question) (combined : List RR) (mc : Nat)
    (candidate : Name) (rest next : List Name) (locally : Bool) :
    ∃ cands' next' locally', loopNoAddr cfg fuel st1 q combined mc candidate rest next locally =
      candidateLoop cfg fuel st1 q combined mc cands' next' locally' := by
  cases locally with
  | false => exact ⟨_, _, _, rfl⟩
  | true =>
    cases h : rest.isEmpty with
    | true => exact ⟨_, _, _, loopNoAddr_switchSlow h⟩
    | false => exact ⟨_, _, _, loopNoAddr_skipFast h⟩

theorem candidateLoop_zero (cfg : RecCfg) (st : St) (q : Question) (combined : List RR) (mc : Nat)
    (cands next : List Name) (locally : Bool) :
    candidateLoop cfg 0 st q combined mc cands next locally = (st, .error .outOfFuel) := by
  rw [candidateLoop]

theorem candidateLoop_succ (cfg : RecCfg) (fuel : Nat) (st : St) (q : Question) (combined : List RR)
    (mc : Nat) (cands next : List Name) (locally : Bool) :
    candidateLoop cfg (fuel + 1) st q combined mc cands next locally =
      if st.run.timedOut then (st, .error .timeout)
      else
        match cands.getLast? with
        | none => (st, .error (.deadEnd q))
        | some candidate =>
          if (tryTypes cfg fuel st locally candidate (rtypesFor cfg.mode)).1.run.timedOut then
            ((tryTypes cfg fuel st locally candidate (rtypesFor cfg.mode)).1, .error .timeout)
          else
            match (tryTypes cfg fuel st locally candidate (rtypesFor cfg.mode)).2 with
            | some addr =>
              loopQuery cfg fuel (tryTypes cfg fuel st locally candidate (rtypesFor cfg.mode)).1 q combined mc addr
            | none =>
              loopNoAddr cfg fuel (tryTypes cfg fuel st locally candidate (rtypesFor cfg.mode)).1 q combined mc
                candidate cands.dropLast next locally := by
  rw [candidateLoop]
  cases cands.getLast? with
  | none => rfl
  | some candidate =>
    simp only [loopQuery]
    generalize tryTypes cfg fuel st locally candidate (rtypesFor cfg.mode) = p
    obtain ⟨st1, ip⟩ := p
    cases ip with
    | none => rfl
    | some addr =>
      simp only []
      generalize queryNameserver cfg.oracle st1.run addr cfg.port q false = qn
      obtain ⟨run2, reply⟩ := qn
      cases (reply.bind fun res => validateNameserverResponse q res mc) with
      | none => rfl
      | some resp => cases resp <;> rfl

theorem candidateLoop_cases {motive : St × Except ResolutionError ResolvedRecord → Prop}
    (cfg : RecCfg) (f : Nat) (st : St) (q : Question) (combined : List RR) (mc : Nat) (cands next : List Name)
    (locally : Bool)
    (timedOut : st.run.timedOut = true → motive (st, .error .timeout))
    (noCandidate : st.run.timedOut = false → cands.getLast? = none → motive (st, .error (.deadEnd q)))
    (lookupTimedOut : ∀ c st1 ip, st.run.timedOut = false → cands.getLast? = some c →
      tryTypes cfg f st locally c (rtypesFor cfg.mode) = (st1, ip) → st1.run.timedOut = true →
      motive (st1, .error .timeout))
    (noAddr : ∀ c st1, st.run.timedOut = false → cands.getLast? = some c →
      tryTypes cfg f st locally c (rtypesFor cfg.mode) = (st1, none) → st1.run.timedOut = false →
      motive (loopNoAddr cfg f st1 q combined mc c cands.dropLast next locally))
    (queryTimedOut : ∀ c st1 addr, st.run.timedOut = false → cands.getLast? = some c →
      tryTypes cfg f st locally c (rtypesFor cfg.mode) = (st1, some addr) → st1.run.timedOut = false →
      (queryNameserver cfg.oracle st1.run addr cfg.port q false).1.timedOut = true →
      motive (⟨st1.ctx, (queryNameserver cfg.oracle st1.run addr cfg.port q false).1⟩, .error .timeout))
    (reply : ∀ c st1 addr, st.run.timedOut = false → cands.getLast? = some c →
      tryTypes cfg f st locally c (rtypesFor cfg.mode) = (st1, some addr) → st1.run.timedOut = false →
      (queryNameserver cfg.oracle st1.run addr cfg.port q false).1.timedOut = false →
      motive (loopAfterReply cfg f ⟨st1.ctx, (queryNameserver cfg.oracle st1.run addr cfg.port q false).1⟩ q combined
        ((queryNameserver cfg.oracle st1.run addr cfg.port q false).2.bind
          (fun res => validateNameserverResponse q res mc)))) :
    motive (candidateLoop cfg (f + 1) st q combined mc cands next locally) := by
  rw [candidateLoop_succ]
  cases ht : st.run.timedOut with
  | true => exact timedOut ht
  | false =>
  cases hcand : cands.getLast? with
  | none => exact noCandidate ht hcand
  | some cand =>
  simp only [Bool.false_eq_true, if_false]
  generalize hT : tryTypes cfg f st locally cand (rtypesFor cfg.mode) = p
  obtain ⟨st1, ip⟩ := p
  cases ht1 : st1.run.timedOut with
  | true => exact lookupTimedOut _ _ _ ht hcand hT ht1
  | false =>
  simp only [Bool.false_eq_true, if_false]
  cases ip with
  | none => exact noAddr _ _ ht hcand hT ht1
  | some addr =>
    simp only
    cases ht2 : (queryNameserver cfg.oracle st1.run addr cfg.port q false).1.timedOut with
    | true => rw [loopQuery_timedOut ht2]; exact queryTimedOut _ _ _ ht hcand hT ht1 ht2
    | false => rw [loopQuery_live ht2]; exact reply _ _ _ ht hcand hT ht1 ht2

theorem candidateLoop_found {cfg : RecCfg} {f : Nat} {st st1 : St} {q : Question} {combined : List RR} {mc : Nat}
    {cands next : List Name} {locally : Bool} {c : Name} {addr : FieldVal} (hlive : st.run.timedOut = false)
    (hlast : cands.getLast? = some c) (htry : tryTypes cfg f st locally c (rtypesFor cfg.mode) = (st1, some addr))
    (hlive1 : st1.run.timedOut = false) :
    candidateLoop cfg (f + 1) st q combined mc cands next locally = loopQuery cfg f st1 q combined mc addr := by
  rw [candidateLoop_succ, if_neg (by rw [hlive]; exact Bool.false_ne_true), hlast]
  simp only [htry, hlive1, Bool.false_eq_true, if_false]

theorem candidateLoop_noAddr {cfg : RecCfg} {f : Nat} {st st1 : St} {q : Question} {combined : List RR} {mc : Nat}
    {cands next : List Name} {locally : Bool} {c : Name} (hlive : st.run.timedOut = false)
    (hlast : cands.getLast? = some c) (htry : tryTypes cfg f st locally c (rtypesFor cfg.mode) = (st1, none))
    (hlive1 : st1.run.timedOut = false) :
    candidateLoop cfg (f + 1) st q combined mc cands next locally =
      loopNoAddr cfg f st1 q combined mc c cands.dropLast next locally := by
  rw [candidateLoop_succ, if_neg (by rw [hlive]; exact Bool.false_ne_true), hlast]
  simp only [htry, hlive1, Bool.false_eq_true, if_false]

/-- what an alias step makes of the result for the alias target: the records at hand first, then the
    target's; `Timeout` (and the model's `outOfFuel`) is passed on, any other failure becomes a dead end
    for the target (`resolve_combined_recursive`, and the alias arm of `resolve_forwarding_notimeout`). -/
def combinedResult (rrs : List RR) (q : Question) :
    Except ResolutionError ResolvedRecord → Except ResolutionError ResolvedRecord
  | .ok resolved => .ok (.nonAuthoritative (rrs ++ resolved.rrs) resolved.soaRR)
  | .error .timeout => .error .timeout
  | .error .outOfFuel => .error .outOfFuel
  | .error _ => .error (.deadEnd q)

theorem combinedResult_ok {rrs : List RR} {q : Question} {r : Except ResolutionError ResolvedRecord}
    {res : ResolvedRecord} (h : combinedResult rrs q r = .ok res) :
    ∃ r0, r = .ok r0 ∧ res = .nonAuthoritative (rrs ++ r0.rrs) r0.soaRR := by
  cases r with
  | ok r0 => exact ⟨r0, rfl, (Except.ok.inj h).symm⟩
  | error e => cases e <;> cases h

theorem combinedResult_outOfFuel {rrs : List RR} {q : Question} {r : Except ResolutionError ResolvedRecord}
    (h : combinedResult rrs q r = .error .outOfFuel) : r = .error .outOfFuel := by
  cases r with
  | ok r0 => cases h
  | error e => cases e <;> first | rfl | cases h

theorem resolveCombined_zero (cfg : RecCfg) (st : St) (rrs : List RR) (q : Question) :
    resolveCombined cfg 0 st rrs q = (st, .error .outOfFuel) := by
  rw [resolveCombined]

theorem resolveCombined_succ (cfg : RecCfg) (fuel : Nat) (st : St) (rrs : List RR) (q : Question) :
    resolveCombined cfg (fuel + 1) st rrs q =
      ((resolveRec cfg fuel st q).1, combinedResult rrs q (resolveRec cfg fuel st q).2) := by
  rw [resolveCombined]
  generalize resolveRec cfg fuel st q = p
  obtain ⟨st1, r⟩ := p
  cases r with
  | ok r => rfl
  | error e => cases e <;> rfl

theorem resolveCombined_ok {cfg : RecCfg} {fuel : Nat} {st st1 : St} {rrs : List RR} {q : Question}
    {resolved : ResolvedRecord} (h : resolveRec cfg fuel st q = (st1, .ok resolved)) :
    resolveCombined cfg (fuel + 1) st rrs q = (st1, .ok (.nonAuthoritative (rrs ++ resolved.rrs) resolved.soaRR)) := by
  rw [resolveCombined_succ, h]
  rfl

/-! ## `resolveFwd` one step at a time -/

/-- the alias branch of `resolveFwd`: the local alias records first; the question is popped. -/
def fwdAlias (rrs : List RR) (cq : Question) (p : St × Except ResolutionError ResolvedRecord) :
    St × Except ResolutionError ResolvedRecord :=
  (⟨p.1.ctx.pop, p.1.run⟩, combinedResult rrs cq p.2)

/-- the upstream part of `resolveFwd`: the forwarder is asked (RD set), its answer section passed on. -/
def fwdUpstream (cfg : FwdCfg) (st1 : St) (q : Question) (combined : List RR) :
    St × Except ResolutionError ResolvedRecord :=
  if (queryNameserver cfg.oracle st1.run cfg.addr cfg.port q true).1.timedOut then
    (⟨st1.ctx, (queryNameserver cfg.oracle st1.run cfg.addr cfg.port q true).1⟩, .error .timeout)
  else
    match (queryNameserver cfg.oracle st1.run cfg.addr cfg.port q true).2 with
    | some response =>
      (⟨st1.ctx.cacheInsertAll response.answers, (queryNameserver cfg.oracle st1.run cfg.addr cfg.port q true).1⟩,
       .ok (.nonAuthoritative (prioritisingMerge combined response.answers) (getNxdomainNodataSoa q response 0)))
    | none => (⟨st1.ctx, (queryNameserver cfg.oracle st1.run cfg.addr cfg.port q true).1⟩, .error (.deadEnd q))

theorem resolveFwd_succ (cfg : FwdCfg) (fuel : Nat) (st : St) (q : Question) :
    resolveFwd cfg (fuel + 1) st q =
      machineEntry st q
        (fun rrs cq =>
          fwdAlias rrs cq (resolveFwd cfg fuel ⟨(resolveLocal (RECURSION_LIMIT + 1) st.ctx q).1.push q, st.run⟩ cq))
        (fun o => fwdUpstream cfg ⟨(resolveLocal (RECURSION_LIMIT + 1) st.ctx q).1, st.run⟩ q (initialCombined o)) := by
  rw [resolveFwd, machineEntry]
  simp only [fwdUpstream]
  generalize queryNameserver cfg.oracle st.run cfg.addr cfg.port q true = qn
  obtain ⟨run2, reply⟩ := qn
  cases (resolveLocal (RECURSION_LIMIT + 1) st.ctx q).snd with
  | error e => rfl
  | ok lr =>
    cases lr with
    | cname rrs cq =>
      simp only [fwdAlias]
      cases (resolveFwd cfg fuel ⟨(resolveLocal (RECURSION_LIMIT + 1) st.ctx q).1.push q, st.run⟩ cq).2 with
      | ok r => rfl
      | error e => cases e <;> rfl
    | _ => rfl

theorem resolveFwd_zero (cfg : FwdCfg) (st : St) (q : Question) :
    resolveFwd cfg 0 st q = (st, .error .outOfFuel) := by
  rw [resolveFwd]

theorem fwdUpstream_timedOut {cfg : FwdCfg} {st1 : St} {q : Question} {combined : List RR}
    (h : (queryNameserver cfg.oracle st1.run cfg.addr cfg.port q true).1.timedOut = true) :
    fwdUpstream cfg st1 q combined =
      (⟨st1.ctx, (queryNameserver cfg.oracle st1.run cfg.addr cfg.port q true).1⟩, .error .timeout) := by
  unfold fwdUpstream
  rw [if_pos h]

theorem fwdUpstream_reply {cfg : FwdCfg} {st1 : St} {q : Question} {combined : List RR} {response : Message}
    (h : (queryNameserver cfg.oracle st1.run cfg.addr cfg.port q true).1.timedOut = false)
    (hr : (queryNameserver cfg.oracle st1.run cfg.addr cfg.port q true).2 = some response) :
    fwdUpstream cfg st1 q combined =
      (⟨st1.ctx.cacheInsertAll response.answers, (queryNameserver cfg.oracle st1.run cfg.addr cfg.port q true).1⟩,
       .ok (.nonAuthoritative (prioritisingMerge combined response.answers) (getNxdomainNodataSoa q response 0))) := by
  unfold fwdUpstream
  rw [if_neg (by rw [h]; exact Bool.false_ne_true), hr]

theorem fwdUpstream_silent {cfg : FwdCfg} {st1 : St} {q : Question} {combined : List RR}
    (h : (queryNameserver cfg.oracle st1.run cfg.addr cfg.port q true).1.timedOut = false)
    (hr : (queryNameserver cfg.oracle st1.run cfg.addr cfg.port q true).2 = none) :
    fwdUpstream cfg st1 q combined =
      (⟨st1.ctx, (queryNameserver cfg.oracle st1.run cfg.addr cfg.port q true).1⟩, .error (.deadEnd q)) := by
  unfold fwdUpstream
  rw [if_neg (by rw [h]; exact Bool.false_ne_true), hr]

theorem fwdUpstream_cases (cfg : FwdCfg) (st1 : St) (q : Question) (combined : List RR) :
    (∃ st2, fwdUpstream cfg st1 q combined = (st2, .error .timeout)) ∨
    (∃ st2, fwdUpstream cfg st1 q combined = (st2, .error (.deadEnd q))) ∨
    ∃ st3 rrs soa, fwdUpstream cfg st1 q combined = (st3, .ok (.nonAuthoritative rrs soa)) := by
  cases h : (queryNameserver cfg.oracle st1.run cfg.addr cfg.port q true).1.timedOut with
  | true => exact Or.inl ⟨_, fwdUpstream_timedOut h⟩
  | false =>
    cases hr : (queryNameserver cfg.oracle st1.run cfg.addr cfg.port q true).2 with
    | none => exact Or.inr (Or.inl ⟨_, fwdUpstream_silent h hr⟩)
    | some m => exact Or.inr (Or.inr ⟨_, _, _, fwdUpstream_reply h hr⟩)

/-! ## `tryTypes` one step at a time -/

theorem rtypesFor_v4 {mode : ProtocolMode} (h : mode = .onlyV4 ∨ mode = .preferV4) :
    ∃ more, rtypesFor mode = RT_A :: more := by
  rcases h with rfl | rfl
  · exact ⟨[], rfl⟩
  · exact ⟨[RT_AAAA], rfl⟩

/-- one iteration of the `for rtype in rtypes` loop of `resolve_hostname_to_ip`. -/
def lookupStep (cfg : RecCfg) (fuel : Nat) (st : St) (locally : Bool) (hostname : Name) (rtype : Nat) :
    St × Option FieldVal :=
  if locally then
    (⟨(resolveLocal (RECURSION_LIMIT + 1) st.ctx { name := hostname, qclass := CLASS_IN, qtype := rtype }).1, st.run⟩,
      match (resolveLocal (RECURSION_LIMIT + 1) st.ctx { name := hostname, qclass := CLASS_IN, qtype := rtype }).2 with
      | .ok (.done resolved) => getIp resolved.rrs hostname rtype
      | _ => none)
  else
    ((resolveRec cfg fuel st { name := hostname, qclass := CLASS_IN, qtype := rtype }).1,
      match (resolveRec cfg fuel st { name := hostname, qclass := CLASS_IN, qtype := rtype }).2 with
      | .ok result => getIp result.rrs hostname rtype
      | .error _ => none)

theorem tryTypes_cons (cfg : RecCfg) (fuel : Nat) (st : St) (locally : Bool) (hostname : Name)
    (rtype : Nat) (more : List Nat) :
    tryTypes cfg (fuel + 1) st locally hostname (rtype :: more) =
      if st.run.timedOut then (st, none)
      else
        match (lookupStep cfg fuel st locally hostname rtype).2 with
        | some a => ((lookupStep cfg fuel st locally hostname rtype).1, some a)
        | none => tryTypes cfg fuel (lookupStep cfg fuel st locally hostname rtype).1 locally hostname more := by
  rw [tryTypes]
  unfold lookupStep
  cases locally with
  | true =>
    simp only [if_true]
    generalize resolveLocal (RECURSION_LIMIT + 1) st.ctx { name := hostname, qclass := CLASS_IN, qtype := rtype } = p
    obtain ⟨ctx1, r⟩ := p
    cases r with
    | error e => rfl
    | ok lr => cases lr <;> rfl
  | false =>
    simp only [Bool.false_eq_true, if_false]
    generalize resolveRec cfg fuel st { name := hostname, qclass := CLASS_IN, qtype := rtype } = p
    obtain ⟨st1, r⟩ := p
    cases r <;> rfl

theorem tryTypes_zero (cfg : RecCfg) (st : St) (locally : Bool) (hostname : Name) (types : List Nat) :
    tryTypes cfg 0 st locally hostname types = (st, none) := by
  rw [tryTypes]

theorem tryTypes_nil (cfg : RecCfg) (fuel : Nat) (st : St) (locally : Bool) (hostname : Name) :
    tryTypes cfg fuel st locally hostname [] = (st, none) := by
  cases fuel <;> rw [tryTypes]

theorem tryTypes_found {cfg : RecCfg} {f : Nat} {st st1 : St} {locally : Bool} {host : Name} {t : Nat} {more : List Nat}
    {a : FieldVal} (hlive : st.run.timedOut = false) (h : lookupStep cfg f st locally host t = (st1, some a)) :
    tryTypes cfg (f + 1) st locally host (t :: more) = (st1, some a) := by
  rw [tryTypes_cons, if_neg (by rw [hlive]; exact Bool.false_ne_true), h]

theorem tryTypes_next {cfg : RecCfg} {f : Nat} {st st1 : St} {locally : Bool} {host : Name} {t : Nat} {more : List Nat}
    (hlive : st.run.timedOut = false) (h : lookupStep cfg f st locally host t = (st1, none)) :
    tryTypes cfg (f + 1) st locally host (t :: more) = tryTypes cfg f st1 locally host more := by
  rw [tryTypes_cons, if_neg (by rw [hlive]; exact Bool.false_ne_true), h]

theorem lookupStep_local_done {cfg : RecCfg} {f : Nat} {st : St} {host : Name} {t : Nat} {r : ResolvedRecord}
    (h : (resolveLocal (RECURSION_LIMIT + 1) st.ctx { name := host, qclass := CLASS_IN, qtype := t }).2 = .ok (.done r)) :
    lookupStep cfg f st true host t =
      (⟨(resolveLocal (RECURSION_LIMIT + 1) st.ctx { name := host, qclass := CLASS_IN, qtype := t }).1, st.run⟩,
        getIp r.rrs host t) := by
  unfold lookupStep
  rw [h]
  rfl

theorem lookupStep_rec_ok {cfg : RecCfg} {f : Nat} {st st2 : St} {host : Name} {t : Nat} {result : ResolvedRecord}
    (h : resolveRec cfg f st { name := host, qclass := CLASS_IN, qtype := t } = (st2, .ok result)) :
    lookupStep cfg f st false host t = (st2, getIp result.rrs host t) := by
  unfold lookupStep
  rw [h]
  rfl

theorem lookupStep_local_other {cfg : RecCfg} {f : Nat} {st : St} {host : Name} {t : Nat}
    (h : ∀ r, (resolveLocal (RECURSION_LIMIT + 1) st.ctx { name := host, qclass := CLASS_IN, qtype := t }).2
      ≠ .ok (.done r)) :
    lookupStep cfg f st true host t =
      (⟨(resolveLocal (RECURSION_LIMIT + 1) st.ctx { name := host, qclass := CLASS_IN, qtype := t }).1, st.run⟩,
        none) := by
  unfold lookupStep
  rw [if_pos rfl]
  split
  · rename_i r hr; exact absurd hr (h r)
  · rfl

theorem lookupStep_fuel {cfg : RecCfg} {f f' : Nat} {st : St} {locally : Bool} {host : Name} {t : Nat}
    (h : locally = true ∨ resolveRec cfg f st { name := host, qclass := CLASS_IN, qtype := t } =
      resolveRec cfg f' st { name := host, qclass := CLASS_IN, qtype := t }) :
    lookupStep cfg f st locally host t = lookupStep cfg f' st locally host t := by
  rcases h with rfl | h
  · rfl
  · unfold lookupStep
    rw [h]

theorem lookupStep_source {cfg : RecCfg} {fuel : Nat} {st : St} {locally : Bool} {hostname : Name}
    {rtype : Nat} {a : FieldVal} (h : (lookupStep cfg fuel st locally hostname rtype).2 = some a) :
    ∃ rrs, getIp rrs hostname rtype = some a := by
  unfold lookupStep at h
  split at h
  · simp only at h
    split at h
    · exact ⟨_, h⟩
    · cases h
  · simp only at h
    split at h
    · exact ⟨_, h⟩
    · cases h

theorem tryTypes_first_none {cfg : RecCfg} {fuel : Nat} {st : St} {locally : Bool} {hostname : Name}
    {rtype : Nat} {more : List Nat} {a : FieldVal}
    (h : (tryTypes cfg (fuel + 1) st locally hostname (rtype :: more)).2 = some a)
    (hne : ∀ rrs, getIp rrs hostname rtype ≠ some a) : (lookupStep cfg fuel st locally hostname rtype).2 = none := by
  rw [tryTypes_cons] at h
  split at h
  · cases h
  · split at h
    · rename_i a' ha
      cases h
      obtain ⟨rrs, hr⟩ := lookupStep_source ha
      exact absurd hr (hne rrs)
    · assumption

theorem tryTypes_source (cfg : RecCfg) (hostname : Name) : ∀ (fuel : Nat) (st : St) (locally : Bool)
    (types : List Nat) (a : FieldVal), (tryTypes cfg fuel st locally hostname types).2 = some a →
    ∃ rtype ∈ types, ∃ rrs, getIp rrs hostname rtype = some a := by
  intro fuel
  induction fuel with
  | zero => intro st locally types a h; rw [tryTypes_zero] at h; cases h
  | succ fuel ih =>
    intro st locally types a h
    cases types with
    | nil => rw [tryTypes_nil] at h; cases h
    | cons t more =>
      rw [tryTypes_cons] at h
      split at h
      · cases h
      · split at h
        · rename_i a' ha
          simp only at h; cases h
          obtain ⟨rrs, hr⟩ := lookupStep_source ha
          exact ⟨t, List.mem_cons_self, rrs, hr⟩
        · obtain ⟨t', ht', hr⟩ := ih _ _ _ _ h
          exact ⟨t', List.mem_cons_of_mem _ ht', hr⟩

theorem tryTypes_family (cfg : RecCfg) (fuel : Nat) (st : St) (locally : Bool) (hostname : Name)
    (a : FieldVal) (h : (tryTypes cfg fuel st locally hostname (rtypesFor cfg.mode)).2 = some a) :
    FamOK cfg.mode a := by
  obtain ⟨t, ht, rrs, hr⟩ := tryTypes_source cfg hostname fuel st locally _ a h
  have hf := getIp_family rrs hostname t a hr
  constructor
  · intro hm
    rw [hm] at ht
    simp only [rtypesFor, List.mem_singleton] at ht
    exact hf.1 ht
  · intro hm
    rw [hm] at ht
    simp only [rtypesFor, List.mem_singleton] at ht
    exact hf.2 ht

/-! ## `candidateNameservers` one step at a time -/

private theorem ite_not_bool {α : Type} (b : Bool) (x y : α) :
    (if (!b) = true then x else y) = if b = true then y else x := by
  cases b <;> rfl

/-- the host names `candidate_nameservers` reads off a local NS lookup. -/
def nsHostnames : Except ResolutionError LocalResult → List Name
  | .ok (.done resolved) => resolved.rrs.filterMap nsTarget
  | _ => []

theorem candidateNameservers_cons (st : St) (l : Label) (ls : List Label) :
    candidateNameservers st (l :: ls) =
      match Name.fromLabels (l :: ls) with
      | none => candidateNameservers st ls
      | some name =>
        if (nsHostnames (resolveLocal (RECURSION_LIMIT + 1) st.ctx ⟨name, RT_NS, CLASS_IN⟩).2).isEmpty then
          candidateNameservers ⟨(resolveLocal (RECURSION_LIMIT + 1) st.ctx ⟨name, RT_NS, CLASS_IN⟩).1, st.run⟩ ls
        else
          (⟨(resolveLocal (RECURSION_LIMIT + 1) st.ctx ⟨name, RT_NS, CLASS_IN⟩).1, st.run⟩,
            some ⟨nsHostnames (resolveLocal (RECURSION_LIMIT + 1) st.ctx ⟨name, RT_NS, CLASS_IN⟩).2, name⟩) := by
  rw [candidateNameservers]
  cases Name.fromLabels (l :: ls) with
  | none => rfl
  | some name =>
    simp only []
    generalize resolveLocal (RECURSION_LIMIT + 1) st.ctx ⟨name, RT_NS, CLASS_IN⟩ = p
    obtain ⟨ctx1, r⟩ := p
    exact ite_not_bool _ _ _

theorem candidateNameservers_nil (st : St) : candidateNameservers st [] = (st, none) := by
  rw [candidateNameservers]

theorem nsHostnames_cases (x : Except ResolutionError LocalResult) :
    (∃ r, x = .ok (.done r) ∧ nsHostnames x = r.rrs.filterMap nsTarget) ∨ nsHostnames x = [] := by
  unfold nsHostnames
  split
  · exact Or.inl ⟨_, rfl, rfl⟩
  · exact Or.inr rfl

theorem candidateNameservers_error (st : St) {l : Label} {ls : List Label} {name : Name} {e : ResolutionError}
    (h : Name.fromLabels (l :: ls) = some name)
    (hloc : (resolveLocal (RECURSION_LIMIT + 1) st.ctx ⟨name, RT_NS, CLASS_IN⟩).2 = .error e) :
    candidateNameservers st (l :: ls) =
      candidateNameservers ⟨(resolveLocal (RECURSION_LIMIT + 1) st.ctx ⟨name, RT_NS, CLASS_IN⟩).1, st.run⟩ ls := by
  rw [candidateNameservers_cons, h]
  simp only
  rw [hloc]
  rfl

theorem candidateNameservers_found (st : St) {l : Label} {ls : List Label} {name : Name} {r : ResolvedRecord}
    {hosts : List Name} (h : Name.fromLabels (l :: ls) = some name)
    (hloc : (resolveLocal (RECURSION_LIMIT + 1) st.ctx ⟨name, RT_NS, CLASS_IN⟩).2 = .ok (.done r))
    (hr : r.rrs.filterMap nsTarget = hosts) (hne : hosts ≠ []) :
    candidateNameservers st (l :: ls) =
      (⟨(resolveLocal (RECURSION_LIMIT + 1) st.ctx ⟨name, RT_NS, CLASS_IN⟩).1, st.run⟩, some ⟨hosts, name⟩) := by
  rw [candidateNameservers_cons, h]
  simp only
  rw [hloc]
  simp only [nsHostnames, hr, List.isEmpty_eq_false_iff.mpr hne, Bool.false_eq_true, if_false]

theorem candidateNameservers_rel {R : St → St → Prop} (refl : ∀ s, R s s) (trans : ∀ {a b c}, R a b → R b c → R a c)
    (loc : ∀ (st : St) (q : Question), R st ⟨(resolveLocal (RECURSION_LIMIT + 1) st.ctx q).1, st.run⟩) :
    ∀ (ls : List Label) (st : St), R st (candidateNameservers st ls).1 ∧
      ∀ ns, (candidateNameservers st ls).2 = some ns →
        ∃ st1 r, R st st1 ∧ ns.name.labels <:+ ls ∧
          (resolveLocal (RECURSION_LIMIT + 1) st1.ctx ⟨ns.name, RT_NS, CLASS_IN⟩).2 = .ok (.done r) ∧
          ns.hostnames = r.rrs.filterMap nsTarget ∧ ns.hostnames ≠ []
  | [], st => by rw [candidateNameservers_nil]; exact ⟨refl st, nofun⟩
  | l :: ls, st => by
    have ih := candidateNameservers_rel refl trans loc ls
    have up : ∀ {st1}, R st st1 → R st (candidateNameservers st1 ls).1 ∧
        ∀ ns, (candidateNameservers st1 ls).2 = some ns → ∃ st2 r, R st st2 ∧ ns.name.labels <:+ l :: ls ∧
          (resolveLocal (RECURSION_LIMIT + 1) st2.ctx ⟨ns.name, RT_NS, CLASS_IN⟩).2 = .ok (.done r) ∧
          ns.hostnames = r.rrs.filterMap nsTarget ∧ ns.hostnames ≠ [] :=
      fun {st1} h => ⟨trans h (ih st1).1, fun ns hns =>
        let ⟨st2, r, h2, hs, rest⟩ := (ih st1).2 ns hns
        ⟨st2, r, trans h h2, hs.trans (List.suffix_cons l ls), rest⟩⟩
    rw [candidateNameservers_cons]
    split
    · exact up (refl st)
    · rename_i name hname
      split
      · exact up (loc st _)
      · rename_i hne
        refine ⟨loc st _, fun ns hns => ?_⟩
        cases hns
        rcases nsHostnames_cases (resolveLocal (RECURSION_LIMIT + 1) st.ctx ⟨name, RT_NS, CLASS_IN⟩).2 with
          ⟨r, hr, e⟩ | e
        · exact ⟨st, r, refl st, by rw [Name.fromLabels_labels hname]; exact List.suffix_refl _, hr, e,
            fun hh => hne (congrArg List.isEmpty hh)⟩
        · exact absurd (congrArg List.isEmpty e) hne

/-! ## The wrappers -/

/-- the 60 s wrapper of both resolvers. -/
def deadlineWrap (p : St × Except ResolutionError ResolvedRecord) : St × Except ResolutionError ResolvedRecord :=
  if p.1.run.timedOut then (p.1, .error .timeout) else (p.1, p.2)

theorem resolveRecursive_eq_wrap (cfg : RecCfg) (ctx : Ctx) (q : Question) :
    resolveRecursive cfg ctx q = deadlineWrap (resolveRec cfg REC_FUEL ⟨ctx, Run.empty⟩ q) := rfl

theorem resolveForwarding_eq_wrap (cfg : FwdCfg) (ctx : Ctx) (q : Question) :
    resolveForwarding cfg ctx q = deadlineWrap (resolveFwd cfg REC_FUEL ⟨ctx, Run.empty⟩ q) := rfl

theorem deadlineWrap_fst (p : St × Except ResolutionError ResolvedRecord) : (deadlineWrap p).1 = p.1 := by
  unfold deadlineWrap; split <;> rfl

theorem deadlineWrap_timedOut {p : St × Except ResolutionError ResolvedRecord}
    (h : (deadlineWrap p).1.run.timedOut = true) : (deadlineWrap p).2 = .error .timeout := by
  rw [deadlineWrap_fst] at h
  unfold deadlineWrap
  rw [if_pos h]

theorem deadlineWrap_live {p : St × Except ResolutionError ResolvedRecord} (h : p.1.run.timedOut = false) :
    deadlineWrap p = p := by
  unfold deadlineWrap
  rw [if_neg (by rw [h]; exact Bool.false_ne_true)]

theorem deadlineWrap_of_ne {p : St × Except ResolutionError ResolvedRecord}
    (h : (deadlineWrap p).2 ≠ .error .timeout) : deadlineWrap p = p :=
  deadlineWrap_live (eq_false_of_ne_true fun ht => h (deadlineWrap_timedOut (by rw [deadlineWrap_fst]; exact ht)))

theorem deadlineWrap_of_ok {p : St × Except ResolutionError ResolvedRecord} {r : ResolvedRecord}
    (h : (deadlineWrap p).2 = .ok r) : deadlineWrap p = p :=
  deadlineWrap_of_ne (by rw [h]; nofun)

theorem resolveRecursive_of_ok {cfg : RecCfg} {ctx : Ctx} {q : Question} {r : ResolvedRecord}
    (h : (resolveRecursive cfg ctx q).2 = .ok r) :
    resolveRecursive cfg ctx q = resolveRec cfg REC_FUEL ⟨ctx, Run.empty⟩ q :=
  deadlineWrap_of_ok h

theorem resolveForwarding_of_ok {cfg : FwdCfg} {ctx : Ctx} {q : Question} {r : ResolvedRecord}
    (h : (resolveForwarding cfg ctx q).2 = .ok r) :
    resolveForwarding cfg ctx q = resolveFwd cfg REC_FUEL ⟨ctx, Run.empty⟩ q :=
  deadlineWrap_of_ok h

theorem REC_FUEL_succ : REC_FUEL = 999999 + 1 := rfl

theorem resolveRecursive_local_done (cfg : RecCfg) {ctx : Ctx} {q : Question} {res : ResolvedRecord}
    (h : (resolveLocal (RECURSION_LIMIT + 1) ctx q).2 = .ok (.done res)) :
    resolveRecursive cfg ctx q = (⟨(resolveLocal (RECURSION_LIMIT + 1) ctx q).1, Run.empty⟩, .ok res) := by
  rw [resolveRecursive_eq_wrap, REC_FUEL_succ, resolveRec_succ, machineEntry_local_done (st := ⟨ctx, Run.empty⟩) rfl h]
  rfl

theorem resolveForwarding_local_done (cfg : FwdCfg) {ctx : Ctx} {q : Question} {res : ResolvedRecord}
    (h : (resolveLocal (RECURSION_LIMIT + 1) ctx q).2 = .ok (.done res)) :
    resolveForwarding cfg ctx q = (⟨(resolveLocal (RECURSION_LIMIT + 1) ctx q).1, Run.empty⟩, .ok res) := by
  rw [resolveForwarding_eq_wrap, REC_FUEL_succ, resolveFwd_succ, machineEntry_local_done (st := ⟨ctx, Run.empty⟩) rfl h]
  rfl

end Resolved
