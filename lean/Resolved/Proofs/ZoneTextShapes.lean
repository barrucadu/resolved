/-
  `parse_rr` and what it calls, for the round trip, the parser output and the specification alike.  What spells no type
  (`rtypeFromStr_*`); the RDATA layouts of `try_parse_rtype_with_data` by type; `parse_rr` in one equation (`parseRr_eq`):
  the type is looked for from the fourth token backwards (`findType`), the tokens in front are read as owner and TTL by
  their spelling (`preFields`) and parsed in the order errors are reported (`readPre`), and backwards (`parseRr_ok_sources`);
  `to_rr` with and without SOA; the rejections of a relative name without origin and of a missing TTL.
-/
import Resolved.Proofs.ZoneTextBasics

namespace Resolved.ZoneText

open Resolved Resolved.IpText Gen

/-! ## tokens that spell no type -/

def NoType (rd : List Token) : Prop := ∀ t ∈ rd, rtypeFromStr t.1 = none

theorem tryParse_nil (o : Option Name) : tryParseRtypeWithData o [] = none := rfl

theorem tryParse_head_none (o : Option Name) (t : Token) (ts : List Token) (h : rtypeFromStr t.1 = none) :
    tryParseRtypeWithData o (t :: ts) = none := by
  unfold tryParseRtypeWithData
  simp only [h]

theorem tryParse_noType (o : Option Name) (rd : List Token) (h : NoType rd) :
    tryParseRtypeWithData o rd = none := by
  cases rd with
  | nil => rfl
  | cons t ts => exact tryParse_head_none o t ts (h t (by simp))

theorem NoType.tail {t : Token} {ts : List Token} (h : NoType (t :: ts)) : NoType ts :=
  fun x hx => h x (by simp [hx])

theorem NoType.drop {rd : List Token} (h : NoType rd) (k : Nat) : NoType (rd.drop k) :=
  fun x hx => h x (List.mem_of_mem_drop hx)

def isUpperChar (c : Char) : Bool := 65 ≤ c.toNat && c.toNat ≤ 90

theorem rtypeNames_letters : ∀ p ∈ rtypeNames, p.2 ≠ [] ∧ ∀ c ∈ p.2, isUpperChar c = true := by decide +kernel

theorem rtypeFromStr_mnemonic : ∀ p ∈ rtypeNames, rtypeFromStr p.2 = some p.1 := by decide +kernel

theorem rtypeNames_not_TY : ∀ p ∈ rtypeNames, p.2.take 2 ≠ ['T', 'Y'] := by decide

theorem lookupByName_none (l : List (Nat × List Char)) (s : List Char) (h : ∀ p ∈ l, s ≠ p.2) :
    lookupByName l s = none := by
  induction l with
  | nil => rfl
  | cons p ps ih =>
    obtain ⟨c, n⟩ := p
    simp only [lookupByName]
    rw [if_neg (h (c, n) (by simp)), ih (fun q hq => h q (by simp [hq]))]

theorem rtypeFromStr_of_no_mnemonic {s : List Char} (h : ∀ p ∈ rtypeNames, s ≠ p.2) :
    rtypeFromStr s = if s.take 4 = sTYPE then parseU16 (s.drop 4) else none := by
  unfold rtypeFromStr
  rw [lookupByName_none _ _ h]

theorem rtypeFromStr_TYPE (s : List Char) : rtypeFromStr (sTYPE ++ s) = parseU16 s := by
  rw [rtypeFromStr_of_no_mnemonic]
  · rfl
  · intro p hp he
    have := rtypeNames_not_TY p hp
    rw [← he] at this
    simp [sTYPE] at this

/-- every mnemonic, and `TYPE<n>`, begins with an upper-case letter. -/
theorem rtypeFromStr_none_of_head (c : Char) (cs : List Char) (h : isUpperChar c = false) :
    rtypeFromStr (c :: cs) = none := by
  rw [rtypeFromStr_of_no_mnemonic, if_neg]
  · intro ht
    rw [(List.cons.inj ht).1] at h
    cases h
  · intro p hp he
    have hup := (rtypeNames_letters p hp).2 c (by rw [← he]; exact List.mem_cons_self)
    rw [h] at hup
    cases hup

theorem rtypeFromStr_none_of_no_upper (s : List Char) (h : ∀ c ∈ s, isUpperChar c = false) :
    rtypeFromStr s = none := by
  cases s with
  | nil => rfl
  | cons c cs => exact rtypeFromStr_none_of_head c cs (h c List.mem_cons_self)

theorem rtypeFromStr_none_of_allDigits {s : List Char} (h : allDigits s = true) : rtypeFromStr s = none := by
  refine rtypeFromStr_none_of_no_upper s fun c hc => ?_
  have := List.all_eq_true.mp h c hc
  simp only [isAsciiDigit, Bool.and_eq_true, decide_eq_true_eq] at this
  simp only [isUpperChar, Bool.and_eq_false_iff, decide_eq_false_iff_not]
  omega

/-! ## the RDATA layouts of `try_parse_rtype_with_data`, by the type the first token spells -/

section layouts

variable (o : Option Name) (t0 : Token)

-- in each proof `show` only exposes the scrutinee `rtypeFromStr t0.1` to `rw`; `simp only [h]` would
-- walk through every branch of the parser

/-- NS MD MF CNAME MB MG MR PTR: the RDATA is one domain name.  `RdataOK.oneName` (ZoneTextOK, which this file does not
    import) writes the same list out; the two unfold to the same term and proofs pass one for the other. -/
def OneNameType (c : Nat) : Prop := c = 2 ∨ c = 3 ∨ c = 4 ∨ c = 5 ∨ c = 7 ∨ c = 8 ∨ c = 9 ∨ c = 12

/-- NULL WKS HINFO TXT: the RDATA is the octets of one token (`RdataOK.octets` likewise). -/
def OctetsType (c : Nat) : Prop := c = 10 ∨ c = 11 ∨ c = 13 ∨ c = 16

instance OneNameType.decidable (c : Nat) : Decidable (OneNameType c) := by unfold OneNameType; infer_instance

instance OctetsType.decidable (c : Nat) : Decidable (OctetsType c) := by unfold OctetsType; infer_instance

theorem tryParseRtypeWithData_oneName {c : Nat} (h : rtypeFromStr t0.1 = some c) (hc : OneNameType c) (t1 : Token) :
    tryParseRtypeWithData o [t0, t1] = (optName o t1.1).map (fun n => ⟨c, [.name n]⟩) := by
  unfold tryParseRtypeWithData
  show (match rtypeFromStr t0.1 with | none => none | some code => _) = _
  rw [h]
  rcases hc with rfl | rfl | rfl | rfl | rfl | rfl | rfl | rfl <;> rfl

theorem tryParseRtypeWithData_oneOctets {c : Nat} (h : rtypeFromStr t0.1 = some c) (hc : OctetsType c) (t1 : Token) :
    tryParseRtypeWithData o [t0, t1] = some ⟨c, [.opaque t1.2]⟩ := by
  unfold tryParseRtypeWithData
  show (match rtypeFromStr t0.1 with | none => none | some code => _) = _
  rw [h]
  rcases hc with rfl | rfl | rfl | rfl <;> rfl

theorem tryParseRtypeWithData_a (h : rtypeFromStr t0.1 = some 1) (t1 : Token) :
    tryParseRtypeWithData o [t0, t1] = (ipv4FromStr t1.1).map (fun a => ⟨1, [.a a]⟩) := by
  unfold tryParseRtypeWithData
  show (match rtypeFromStr t0.1 with | none => none | some code => _) = _
  rw [h]
  rfl

theorem tryParseRtypeWithData_aaaa (h : rtypeFromStr t0.1 = some 28) (t1 : Token) :
    tryParseRtypeWithData o [t0, t1] = (ipv6FromStr t1.1).map (fun gs => ⟨28, [.aaaa gs]⟩) := by
  unfold tryParseRtypeWithData
  show (match rtypeFromStr t0.1 with | none => none | some code => _) = _
  rw [h]
  rfl

theorem tryParseRtypeWithData_minfo (h : rtypeFromStr t0.1 = some 14) (t1 t2 : Token) :
    tryParseRtypeWithData o [t0, t1, t2] =
      (match optName o t1.1, optName o t2.1 with
       | some r, some e => some ⟨14, [.name r, .name e]⟩
       | _, _ => none) := by
  unfold tryParseRtypeWithData
  show (match rtypeFromStr t0.1 with | none => none | some code => _) = _
  rw [h]
  rfl

theorem tryParseRtypeWithData_mx (h : rtypeFromStr t0.1 = some 15) (t1 t2 : Token) :
    tryParseRtypeWithData o [t0, t1, t2] =
      (match parseU16 t1.1, optName o t2.1 with
       | some p, some e => some ⟨15, [.u16 p, .name e]⟩
       | _, _ => none) := by
  unfold tryParseRtypeWithData
  show (match rtypeFromStr t0.1 with | none => none | some code => _) = _
  rw [h]
  rfl

theorem tryParseRtypeWithData_srv (h : rtypeFromStr t0.1 = some 33) (t1 t2 t3 t4 : Token) :
    tryParseRtypeWithData o [t0, t1, t2, t3, t4] =
      (match parseU16 t1.1, parseU16 t2.1, parseU16 t3.1, optName o t4.1 with
       | some p, some w, some port, some target => some ⟨33, [.u16 p, .u16 w, .u16 port, .name target]⟩
       | _, _, _, _ => none) := by
  unfold tryParseRtypeWithData
  show (match rtypeFromStr t0.1 with | none => none | some code => _) = _
  rw [h]
  rfl

theorem tryParseRtypeWithData_soa (h : rtypeFromStr t0.1 = some 6) (t1 t2 t3 t4 t5 t6 t7 : Token) :
    tryParseRtypeWithData o [t0, t1, t2, t3, t4, t5, t6, t7] =
      (match optName o t1.1, optName o t2.1, parseU32 t3.1, parseU32 t4.1, parseU32 t5.1, parseU32 t6.1,
             parseU32 t7.1 with
       | some mname, some rname, some serial, some refresh, some retry, some expire, some minimum =>
         some ⟨6, [.name mname, .name rname, .u32 serial, .u32 refresh, .u32 retry, .u32 expire, .u32 minimum]⟩
       | _, _, _, _, _, _, _ => none) := by
  unfold tryParseRtypeWithData
  show (match rtypeFromStr t0.1 with | none => none | some code => _) = _
  rw [h]
  rfl

end layouts

theorem parseRr4_none_of_short (o : Option Name) (t0 t1 t2 : Token) :
    parseRr4 o [t0, t1, t2] = none ∧ parseRr4 o [t0, t1] = none ∧ parseRr4 o [t0] = none := by
  exact ⟨rfl, rfl, rfl⟩

/-- the class token as the tokeniser hands it over. -/
def tIN : Token := (sIN, [73, 78])

theorem tIN_fst : tIN.1 = sIN := rfl

/-! ## the tokens in front of the type token -/

def withPreviousDomain (pd : Option MaybeWildcard) (f : MaybeWildcard → Except Error Entry) : Except Error Entry :=
  match pd with
  | some w => f w
  | none => .error .missingDomainName

/-- how `parse_rr` reads the (at most three) tokens in front of the type token: which one is the owner and which
    the TTL, decided by their spelling alone (`IN`, all digits) and their position; the class token `IN` is dropped.
    `bad`: three tokens of which neither the second nor the third is `IN`. -/
structure PreFields where
  owner : Option Token
  ttl : Option Token
  bad : Bool := false

def preFields : List Token → PreFields
  | [] => { owner := none, ttl := none }
  | [a] =>
    if a.1 = sIN then { owner := none, ttl := none }
    else if allDigits a.1 then { owner := none, ttl := some a } else { owner := some a, ttl := none }
  | [a, b] =>
    if b.1 = sIN then (if allDigits a.1 then { owner := none, ttl := some a } else { owner := some a, ttl := none })
    else if a.1 = sIN then { owner := none, ttl := some b } else { owner := some a, ttl := some b }
  | a :: b :: c :: _ =>
    if c.1 = sIN then { owner := some a, ttl := some b }
    else if b.1 = sIN then { owner := some a, ttl := some c } else { owner := some a, ttl := none, bad := true }

def withTtl (pt : Option Nat) (rdat : RData) (ttl : Option Nat) (w : MaybeWildcard) : Except Error Entry :=
  match ttl with
  | some t => .ok (toRr w rdat t)
  | none => withInheritedTtl w rdat pt

/-- the reading of a record line once owner and TTL are known or known to be omitted. -/
def expectRr (pd : Option MaybeWildcard) (pt : Option Nat) (owner : Option MaybeWildcard) (ttl : Option Nat)
    (rdat : RData) : Except Error Entry :=
  match owner with
  | some w => withTtl pt rdat ttl w
  | none => withPreviousDomain pd (withTtl pt rdat ttl)

theorem withTtl_ok {pt ttl : Option Nat} {rdat : RData} {w : MaybeWildcard} {e : Entry}
    (h : withTtl pt rdat ttl w = .ok e) :
    (∃ t, ttl = some t ∧ e = toRr w rdat t) ∨ (ttl = none ∧ withInheritedTtl w rdat pt = .ok e) := by
  cases ttl with
  | some t => exact .inl ⟨t, rfl, (Except.ok.inj h).symm⟩
  | none => exact .inr ⟨rfl, h⟩

theorem expectRr_ok {pd w : Option MaybeWildcard} {pt ttl : Option Nat} {rdat : RData} {e : Entry}
    (h : expectRr pd pt w ttl rdat = .ok e) :
    ∃ mw, (w = some mw ∨ (w = none ∧ pd = some mw)) ∧ withTtl pt rdat ttl mw = .ok e := by
  cases w with
  | some mw => exact ⟨mw, .inl rfl, h⟩
  | none =>
    cases pd with
    | none => cases h
    | some mw => exact ⟨mw, .inr ⟨rfl, rfl⟩, h⟩

def parseOpt {α : Type} (f : List Char → Except Error α) : Option Token → Except Error (Option α)
  | none => .ok none
  | some t => match f t.1 with | .ok a => .ok (some a) | .error e => .error e

/-- `parse_rr` once the type and its RDATA have been found, in the order in which it reports errors: the written
    owner, the class position, the written TTL, then what is inherited. -/
def readPre (o : Option Name) (pd : Option MaybeWildcard) (pt : Option Nat) (p : PreFields) (rdat : RData) :
    Except Error Entry :=
  match parseOpt (parseDomainOrWildcard o) p.owner with
  | .error e => .error e
  | .ok w =>
    if p.bad then .error .unexpected
    else
      match parseOpt parseU32E p.ttl with
      | .error e => .error e
      | .ok ttl => expectRr pd pt w ttl rdat

theorem parseOpt_ok {α : Type} {f : List Char → Except Error α} {t : Option Token} {r : Option α}
    (h : parseOpt f t = .ok r) (a : α) (ha : r = some a) : ∃ tok : Token, f tok.1 = .ok a := by
  cases t with
  | none => cases h; cases ha
  | some tok =>
    simp only [parseOpt] at h
    split at h
    · rename_i b hb
      cases h
      cases ha
      exact ⟨tok, hb⟩
    · cases h

theorem readPre_of_parsed {o : Option Name} {p : PreFields} {w : Option MaybeWildcard} {ttl : Option Nat}
    (ho : parseOpt (parseDomainOrWildcard o) p.owner = .ok w) (hb : p.bad = false)
    (ht : parseOpt parseU32E p.ttl = .ok ttl) (pd : Option MaybeWildcard) (pt : Option Nat) (rdat : RData) :
    readPre o pd pt p rdat = expectRr pd pt w ttl rdat := by
  simp only [readPre, ho, hb, ht, Bool.false_eq_true, if_false]

theorem readPre_owner_error {o : Option Name} {p : PreFields} {e : Error}
    (ho : parseOpt (parseDomainOrWildcard o) p.owner = .error e) (pd : Option MaybeWildcard) (pt : Option Nat)
    (rdat : RData) : readPre o pd pt p rdat = .error e := by
  simp only [readPre, ho]

theorem readPre_error (o : Option Name) (pd : Option MaybeWildcard) (pt : Option Nat) {p : PreFields} (rdat : RData)
    (h : p.bad = true ∨ ∃ t, p.ttl = some t ∧ parseU32E t.1 = .error .expectedU32) :
    ∃ e, readPre o pd pt p rdat = .error e := by
  unfold readPre
  cases parseOpt (parseDomainOrWildcard o) p.owner with
  | error e => exact ⟨e, rfl⟩
  | ok w =>
    rcases h with hb | ⟨t, ht, hu⟩
    · exact ⟨.unexpected, by simp only [hb, if_true]⟩
    · cases p.bad with
      | true => exact ⟨_, rfl⟩
      | false => exact ⟨.expectedU32, by simp only [ht, parseOpt, hu, Bool.false_eq_true, if_false]⟩

theorem readPre_ok {o : Option Name} {pd : Option MaybeWildcard} {pt : Option Nat} {p : PreFields} {rdat : RData}
    {e : Entry} (h : readPre o pd pt p rdat = .ok e) :
    ∃ w ttl, parseOpt (parseDomainOrWildcard o) p.owner = .ok w ∧ parseOpt parseU32E p.ttl = .ok ttl ∧
      expectRr pd pt w ttl rdat = .ok e := by
  unfold readPre at h
  cases hw : parseOpt (parseDomainOrWildcard o) p.owner with
  | error err => rw [hw] at h; cases h
  | ok w =>
    rw [hw] at h
    cases hb : p.bad with
    | true => rw [hb] at h; cases h
    | false =>
      rw [hb] at h
      cases ht : parseOpt parseU32E p.ttl with
      | error err => rw [ht] at h; cases h
      | ok ttl => rw [ht] at h; exact ⟨w, ttl, rfl, rfl, h⟩

section readPre
variable (o : Option Name) (pd : Option MaybeWildcard) (pt : Option Nat) (rdat : RData)

/-! what the four blocks of `parse_rr` do with their tokens is `readPre` of `preFields` -/

theorem readPre_nil : readPre o pd pt (preFields []) rdat =
    (match pd with
     | some wname => withInheritedTtl wname rdat pt
     | none => .error .missingDomainName) := by
  cases pd <;> rfl

theorem readPre_ttl (t : Token) : readPre o pd pt { owner := none, ttl := some t } rdat =
    (match parseU32E t.1 with
     | .error e => .error e
     | .ok ttl =>
       match pd with
       | some wname => .ok (toRr wname rdat ttl)
       | none => .error .missingDomainName) := by
  simp only [readPre, parseOpt]
  cases parseU32E t.1 with
  | error e => rfl
  | ok ttl => cases pd <;> rfl

theorem readPre_owner (a : Token) : readPre o pd pt { owner := some a, ttl := none } rdat =
    (match parseDomainOrWildcard o a.1 with
     | .error e => .error e
     | .ok wname => withInheritedTtl wname rdat pt) := by
  simp only [readPre, parseOpt]
  cases parseDomainOrWildcard o a.1 <;> rfl

theorem readPre_owner_ttl (a t : Token) : readPre o pd pt { owner := some a, ttl := some t } rdat =
    (match parseDomainOrWildcard o a.1 with
     | .error e => .error e
     | .ok wname =>
       match parseU32E t.1 with
       | .error e => .error e
       | .ok ttl => .ok (toRr wname rdat ttl)) := by
  simp only [readPre, parseOpt]
  cases parseDomainOrWildcard o a.1 with
  | error e => rfl
  | ok w => cases parseU32E t.1 <;> rfl

theorem readPre_bad (a : Token) : readPre o pd pt { owner := some a, ttl := none, bad := true } rdat =
    (match parseDomainOrWildcard o a.1 with
     | .error e => .error e
     | .ok _ => .error .unexpected) := by
  simp only [readPre, parseOpt]
  cases parseDomainOrWildcard o a.1 <;> rfl

end readPre

/-- the `<type> <rdata>` suffix as `parse_rr` finds it: from the fourth, third, second or first token, the first
    that is read; with it the tokens in front. -/
def findType (o : Option Name) (tokens : List Token) : Option (List Token × RData) :=
  [3, 2, 1, 0].findSome? fun k => (tryParseRtypeWithData o (tokens.drop k)).map fun rd => (tokens.take k, rd)

section parseRr
variable (o : Option Name) (pd : Option MaybeWildcard) (pt : Option Nat)

theorem parseRr4_eq (tokens : List Token) : parseRr4 o tokens
    = (tryParseRtypeWithData o (tokens.drop 3)).map (readPre o pd pt (preFields (tokens.take 3))) := by
  match tokens with
  | [] | [_] | [_, _] | [_, _, _] => rfl
  | a :: b :: c :: t :: rest =>
    simp only [parseRr4, List.drop_succ_cons, List.drop_zero, List.take_succ_cons, List.take_zero]
    cases tryParseRtypeWithData o (t :: rest) with
    | none => rfl
    | some rd =>
      refine congrArg some ?_
      simp only [preFields]
      by_cases hc : c.1 = sIN
      · simp only [hc, if_true]
        exact (readPre_owner_ttl o pd pt rd a b).symm
      · by_cases hb : b.1 = sIN
        · simp only [hc, hb, if_false, if_true]
          exact (readPre_owner_ttl o pd pt rd a c).symm
        · simp only [hc, hb, if_false]
          exact (readPre_bad o pd pt rd a).symm

theorem parseRr3_eq (tokens : List Token) : parseRr3 o pd pt tokens
    = (tryParseRtypeWithData o (tokens.drop 2)).map (readPre o pd pt (preFields (tokens.take 2))) := by
  match tokens with
  | [] | [_] | [_, _] => rfl
  | a :: b :: t :: rest =>
    simp only [parseRr3, List.drop_succ_cons, List.drop_zero, List.take_succ_cons, List.take_zero]
    cases tryParseRtypeWithData o (t :: rest) with
    | none => rfl
    | some rd =>
      refine congrArg some ?_
      simp only [preFields]
      by_cases hb : b.1 = sIN
      · rw [if_pos hb, if_pos hb]
        by_cases hd : allDigits a.1 = true
        · rw [if_pos hd, if_pos hd]
          exact (readPre_ttl o pd pt rd a).symm
        · rw [if_neg hd, if_neg hd]
          exact (readPre_owner o pd pt rd a).symm
      · rw [if_neg hb, if_neg hb]
        by_cases ha : a.1 = sIN
        · rw [if_pos ha, if_pos ha]
          exact (readPre_ttl o pd pt rd b).symm
        · rw [if_neg ha, if_neg ha]
          exact (readPre_owner_ttl o pd pt rd a b).symm

theorem parseRr2_eq (tokens : List Token) : parseRr2 o pd pt tokens
    = (tryParseRtypeWithData o (tokens.drop 1)).map (readPre o pd pt (preFields (tokens.take 1))) := by
  match tokens with
  | [] | [_] => rfl
  | a :: t :: rest =>
    simp only [parseRr2, List.drop_succ_cons, List.drop_zero, List.take_succ_cons, List.take_zero]
    cases tryParseRtypeWithData o (t :: rest) with
    | none => rfl
    | some rd =>
      refine congrArg some ?_
      simp only [preFields]
      by_cases ha : a.1 = sIN
      · rw [if_pos ha, if_pos ha]
        exact (readPre_nil o pd pt rd).symm
      · rw [if_neg ha, if_neg ha]
        by_cases hd : allDigits a.1 = true
        · rw [if_pos hd, if_pos hd]
          exact (readPre_ttl o pd pt rd a).symm
        · rw [if_neg hd, if_neg hd]
          exact (readPre_owner o pd pt rd a).symm

theorem parseRr1_eq (tokens : List Token) : parseRr1 o pd pt tokens
    = (tryParseRtypeWithData o tokens).map (readPre o pd pt (preFields [])) := by
  match tokens with
  | [] => rfl
  | t :: rest =>
    simp only [parseRr1]
    cases tryParseRtypeWithData o (t :: rest) with
    | none => rfl
    | some rd => exact congrArg some (readPre_nil o pd pt rd).symm

theorem parseRr_eq (tokens : List Token) :
    parseRr o pd pt tokens =
      if tokens.isEmpty then .error .wrongLen
      else match findType o tokens with
        | some (pre, rd) => readPre o pd pt (preFields pre) rd
        | none => .error .missingType := by
  unfold parseRr findType
  rw [parseRr4_eq o pd pt, parseRr3_eq, parseRr2_eq, parseRr1_eq]
  simp only [List.findSome?_cons, List.findSome?_nil, List.drop_zero, List.take_zero]
  cases tryParseRtypeWithData o (tokens.drop 3) <;> cases tryParseRtypeWithData o (tokens.drop 2) <;>
    cases tryParseRtypeWithData o (tokens.drop 1) <;> cases tryParseRtypeWithData o tokens <;> rfl

/-- the type token is the first one from which `try_parse_rtype_with_data` succeeds, tried from the fourth token
    backwards: behind `k` tokens and the type token, nothing up to the fourth token may start a readable `<type> <rdata>`. -/
def FirstType (o : Option Name) (k : Nat) (rd : List Token) : Prop :=
  ∀ j, k + 1 + j ≤ 3 → tryParseRtypeWithData o (rd.drop j) = none

theorem NoType.firstType {rd : List Token} (h : NoType rd) (o : Option Name) (k : Nat) : FirstType o k rd :=
  fun j _ => tryParse_noType o _ (h.drop j)

theorem firstType_three (o : Option Name) (rd : List Token) : FirstType o 3 rd := fun j hj => absurd hj (by omega)

theorem findType_pre (pre : List Token) (ty : Token) (rd : List Token) (rdat : RData) (hlen : pre.length ≤ 3)
    (hty : tryParseRtypeWithData o (ty :: rd) = some rdat) (hrd : FirstType o pre.length rd) :
    findType o (pre ++ ty :: rd) = some (pre, rdat) := by
  match pre, hlen, hrd with
  | [], _, hrd =>
    have n0 : tryParseRtypeWithData o rd = none := hrd 0 (by decide)
    have n1 := hrd 1 (by decide)
    have n2 := hrd 2 (by decide)
    simp only [findType, List.findSome?_cons, List.nil_append, List.drop_succ_cons, List.drop_zero, List.take_zero,
      n0, n1, n2, hty, Option.map_none, Option.map_some]
  | [a], _, hrd =>
    have n0 : tryParseRtypeWithData o rd = none := hrd 0 (Nat.le_succ 2)
    have n1 := hrd 1 (Nat.le_refl 3)
    simp only [findType, List.findSome?_cons, List.nil_append, List.cons_append, List.drop_succ_cons, List.drop_zero,
      List.take_succ_cons, List.take_zero, n0, n1, hty, Option.map_none, Option.map_some]
  | [a, b], _, hrd =>
    have n0 : tryParseRtypeWithData o rd = none := hrd 0 (Nat.le_refl 3)
    simp only [findType, List.findSome?_cons, List.nil_append, List.cons_append, List.drop_succ_cons, List.drop_zero,
      List.take_succ_cons, List.take_zero, n0, hty, Option.map_none, Option.map_some]
  | [a, b, c], _, _ =>
    simp only [findType, List.findSome?_cons, List.nil_append, List.cons_append, List.drop_succ_cons, List.drop_zero,
      List.take_succ_cons, List.take_zero, hty, Option.map_some]

/-- covers the ten shapes of a record line, and every error in front of the type. -/
theorem parseRr_pre (pre : List Token) (ty : Token) (rd : List Token) (rdat : RData) (hlen : pre.length ≤ 3)
    (hty : tryParseRtypeWithData o (ty :: rd) = some rdat) (hrd : FirstType o pre.length rd) :
    parseRr o pd pt (pre ++ ty :: rd) = readPre o pd pt (preFields pre) rdat := by
  rw [parseRr_eq, findType_pre o pre ty rd rdat hlen hty hrd, if_neg (by simp)]

theorem parseRr_ok_inv {tokens : List Token} {e : Entry} (h : parseRr o pd pt tokens = .ok e) :
    ∃ k rdat, k ≤ 3 ∧ tryParseRtypeWithData o (tokens.drop k) = some rdat ∧
      readPre o pd pt (preFields (tokens.take k)) rdat = .ok e := by
  rw [parseRr_eq] at h
  split at h
  · cases h
  · split at h
    · rename_i pre rd hf
      obtain ⟨k, hk, hkm⟩ := List.exists_of_findSome?_eq_some hf
      obtain ⟨rd', hrd, heq⟩ := Option.map_eq_some_iff.mp hkm
      obtain ⟨rfl, rfl⟩ := Prod.mk.inj heq
      refine ⟨k, rd', ?_, hrd, h⟩
      simp only [List.mem_cons, List.not_mem_nil, or_false] at hk
      omega
    · cases h

theorem parseRr_ok_sources {tokens : List Token} {e : Entry} (h : parseRr o pd pt tokens = .ok e) :
    ∃ ts rdat mw, tryParseRtypeWithData o ts = some rdat ∧
      ((∃ s, parseDomainOrWildcard o s = .ok mw) ∨ pd = some mw) ∧
      ((∃ s t, parseU32E s = .ok t ∧ e = toRr mw rdat t) ∨ withInheritedTtl mw rdat pt = .ok e) := by
  obtain ⟨k, rdat, -, hty, hpre⟩ := parseRr_ok_inv o pd pt h
  obtain ⟨w, ttl, hw, ht, h⟩ := readPre_ok hpre
  obtain ⟨mw, hmw, h⟩ := expectRr_ok h
  refine ⟨_, rdat, mw, hty, ?_, ?_⟩
  · rcases hmw with hmw | ⟨-, hmw⟩
    · obtain ⟨tok, hd⟩ := parseOpt_ok hw mw hmw
      exact .inl ⟨_, hd⟩
    · exact .inr hmw
  · rcases withTtl_ok h with ⟨t, htt, rfl⟩ | ⟨-, h⟩
    · obtain ⟨tok, hd⟩ := parseOpt_ok ht t htt
      exact .inl ⟨_, t, hd, rfl⟩
    · exact .inr h

theorem tryParse_drop_none (ty : Token) (rd : List Token) (hrd : NoType rd)
    (hty : tryParseRtypeWithData o (ty :: rd) = none) :
    ∀ (pre : List Token), NoType pre → ∀ j, tryParseRtypeWithData o ((pre ++ ty :: rd).drop j) = none := by
  intro pre
  induction pre with
  | nil =>
    intro _ j
    cases j with
    | zero => exact hty
    | succ j =>
      simp only [List.nil_append, List.drop_succ_cons]
      exact tryParse_noType o _ (hrd.drop j)
  | cons p ps ih =>
    intro hpre j
    cases j with
    | zero => exact tryParse_head_none o p _ (hpre p (by simp))
    | succ j =>
      simp only [List.cons_append, List.drop_succ_cons]
      exact ih hpre.tail j

theorem parseRr_missingType (pre : List Token) (ty : Token) (rd : List Token) (hpre : NoType pre) (hrd : NoType rd)
    (hty : tryParseRtypeWithData o (ty :: rd) = none) :
    parseRr o pd pt (pre ++ ty :: rd) = .error .missingType := by
  have hd := tryParse_drop_none o ty rd hrd hty pre hpre
  have hf : findType o (pre ++ ty :: rd) = none := by
    simp only [findType, List.findSome?_cons, List.findSome?_nil, hd, Option.map_none]
  rw [parseRr_eq, hf, if_neg (by simp)]

end parseRr

theorem toRr_not_soa (w : MaybeWildcard) {c : Nat} (fs : List FieldVal) (ttl : Nat) (hc : c ≠ 6) :
    toRr w ⟨c, fs⟩ ttl =
      match w with
      | .normal name => .rr { name, rtype := c, fields := fs, rclass := CLASS_IN, ttl }
      | .wildcard name => .wildcardRR { name, rtype := c, fields := fs, rclass := CLASS_IN, ttl } := by
  cases w <;> unfold toRr <;> simp only <;> split
  · exact absurd rfl hc
  · rfl
  · exact absurd rfl hc
  · rfl

theorem toRr_soa (w : MaybeWildcard) (soa : SOA) (t : Nat) :
    toRr w ⟨6, soa.toFields⟩ t =
      match w with
      | .normal name => .rr { name, rtype := 6, fields := soa.toFields, rclass := 1, ttl := soa.minimum }
      | .wildcard name => .wildcardRR { name, rtype := 6, fields := soa.toFields, rclass := 1, ttl := soa.minimum } := by
  cases w <;> rfl

/-! ## the rejections -/

theorem parseDomain_no_origin (s : List Char) (hne : s ≠ []) (hascii : s.all isAscii = true)
    (hrel : s.getLast? ≠ some '.') : parseDomain none s = .error .expectedOrigin := by
  rw [parseDomain_eq none hne hascii, if_neg hrel]
  split <;> rfl

theorem parseDomainOrWildcard_star_no_origin : parseDomainOrWildcard none ['*'] = .error .expectedOrigin := rfl

theorem withInheritedTtl_none (w : MaybeWildcard) (rd : RData) (h : rd.isSOA = false) :
    withInheritedTtl w rd none = .error .missingTTL := by
  simp [withInheritedTtl, h]

/-- a SOA needs no TTL (its TTL is its MINIMUM). -/
theorem withInheritedTtl_soa (w : MaybeWildcard) (rd : RData) (h : rd.isSOA = true) :
    withInheritedTtl w rd none = .ok (toRr w rd 0) := by
  simp [withInheritedTtl, h]

end Resolved.ZoneText
