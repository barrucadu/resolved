/-
  Hosts files, line and file level.  A line: slicing of ASCII lines (`At`), the split-based specification read
  from left to right (`parts`; a comment appended to a line changes nothing of it), the `parse_line` state machine step by step (`runLoop_step`) and its refinement to
  the specification (`parseLine_refines_spec`), what a line can come to (`Outcome`: never the model's `panic`).
  A file: `str::lines`, the fold over the lines (`deserialiseLines_ok/_error`), last mapping wins (`famGet`, both
  address maps as one lookup), the specification's `hostsOf`, listings that build the data (`Lists.foldl_equiv`);
  what `deserialise` returns has well-formed names (`WFName` of Props/C16: `HostsNamesWF`) and no key twice
  (`GoodHosts`, `deserialise_good`), the hypotheses of the conversion to a zone; `Hosts::merge`.
-/
import Resolved.Spec.HostsSpec
import Resolved.Props.C16
import Resolved.Proofs.Assoc
import Resolved.Proofs.Split

namespace Resolved

open HostsM

/-! ## character classes: the model's and the specification's agree -/

theorem ws_eq (c : Char) : HSpec.ws c = isWs c := by
  unfold HSpec.ws isWs
  generalize c.toNat = n
  rw [Bool.eq_iff_iff]
  simp only [List.contains_cons, List.contains_nil, Bool.or_false, Bool.or_eq_true, beq_iff_eq,
    Bool.and_eq_true, decide_eq_true_eq]
  omega

theorem hash_eq (c : Char) : HSpec.hash c = isHash c := rfl
theorem percent_eq (c : Char) : HSpec.percent c = isPercent c := rfl
theorem ascii_eq (c : Char) : HSpec.ascii c = isAscii c := rfl

theorem ws_ascii {c : Char} (h : isWs c = true) : isAscii c = true := by
  unfold isWs at h; unfold isAscii
  simp at h ⊢; omega

theorem hash_ascii {c : Char} (h : isHash c = true) : isAscii c = true := by
  unfold isHash at h; unfold isAscii
  simp at h ⊢; omega

theorem percent_ascii {c : Char} (h : isPercent c = true) : isAscii c = true := by
  unfold isPercent at h; unfold isAscii
  simp at h ⊢; omega

theorem hash_not_ws {c : Char} (h : isHash c = true) : isWs c = false := by
  unfold isHash at h; unfold isWs
  simp at h ⊢; omega

theorem percent_not_ws {c : Char} (h : isPercent c = true) : isWs c = false := by
  unfold isPercent at h; unfold isWs
  simp at h ⊢; omega

theorem percent_not_hash {c : Char} (h : isPercent c = true) : isHash c = false := by
  unfold isPercent at h; unfold isHash
  simp at h ⊢; omega

theorem ws_not_hash {c : Char} (h : isWs c = true) : isHash c = false := by
  cases hh : isHash c with
  | false => rfl
  | true => rw [hash_not_ws hh] at h; cases h

theorem nonascii_not_ws {c : Char} (h : isAscii c = false) : isWs c = false := by
  cases hw : isWs c with
  | false => rfl
  | true => rw [ws_ascii hw] at h; cases h

theorem nonascii_not_hash {c : Char} (h : isAscii c = false) : isHash c = false := by
  cases hw : isHash c with
  | false => rfl
  | true => rw [hash_ascii hw] at h; cases h

theorem nonascii_not_percent {c : Char} (h : isAscii c = false) : isPercent c = false := by
  cases hw : isPercent c with
  | false => rfl
  | true => rw [percent_ascii hw] at h; cases h

/-! ## `&line[a..b]` on an ASCII prefix never panics -/

theorem utf8Len_ascii {c : Char} (h : isAscii c = true) : utf8Len c = 1 := by
  unfold isAscii at h; unfold utf8Len
  simp at h; simp [h]

def AllAscii (s : List Char) : Prop := ∀ c ∈ s, isAscii c = true

theorem dropBytes_ascii (a b : List Char) (ha : AllAscii a) : dropBytes (a ++ b) a.length = some b := by
  induction a with
  | nil => cases b <;> simp [dropBytes]
  | cons c cs ih =>
    have hc : utf8Len c = 1 := utf8Len_ascii (ha c (by simp))
    simp only [List.cons_append, List.length_cons, dropBytes, hc]
    simp
    exact ih (fun d hd => ha d (by simp [hd]))

theorem takeBytes_ascii (a b : List Char) (ha : AllAscii a) : takeBytes (a ++ b) a.length = some a := by
  induction a with
  | nil => cases b <;> simp [takeBytes]
  | cons c cs ih =>
    have hc : utf8Len c = 1 := utf8Len_ascii (ha c (by simp))
    simp only [List.cons_append, List.length_cons, takeBytes, hc]
    simp
    exact ih (fun d hd => ha d (by simp [hd]))

theorem strSlice_ascii (p q r : List Char) (hp : AllAscii p) (hq : AllAscii q) :
    strSlice (p ++ q ++ r) p.length (p.length + q.length) = some q := by
  unfold strSlice
  rw [if_pos (by omega), List.append_assoc, dropBytes_ascii p (q ++ r) hp]
  simp only [Nat.add_sub_cancel_left]
  exact takeBytes_ascii q r hq

/-- the loop stands at byte offset `i` of `line`: behind the characters `pre`, before `rest`.  `pre` is
    ASCII: the Rust slices `line` by byte offsets, and only then is the offset the number of characters
    passed, so that `&line[start..i]` is the field read so far (`At.slice`). -/
structure At (line pre rest : List Char) (i : Nat) : Prop where
  split : line = pre ++ rest
  ascii : AllAscii pre
  pos : i = pre.length

theorem At.start (line : List Char) : At line [] line 0 := ⟨rfl, fun _ hc => (nomatch hc), rfl⟩

theorem At.step {line pre cs : List Char} {c : Char} {i : Nat} (h : At line pre (c :: cs) i)
    (ha : isAscii c = true) : At line (pre ++ [c]) cs (i + 1) := by
  refine ⟨by rw [h.split, List.append_assoc]; rfl, ?_, by rw [h.pos, List.length_append]; rfl⟩
  intro d hd
  rcases List.mem_append.mp hd with hd | hd
  · exact h.ascii d hd
  · rw [List.mem_singleton.mp hd]; exact ha

theorem At.slice {line p0 cur rest : List Char} {i : Nat} (h : At line (p0 ++ cur) rest i) :
    strSlice line p0.length i = some cur := by
  rw [h.split, h.pos, List.length_append]
  exact strSlice_ascii p0 cur rest (fun c hc => h.ascii c (List.mem_append_left _ hc))
    (fun c hc => h.ascii c (List.mem_append_right _ hc))

theorem At.dropBytes {line p0 cur : List Char} {i : Nat} (h : At line (p0 ++ cur) [] i) :
    dropBytes line p0.length = some cur := by
  rw [h.split, List.append_nil]
  exact dropBytes_ascii p0 cur (fun c hc => h.ascii c (List.mem_append_left _ hc))

/-! ## the specification read from left to right -/

namespace HSpec

def NoWs (s : List Char) : Prop := ∀ c ∈ s, ws c = false
def NoHash (s : List Char) : Prop := ∀ c ∈ s, hash c = false

theorem splitRaw_eq_on (s : List Char) : splitRaw s = Split.on (ws · = true) s := by
  induction s with
  | nil => rfl
  | cons b bs ih =>
    rw [splitRaw, Split.on, ih]
    cases Split.on (ws · = true) bs <;> rfl

theorem NoWs.not_ws {cur : List Char} (h : NoWs cur) : ∀ c ∈ cur, ¬ ws c = true :=
  fun c hc => by rw [h c hc]; exact Bool.false_ne_true

theorem splitRaw_ne_nil (l : List Char) : splitRaw l ≠ [] :=
  splitRaw_eq_on l ▸ Split.on_ne_nil _ l

theorem splitRaw_append_noWs (cur l : List Char) (h : NoWs cur) {p : List Char} {ps : List (List Char)}
    (hs : splitRaw l = p :: ps) : splitRaw (cur ++ l) = (cur ++ p) :: ps := by
  rw [splitRaw_eq_on] at hs ⊢
  exact Split.on_append_of_none h.not_ws hs

theorem splitRaw_noWs (cur : List Char) (h : NoWs cur) : splitRaw cur = [cur] :=
  (splitRaw_eq_on cur).trans (Split.on_of_none h.not_ws)

theorem splitRaw_append_ws (cur b : List Char) (w : Char) (h : NoWs cur) (hw : ws w = true) :
    splitRaw (cur ++ w :: b) = cur :: splitRaw b := by
  simp only [splitRaw_eq_on]
  exact Split.on_append_sep_of_none h.not_ws hw b

theorem fields_noWs (cur : List Char) (h : NoWs cur) : fields cur = if cur.isEmpty then [] else [cur] := by
  unfold fields
  rw [splitRaw_noWs cur h]
  cases cur <;> simp

theorem fields_append_ws (cur b : List Char) (w : Char) (h : NoWs cur) (hw : ws w = true) :
    fields (cur ++ w :: b) = (if cur.isEmpty then [] else [cur]) ++ fields b := by
  unfold fields
  rw [splitRaw_append_ws cur b w h hw]
  cases cur <;> simp

theorem fields_ws_cons (b : List Char) (w : Char) (hw : ws w = true) : fields (w :: b) = fields b := by
  have := fields_append_ws [] b w (by intro c hc; simp at hc) hw
  simpa using this

theorem fields_head (cur b : List Char) (c : Char) (h : NoWs cur) (hc : ws c = false) :
    ∃ x y, fields (cur ++ c :: b) = (cur ++ c :: x) :: y := by
  obtain ⟨p, ps, hs⟩ := List.exists_cons_of_ne_nil (splitRaw_ne_nil b)
  have hcb : splitRaw (c :: b) = (c :: p) :: ps := by rw [splitRaw, if_neg (by simp [hc]), hs]
  refine ⟨p, ps.filter (fun f => !f.isEmpty), ?_⟩
  unfold fields
  rw [splitRaw_append_noWs cur _ h hcb]
  simp

theorem body_nil : body [] = [] := rfl

theorem body_hash_cons (c : Char) (cs : List Char) (h : hash c = true) : body (c :: cs) = [] := by
  simp [body, List.takeWhile, h]

theorem body_cons (c : Char) (cs : List Char) (h : hash c = false) : body (c :: cs) = c :: body cs := by
  simp [body, List.takeWhile, h]

theorem body_append_noHash (cur l : List Char) (h : NoHash cur) : body (cur ++ l) = cur ++ body l :=
  List.takeWhile_append_of_pos (fun c hc => by rw [h c hc]; rfl)

theorem body_noHash (cur : List Char) (h : NoHash cur) : body cur = cur := by
  have := body_append_noHash cur [] h
  simpa [body_nil] using this

/-- `commentCheck` of the text behind a `#` -/
def afterHash (cs : List Char) : Option Char :=
  match cs.dropWhile hash with
  | [] => none
  | d :: _ => if ascii d then none else some d

theorem commentCheck_nil : commentCheck [] = none := rfl

theorem commentCheck_hash_cons (c : Char) (cs : List Char) (h : hash c = true) :
    commentCheck (c :: cs) = afterHash cs := by
  simp [commentCheck, comment, List.dropWhile, h, afterHash]
  rfl

theorem commentCheck_cons (c : Char) (cs : List Char) (h : hash c = false) :
    commentCheck (c :: cs) = commentCheck cs := by
  simp [commentCheck, comment, List.dropWhile, h]

theorem commentCheck_append_noHash (cur l : List Char) (h : NoHash cur) :
    commentCheck (cur ++ l) = commentCheck l := by
  induction cur with
  | nil => rfl
  | cons c cs ih =>
    simp only [List.cons_append]
    rw [commentCheck_cons _ _ (h c (by simp)), ih (fun d hd => h d (by simp [hd]))]

theorem commentCheck_noHash (cur : List Char) (h : NoHash cur) : commentCheck cur = none := by
  have := commentCheck_append_noHash cur [] h
  simpa [commentCheck_nil] using this

theorem afterHash_nil : afterHash [] = none := rfl

theorem afterHash_hash_cons (c : Char) (cs : List Char) (h : hash c = true) :
    afterHash (c :: cs) = afterHash cs := by
  simp [afterHash, List.dropWhile, h]

theorem afterHash_cons (c : Char) (cs : List Char) (h : hash c = false) :
    afterHash (c :: cs) = if ascii c then none else some c := by
  simp [afterHash, List.dropWhile, h]

theorem firstFieldTerminated_ws_cons (c : Char) (b : List Char) (h : ws c = true) :
    firstFieldTerminated (c :: b) = firstFieldTerminated b := by
  simp [firstFieldTerminated, List.dropWhile, h]

theorem firstFieldTerminated_field (c : Char) (cur l : List Char) (hc : ws c = false) (h : NoWs cur) :
    firstFieldTerminated (c :: cur ++ l) = !(l.dropWhile (fun c => !ws c)).isEmpty := by
  unfold firstFieldTerminated
  have : (c :: cur ++ l).dropWhile ws = c :: cur ++ l := by simp [hc]
  rw [this]
  have h' : NoWs (c :: cur) := by
    intro d hd; simp at hd; rcases hd with rfl | hd
    · exact hc
    · exact h d hd
  rw [List.dropWhile_append_of_pos (fun d hd => by rw [h' d hd]; rfl)]

theorem firstNonAscii_ascii (s : List Char) (h : AllAscii s) : firstNonAscii s = none := by
  unfold firstNonAscii
  rw [List.find?_eq_none]
  intro c hc
  simp [ascii_eq, h c hc]

theorem firstNonAscii_append (cur x : List Char) (c : Char) (h : AllAscii cur) (hc : isAscii c = false) :
    firstNonAscii (cur ++ c :: x) = some c := by
  induction cur with
  | nil => simp [firstNonAscii, ascii_eq, hc]
  | cons d ds ih =>
    simp only [List.cons_append, firstNonAscii, List.find?, ascii_eq, h d (by simp), Bool.not_true]
    exact ih (fun e he => h e (by simp [he]))

/-- what `HSpec.parseLine` computes of a line before it looks at a field: the fields, whether white space follows
    the first, the verdict on the comment -/
def parts (l : List Char) : List (List Char) × Bool × Option Char :=
  (fields (body l), firstFieldTerminated (body l), commentCheck l)

theorem parts_ws_cons (w : Char) (cs : List Char) (hw : ws w = true) (hh : hash w = false) :
    parts (w :: cs) = parts cs := by
  unfold parts
  rw [body_cons w cs hh, fields_ws_cons _ w hw, firstFieldTerminated_ws_cons w _ hw, commentCheck_cons w cs hh]

theorem parts_hash_cons (c : Char) (cs : List Char) (hh : hash c = true) :
    parts (c :: cs) = ([], false, afterHash cs) := by
  unfold parts
  rw [body_hash_cons c cs hh, commentCheck_hash_cons c cs hh]
  rfl

theorem fields_unterminated_field (cur : List Char) (h : NoWs cur) (hne : cur ≠ []) :
    fields cur = [cur] ∧ firstFieldTerminated cur = false := by
  cases cur with
  | nil => exact absurd rfl hne
  | cons d t =>
    refine ⟨by rw [fields_noWs _ h]; rfl, ?_⟩
    have := firstFieldTerminated_field d t [] (h d (by simp)) (fun e he => h e (by simp [he]))
    simp only [List.append_nil] at this
    rw [this]
    rfl

theorem parts_field_end (cur : List Char) (hw : NoWs cur) (hh : NoHash cur) (hne : cur ≠ []) :
    parts cur = ([cur], false, none) := by
  unfold parts
  rw [body_noHash cur hh, (fields_unterminated_field cur hw hne).1, (fields_unterminated_field cur hw hne).2,
    commentCheck_noHash cur hh]

theorem parts_field_hash (cur cs : List Char) (c : Char) (hw : NoWs cur) (hh : NoHash cur)
    (hne : cur ≠ []) (hc : hash c = true) : parts (cur ++ c :: cs) = ([cur], false, afterHash cs) := by
  unfold parts
  rw [body_append_noHash cur _ hh, body_hash_cons c cs hc, List.append_nil,
    (fields_unterminated_field cur hw hne).1, (fields_unterminated_field cur hw hne).2,
    commentCheck_append_noHash cur _ hh, commentCheck_hash_cons c cs hc]

theorem parts_field_ws (cur cs : List Char) (w : Char) (hw : NoWs cur) (hh : NoHash cur)
    (hne : cur ≠ []) (hws : ws w = true) (hwh : hash w = false) :
    parts (cur ++ w :: cs) = (cur :: (parts cs).1, true, (parts cs).2.2) := by
  unfold parts
  rw [body_append_noHash cur _ hh, body_cons w cs hwh, fields_append_ws cur _ w hw hws,
    commentCheck_append_noHash cur _ hh, commentCheck_cons w cs hwh]
  cases cur with
  | nil => exact absurd rfl hne
  | cons d t =>
    rw [firstFieldTerminated_field d t (w :: body cs) (hw d (by simp)) (fun e he => hw e (by simp [he]))]
    simp only [List.dropWhile, hws, Bool.not_true, List.isEmpty_cons, Bool.not_false,
      Bool.false_eq_true, if_false, List.singleton_append]

theorem parts_field_other (cur cs : List Char) (c : Char) (hw : NoWs cur) (hh : NoHash cur)
    (hcw : ws c = false) (hch : hash c = false) :
    ∃ x y, (parts (cur ++ c :: cs)).1 = (cur ++ c :: x) :: y := by
  unfold parts
  rw [body_append_noHash cur _ hh, body_cons c cs hch]
  exact fields_head cur (body cs) c hw hcw

end HSpec

namespace HostsM

section

open HSpec

/-! ## a comment may start anywhere -/

theorem afterHash_append_comment (p2 rest : List Char) (c : Char) (hc : isHash c = true)
    (hr : afterHash rest = none) : afterHash (p2 ++ c :: rest) = afterHash p2 := by
  induction p2 with
  | nil => simp only [List.nil_append]; rw [afterHash_hash_cons c rest hc, hr, afterHash_nil]
  | cons d ds ih =>
    simp only [List.cons_append]
    cases hd : isHash d with
    | true => rw [afterHash_hash_cons d _ hd, afterHash_hash_cons d _ hd, ih]
    | false => rw [afterHash_cons d _ hd, afterHash_cons d _ hd]

theorem commentCheck_append_comment (pre rest : List Char) (c : Char) (hc : isHash c = true)
    (hr : afterHash rest = none) : commentCheck (pre ++ c :: rest) = commentCheck pre := by
  induction pre with
  | nil => simp only [List.nil_append]; rw [commentCheck_hash_cons c rest hc, hr, commentCheck_nil]
  | cons d ds ih =>
    simp only [List.cons_append]
    cases hd : isHash d with
    | true =>
      rw [commentCheck_hash_cons d _ hd, commentCheck_hash_cons d _ hd,
        afterHash_append_comment ds rest c hc hr]
    | false => rw [commentCheck_cons d _ hd, commentCheck_cons d _ hd, ih]

theorem body_append_comment (pre rest : List Char) (c : Char) (hc : isHash c = true) :
    body (pre ++ c :: rest) = body pre := by
  induction pre with
  | nil => simp only [List.nil_append]; rw [body_hash_cons c rest hc, body_nil]
  | cons d ds ih =>
    simp only [List.cons_append]
    cases hd : isHash d with
    | true => rw [body_hash_cons d _ hd, body_hash_cons d _ hd]
    | false => rw [body_cons d _ hd, body_cons d _ hd, ih]

end

/-! ## one step of the state machine -/

/-- the rest of `parse_line` from a state of its loop: `lineLoop` on what is left of the line, then `finishLine` -/
def runLoop (line rest : List Char) (i : Nat) (st : PState) (a : IpAddr) (names : List Name) :
    Except HErr (Option (IpAddr × List Name)) :=
  match lineLoop line rest i st a names with
  | .error e => .error e
  | .ok out => finishLine line out

theorem parseLine_eq_runLoop (line : List Char) :
    parseLine line = runLoop line line 0 .skipToAddress LOCALHOST [] := rfl

theorem nameSetInsert_eq (ns : List Name) (n : Name) : nameSetInsert ns n = HSpec.addIfNew ns n := rfl

theorem finishLine_other (line : List Char) (st : PState) (a : IpAddr) (names : List Name)
    (h : ∀ s, st ≠ .readingName s) : finishLine line ⟨st, a, names⟩ = .ok (HSpec.lineResult a names) := by
  unfold finishLine HSpec.lineResult
  cases st with
  | readingName s => exact absurd rfl (h s)
  | _ => cases names <;> rfl

theorem runLoop_nil_other {line : List Char} {i : Nat} {st : PState} {a : IpAddr} {names : List Name}
    (h : ∀ s, st ≠ .readingName s) :
    runLoop line [] i st a names = .ok (HSpec.lineResult a names) :=
  finishLine_other line st a names h

theorem runLoop_nil_readingName {line : List Char} {i start : Nat} {a : IpAddr} {names : List Name}
    {s : List Char} (hs : dropBytes line start = some s) :
    runLoop line [] i (.readingName start) a names =
      match addName names s with
      | .error e => .error e
      | .ok names' => .ok (HSpec.lineResult a names') := by
  rw [runLoop, lineLoop.eq_def]
  simp only [finishLine, hs]
  cases addName names s with
  | error e => rfl
  | ok ns => cases ns <;> rfl

theorem runLoop_nonascii {line cs : List Char} {c : Char} {i : Nat} {st : PState} {a : IpAddr}
    {names : List Name} (h : isAscii c = false) :
    runLoop line (c :: cs) i st a names = .error (.expectedAscii c) := by
  rw [runLoop, lineLoop.eq_def]
  simp only [h, Bool.not_false, if_true]

theorem runLoop_hash_other {line cs : List Char} {c : Char} {i : Nat} {st : PState} {a : IpAddr}
    {names : List Name} (hh : isHash c = true) (h : ∀ s, st ≠ .readingName s) :
    runLoop line (c :: cs) i st a names = runLoop line cs (i + 1) .commentToEndOfLine a names := by
  have ha := hash_ascii hh
  rw [runLoop, lineLoop.eq_def]
  simp only [ha, hh, utf8Len_ascii ha, Bool.not_true, Bool.false_eq_true, if_false, if_true]
  cases st with
  | readingName s => exact absurd rfl (h s)
  | _ => rfl

theorem runLoop_hash_readingName {line cs : List Char} {c : Char} {i start : Nat} {a : IpAddr}
    {names : List Name} (hh : isHash c = true) {s : List Char} (hs : strSlice line start i = some s) :
    runLoop line (c :: cs) i (.readingName start) a names =
      match addName names s with
      | .error e => .error e
      | .ok names' => runLoop line cs (i + 1) .commentToEndOfLine a names' := by
  have ha := hash_ascii hh
  rw [runLoop, lineLoop.eq_def]
  simp only [ha, hh, utf8Len_ascii ha, hs, Bool.not_true, Bool.false_eq_true, if_false, if_true]
  cases addName names s <;> rfl

theorem runLoop_step {line cs : List Char} {c : Char} {i : Nat} {st : PState} {a : IpAddr}
    {names : List Name} (ha : isAscii c = true) (hh : isHash c = false) :
    runLoop line (c :: cs) i st a names =
      match st with
      | .commentToEndOfLine => .ok (HSpec.lineResult a names)
      | .skipToAddress =>
        runLoop line cs (i + 1) (if isWs c then .skipToAddress else .readingAddress i) a names
      | .readingAddress start =>
        if isPercent c then .ok (HSpec.lineResult a names)
        else if isWs c then
          match strSlice line start i with
          | none => .error .panic
          | some s =>
            match Ip.parseIpAddr (utf8Encode s) with
            | some a' => runLoop line cs (i + 1) .skipToName a' names
            | none => .error (.couldNotParseAddress s)
        else runLoop line cs (i + 1) st a names
      | .skipToName =>
        runLoop line cs (i + 1) (if isWs c then .skipToName else .readingName i) a names
      | .readingName start =>
        if isWs c then
          match strSlice line start i with
          | none => .error .panic
          | some s =>
            match addName names s with
            | .error e => .error e
            | .ok names' => runLoop line cs (i + 1) .skipToName a names'
        else runLoop line cs (i + 1) st a names := by
  rw [runLoop, lineLoop.eq_def]
  simp only [ha, hh, utf8Len_ascii ha, Bool.not_true, Bool.false_eq_true, if_false]
  cases st with
  | commentToEndOfLine => exact finishLine_other line _ a names (by intro s; simp)
  | skipToAddress => cases isWs c <;> rfl
  | skipToName => cases isWs c <;> rfl
  | readingAddress start =>
    simp only
    cases isPercent c with
    | true => exact finishLine_other line _ a names (by intro s; simp)
    | false =>
      cases isWs c with
      | false => rfl
      | true =>
        simp only [if_true, Bool.false_eq_true, if_false]
        cases strSlice line start i with
        | none => rfl
        | some s =>
          simp only
          cases Ip.parseIpAddr (utf8Encode s) <;> rfl
  | readingName start =>
    simp only
    cases isWs c with
    | false => rfl
    | true =>
      simp only [if_true]
      cases strSlice line start i with
      | none => rfl
      | some s =>
        simp only
        cases addName names s <;> rfl

/-! ## the state machine against the specification, state by state -/

open HSpec

/-- the specification's verdict on the rest of a line once the machine is in `commentToEndOfLine` with result `r` -/
def specC (r : Option (IpAddr × List Name)) (cs : List Char) : Except HErr (Option (IpAddr × List Name)) :=
  finishComment (afterHash cs) r

theorem runLoop_comment (line rest : List Char) : ∀ (i : Nat) (a : IpAddr) (names : List Name),
    runLoop line rest i .commentToEndOfLine a names = specC (lineResult a names) rest := by
  induction rest with
  | nil =>
    intro i a names
    rw [runLoop_nil_other (by intro s; simp)]
    simp [specC, afterHash_nil, finishComment]
  | cons c cs ih =>
    intro i a names
    cases ha : isAscii c with
    | true =>
      cases hh : isHash c with
      | true =>
        rw [runLoop_hash_other hh (by intro s; simp), ih]
        simp [specC, afterHash_hash_cons c cs hh]
      | false =>
        rw [runLoop_step ha hh]
        simp [specC, afterHash_cons c cs hh, ascii_eq, ha, finishComment]
    | false =>
      rw [runLoop_nonascii ha]
      simp [specC, afterHash_cons c cs (nonascii_not_hash ha), ascii_eq, ha, finishComment]

/-- the specification's verdict on the rest of a line once the address `a` and the names `acc` are read and the
    machine stands between fields (`skipToName`) -/
def specSN (a : IpAddr) (acc : List Name) (rest : List Char) : Except HErr (Option (IpAddr × List Name)) :=
  match readNames (parts rest).1 acc with
  | .error e => .error e
  | .ok names => finishComment (parts rest).2.2 (lineResult a names)

theorem readNames_cons_ascii (f : List Char) (fs : List (List Char)) (acc : List Name) (hf : AllAscii f) :
    readNames (f :: fs) acc =
      match addName acc f with
      | .error e => .error e
      | .ok names' => readNames fs names' := by
  rw [readNames, firstNonAscii_ascii f hf]
  unfold addName
  cases Name.fromRelativeDotted Name.root (utf8Encode f) <;> simp [nameSetInsert_eq]

theorem specSN_nil (a : IpAddr) (acc : List Name) : specSN a acc [] = .ok (lineResult a acc) := rfl

theorem specSN_ws_cons (a : IpAddr) (acc : List Name) (w : Char) (cs : List Char) (hw : isWs w = true) :
    specSN a acc (w :: cs) = specSN a acc cs := by
  unfold specSN
  rw [parts_ws_cons w cs (by rw [ws_eq]; exact hw) (ws_not_hash hw)]

theorem specSN_hash_cons (a : IpAddr) (acc : List Name) (c : Char) (cs : List Char) (hh : isHash c = true) :
    specSN a acc (c :: cs) = specC (lineResult a acc) cs := by
  unfold specSN
  rw [parts_hash_cons c cs hh]
  rfl

/-- characters that can stand inside one field -/
structure FieldOK (cur : List Char) : Prop where
  ascii : AllAscii cur
  noWs : NoWs cur
  noHash : NoHash cur

theorem FieldOK.nil : FieldOK [] := ⟨by intro c hc; simp at hc, by intro c hc; simp at hc, by intro c hc; simp at hc⟩

theorem FieldOK.snoc {cur : List Char} (h : FieldOK cur) (c : Char) (ha : isAscii c = true)
    (hw : isWs c = false) (hh : isHash c = false) : FieldOK (cur ++ [c]) := by
  refine ⟨?_, ?_, ?_⟩
  · intro d hd; simp at hd; rcases hd with hd | rfl
    · exact h.ascii d hd
    · exact ha
  · intro d hd; simp at hd; rcases hd with hd | rfl
    · exact h.noWs d hd
    · rw [ws_eq]; exact hw
  · intro d hd; simp at hd; rcases hd with hd | rfl
    · exact h.noHash d hd
    · exact hh

theorem specSN_field_end (a : IpAddr) (acc : List Name) (cur : List Char) (h : FieldOK cur) (hne : cur ≠ []) :
    specSN a acc cur =
      match addName acc cur with
      | .error e => .error e
      | .ok names' => .ok (lineResult a names') := by
  unfold specSN
  rw [parts_field_end cur h.noWs h.noHash hne]
  simp only
  rw [readNames_cons_ascii cur [] acc h.ascii]
  cases addName acc cur <;> rfl

theorem specSN_field_ws (a : IpAddr) (acc : List Name) (cur cs : List Char) (w : Char) (h : FieldOK cur)
    (hne : cur ≠ []) (hw : isWs w = true) :
    specSN a acc (cur ++ w :: cs) =
      match addName acc cur with
      | .error e => .error e
      | .ok names' => specSN a names' cs := by
  unfold specSN
  rw [parts_field_ws cur cs w h.noWs h.noHash hne (by rw [ws_eq]; exact hw) (ws_not_hash hw)]
  simp only
  rw [readNames_cons_ascii cur _ acc h.ascii]
  cases addName acc cur <;> rfl

theorem specSN_field_hash (a : IpAddr) (acc : List Name) (cur cs : List Char) (c : Char) (h : FieldOK cur)
    (hne : cur ≠ []) (hh : isHash c = true) :
    specSN a acc (cur ++ c :: cs) =
      match addName acc cur with
      | .error e => .error e
      | .ok names' => specC (lineResult a names') cs := by
  unfold specSN
  rw [parts_field_hash cur cs c h.noWs h.noHash hne hh]
  simp only
  rw [readNames_cons_ascii cur [] acc h.ascii]
  cases addName acc cur <;> rfl

theorem specSN_field_nonascii (a : IpAddr) (acc : List Name) (cur cs : List Char) (c : Char) (h : FieldOK cur)
    (ha : isAscii c = false) :
    specSN a acc (cur ++ c :: cs) = .error (.expectedAscii c) := by
  obtain ⟨x, y, hxy⟩ := parts_field_other cur cs c h.noWs h.noHash
    (by rw [ws_eq]; exact nonascii_not_ws ha) (nonascii_not_hash ha)
  unfold specSN
  rw [hxy, readNames, firstNonAscii_append cur x c h.ascii ha]

/-- One induction over the rest of the line proves both conjuncts together: the machine between fields, and inside
    a field whose passed part is `cur`.  Each step advances the machine by `runLoop_step` and the specification by the
    equation for the same character class (`specSN_*`, built on `parts_*`); `At` keeps the byte offset equal to the
    number of characters passed, so the slices the machine takes are the fields. -/
theorem runLoop_names (rest : List Char) :
    (∀ (line pre : List Char) (i : Nat) (a : IpAddr) (names : List Name), At line pre rest i →
      runLoop line rest i .skipToName a names = specSN a names rest) ∧
    (∀ (line p0 cur : List Char) (i : Nat) (a : IpAddr) (names : List Name),
      At line (p0 ++ cur) rest i → FieldOK cur → cur ≠ [] →
      runLoop line rest i (.readingName p0.length) a names = specSN a names (cur ++ rest)) := by
  induction rest with
  | nil =>
    constructor
    · intro line pre i a names _
      rw [runLoop_nil_other (by intro s; simp), specSN_nil]
    · intro line p0 cur i a names hat hc hne
      rw [runLoop_nil_readingName hat.dropBytes, List.append_nil,
        specSN_field_end a names cur hc hne]
  | cons c cs ih =>
    obtain ⟨ihS, ihR⟩ := ih
    constructor
    · intro line pre i a names hat
      cases ha : isAscii c with
      | false =>
        rw [runLoop_nonascii ha]
        exact (specSN_field_nonascii a names [] cs c FieldOK.nil ha).symm
      | true =>
        cases hh : isHash c with
        | true =>
          rw [runLoop_hash_other hh (by intro s; simp), runLoop_comment,
            specSN_hash_cons a names c cs hh]
        | false =>
          cases hw : isWs c with
          | true =>
            rw [runLoop_step ha hh, specSN_ws_cons a names c cs hw]
            simp only [hw, if_true]
            exact ihS line _ _ a names (hat.step ha)
          | false =>
            have hpos := hat.pos
            subst hpos
            rw [runLoop_step ha hh]
            simp only [hw, Bool.false_eq_true, if_false]
            exact ihR line pre [c] _ a names (hat.step ha) (FieldOK.nil.snoc c ha hw hh) (by simp)
    · intro line p0 cur i a names hat hc hne
      have hslice := hat.slice
      cases ha : isAscii c with
      | false =>
        rw [runLoop_nonascii ha, specSN_field_nonascii a names cur cs c hc ha]
      | true =>
        cases hh : isHash c with
        | true =>
          rw [runLoop_hash_readingName hh hslice,
            specSN_field_hash a names cur cs c hc hne hh]
          cases addName names cur with
          | error e => rfl
          | ok names' => exact runLoop_comment _ _ _ _ _
        | false =>
          cases hw : isWs c with
          | true =>
            rw [runLoop_step ha hh, specSN_field_ws a names cur cs c hc hne hw]
            simp only [hw, if_true, hslice]
            cases addName names cur with
            | error e => rfl
            | ok names' => exact ihS line _ _ a names' (hat.step ha)
          | false =>
            rw [runLoop_step ha hh]
            simp only [hw, Bool.false_eq_true, if_false]
            have := ihR line p0 (cur ++ [c]) _ a names (List.append_assoc p0 cur [c] ▸ hat.step ha)
              (hc.snoc c ha hw hh) (by simp)
            rw [List.append_assoc] at this
            exact this

/-! ### the address field -/

def NoPct (s : List Char) : Prop := ∀ c ∈ s, percent c = false

theorem any_percent_false (s : List Char) (h : NoPct s) : s.any percent = false := by
  rw [List.any_eq_false]
  intro c hc
  simp [h c hc]

theorem lineResult_nil (a : IpAddr) : lineResult a [] = none := rfl

theorem parseLine_eq_parts (l : List Char) :
    HSpec.parseLine l = parseFields (parts l).1 (parts l).2.1 (parts l).2.2 := rfl

theorem parseLine_nil : HSpec.parseLine [] = .ok none := rfl

theorem parseLine_ws_cons (w : Char) (cs : List Char) (hw : isWs w = true) :
    HSpec.parseLine (w :: cs) = HSpec.parseLine cs := by
  rw [parseLine_eq_parts, parts_ws_cons w cs (by rw [ws_eq]; exact hw) (ws_not_hash hw), parseLine_eq_parts]

theorem parseLine_hash_cons (c : Char) (cs : List Char) (hh : isHash c = true) :
    HSpec.parseLine (c :: cs) = specC none cs := by
  rw [parseLine_eq_parts, parts_hash_cons c cs hh]
  rfl

theorem parseFields_addr (cur : List Char) (fs : List (List Char)) (t : Bool) (cc : Option Char)
    (h : FieldOK cur) (hp : NoPct (cur.drop 1)) :
    parseFields (cur :: fs) t cc =
      if fs.isEmpty && !t then finishComment cc none
      else
        match Ip.parseIpAddr (utf8Encode cur) with
        | none => .error (.couldNotParseAddress cur)
        | some a =>
          match readNames fs [] with
          | .error e => .error e
          | .ok names => finishComment cc (lineResult a names) := by
  rw [parseFields]
  simp only [any_percent_false _ hp, Bool.false_eq_true, if_false, firstNonAscii_ascii cur h.ascii]
  rfl

theorem parseLine_addr_end (cur : List Char) (h : FieldOK cur) (hne : cur ≠ []) (hp : NoPct (cur.drop 1)) :
    HSpec.parseLine cur = .ok none := by
  rw [parseLine_eq_parts, parts_field_end cur h.noWs h.noHash hne]
  simp only
  rw [parseFields_addr cur [] _ _ h hp]
  rfl

theorem parseLine_addr_hash (cur cs : List Char) (c : Char) (h : FieldOK cur) (hne : cur ≠ [])
    (hp : NoPct (cur.drop 1)) (hh : isHash c = true) :
    HSpec.parseLine (cur ++ c :: cs) = specC none cs := by
  rw [parseLine_eq_parts, parts_field_hash cur cs c h.noWs h.noHash hne hh]
  simp only
  rw [parseFields_addr cur [] _ _ h hp]
  rfl

theorem parseLine_addr_ws (cur cs : List Char) (w : Char) (h : FieldOK cur) (hne : cur ≠ [])
    (hp : NoPct (cur.drop 1)) (hw : isWs w = true) :
    HSpec.parseLine (cur ++ w :: cs) =
      match Ip.parseIpAddr (utf8Encode cur) with
      | some a => specSN a [] cs
      | none => .error (.couldNotParseAddress cur) := by
  rw [parseLine_eq_parts,
    parts_field_ws cur cs w h.noWs h.noHash hne (by rw [ws_eq]; exact hw) (ws_not_hash hw)]
  simp only
  rw [parseFields_addr cur _ _ _ h hp]
  simp only [Bool.not_true, Bool.and_false, Bool.false_eq_true, if_false]
  cases Ip.parseIpAddr (utf8Encode cur) <;> rfl

theorem parseLine_addr_percent (cur cs : List Char) (c : Char) (h : FieldOK cur) (hne : cur ≠ [])
    (hp : NoPct (cur.drop 1)) (hc : isPercent c = true) :
    HSpec.parseLine (cur ++ c :: cs) = .ok none := by
  obtain ⟨x, y, hxy⟩ := parts_field_other cur cs c h.noWs h.noHash
    (by rw [ws_eq]; exact percent_not_ws hc) (percent_not_hash hc)
  rw [parseLine_eq_parts, hxy, parseFields]
  cases cur with
  | nil => exact absurd rfl hne
  | cons d t =>
    have hany : (List.drop 1 (d :: t ++ c :: x)).any percent = true := by
      simp only [List.cons_append, List.drop_succ_cons, List.drop_zero, List.any_append, List.any_cons]
      simp [percent_eq, hc]
    rw [if_pos hany]
    have htw : (List.drop 1 (d :: t ++ c :: x)).takeWhile (fun c => !percent c) = t := by
      simp only [List.cons_append, List.drop_succ_cons, List.drop_zero]
      rw [List.takeWhile_append_of_pos (fun e he => by rw [hp e (by simpa using he)]; rfl),
        List.takeWhile_cons_of_neg (by simp [percent_eq, hc]), List.append_nil]
    rw [htw]
    have : List.take 1 (d :: t ++ c :: x) ++ t = d :: t := by simp
    rw [this, firstNonAscii_ascii _ h.ascii]

theorem parseLine_addr_nonascii (cur cs : List Char) (c : Char) (h : FieldOK cur)
    (hp : NoPct (cur.drop 1)) (ha : isAscii c = false) :
    HSpec.parseLine (cur ++ c :: cs) = .error (.expectedAscii c) := by
  have hpc : percent c = false := nonascii_not_percent ha
  obtain ⟨x, y, hxy⟩ := parts_field_other cur cs c h.noWs h.noHash
    (by rw [ws_eq]; exact nonascii_not_ws ha) (nonascii_not_hash ha)
  rw [parseLine_eq_parts, hxy, parseFields]
  split
  · -- a `%` further on: the characters before it are examined
    cases cur with
    | nil =>
      simp [firstNonAscii, ascii_eq, ha]
    | cons d t =>
      have htw : (List.drop 1 (d :: t ++ c :: x)).takeWhile (fun c => !percent c)
          = t ++ c :: x.takeWhile (fun c => !percent c) := by
        simp only [List.cons_append, List.drop_succ_cons, List.drop_zero]
        rw [List.takeWhile_append_of_pos (fun e he => by rw [hp e (by simpa using he)]; rfl),
          List.takeWhile_cons_of_pos (by simp [hpc])]
      rw [htw]
      have : List.take 1 (d :: t ++ c :: x) ++ (t ++ c :: x.takeWhile (fun c => !percent c))
          = (d :: t) ++ c :: x.takeWhile (fun c => !percent c) := by simp
      rw [this, firstNonAscii_append _ _ c h.ascii ha]
  · rw [firstNonAscii_append cur x c h.ascii ha]

/-- as `runLoop_names`, for the first field; the specification side is `parseLine_ws_cons`, `parseLine_addr_*` -/
theorem runLoop_address (rest : List Char) :
    (∀ (line pre : List Char) (i : Nat), At line pre rest i →
      runLoop line rest i .skipToAddress LOCALHOST [] = HSpec.parseLine rest) ∧
    (∀ (line p0 cur : List Char) (i : Nat), At line (p0 ++ cur) rest i → FieldOK cur → cur ≠ [] →
      NoPct (cur.drop 1) →
      runLoop line rest i (.readingAddress p0.length) LOCALHOST [] = HSpec.parseLine (cur ++ rest)) := by
  induction rest with
  | nil =>
    constructor
    · intro line pre i _
      rw [runLoop_nil_other (by intro s; simp), parseLine_nil, lineResult_nil]
    · intro line p0 cur i _ hc hne hp
      rw [runLoop_nil_other (by intro s; simp), List.append_nil, parseLine_addr_end cur hc hne hp,
        lineResult_nil]
  | cons c cs ih =>
    obtain ⟨ihS, ihR⟩ := ih
    constructor
    · intro line pre i hat
      cases ha : isAscii c with
      | false =>
        rw [runLoop_nonascii ha]
        exact (parseLine_addr_nonascii [] cs c FieldOK.nil (by intro e he; cases he) ha).symm
      | true =>
        cases hh : isHash c with
        | true =>
          rw [runLoop_hash_other hh (by intro s; simp), runLoop_comment,
            parseLine_hash_cons c cs hh, lineResult_nil]
        | false =>
          cases hw : isWs c with
          | true =>
            rw [runLoop_step ha hh, parseLine_ws_cons c cs hw]
            simp only [hw, if_true]
            exact ihS line _ _ (hat.step ha)
          | false =>
            have hpos := hat.pos
            subst hpos
            rw [runLoop_step ha hh]
            simp only [hw, Bool.false_eq_true, if_false]
            exact ihR line pre [c] _ (hat.step ha) (FieldOK.nil.snoc c ha hw hh) (by simp)
              (by intro e he; cases he)
    · intro line p0 cur i hat hc hne hpc
      have hslice := hat.slice
      cases ha : isAscii c with
      | false =>
        rw [runLoop_nonascii ha, parseLine_addr_nonascii cur cs c hc hpc ha]
      | true =>
        cases hh : isHash c with
        | true =>
          rw [runLoop_hash_other hh (by intro s; simp), runLoop_comment,
            parseLine_addr_hash cur cs c hc hne hpc hh, lineResult_nil]
        | false =>
          cases hpct : isPercent c with
          | true =>
            rw [runLoop_step ha hh, parseLine_addr_percent cur cs c hc hne hpc hpct]
            simp only [hpct, if_true, lineResult_nil]
          | false =>
            cases hw : isWs c with
            | true =>
              rw [runLoop_step ha hh, parseLine_addr_ws cur cs c hc hne hpc hw]
              simp only [hpct, hw, Bool.false_eq_true, if_false, if_true, hslice]
              cases Ip.parseIpAddr (utf8Encode cur) with
              | none => rfl
              | some a' => exact (runLoop_names cs).1 line _ _ a' [] (hat.step ha)
            | false =>
              rw [runLoop_step ha hh]
              simp only [hpct, hw, Bool.false_eq_true, if_false]
              have hpc' : NoPct ((cur ++ [c]).drop 1) := by
                intro e he
                cases cur with
                | nil => exact absurd rfl hne
                | cons d t =>
                  rcases List.mem_append.mp he with he | he
                  · exact hpc e he
                  · rw [List.mem_singleton.mp he]; exact hpct
              have := ihR line p0 (cur ++ [c]) _ (List.append_assoc p0 cur [c] ▸ hat.step ha)
                (hc.snoc c ha hw hh) (by simp) hpc'
              rw [List.append_assoc] at this
              exact this

theorem parseLine_refines_spec (l : List Char) : parseLine l = HSpec.parseLine l := by
  rw [parseLine_eq_runLoop]
  exact (runLoop_address l).1 l [] 0 (At.start l)

/-! ### what a line can come to -/

/-- what a line and a file can come to: an error other than the model's `panic`, or names that all have `P`, for
    any `P` that `from_relative_dotted_string(root, ·)` guarantees of its result -/
def Outcome (P : Name → Prop) {α : Type} (names : α → List Name) : Except HErr α → Prop
  | .error e => e ≠ .panic
  | .ok r => ∀ n ∈ names r, P n

def lineNames : Option (IpAddr × List Name) → List Name
  | none => []
  | some (_, names) => names

theorem finishComment_outcome {P : Name → Prop} (cc : Option Char) (r : Option (IpAddr × List Name))
    (h : ∀ n ∈ lineNames r, P n) : Outcome P lineNames (finishComment cc r) := by
  cases cc with
  | none => exact h
  | some c => exact nofun

theorem readNames_outcome {P : Name → Prop}
    (hP : ∀ f n, Name.fromRelativeDotted Name.root (utf8Encode f) = some n → P n)
    (fs : List (List Char)) (acc : List Name) (hacc : ∀ n ∈ acc, P n) :
    Outcome P id (readNames fs acc) := by
  induction fs generalizing acc with
  | nil => exact hacc
  | cons f fs ih =>
    rw [readNames]
    split
    · exact nofun
    · split
      · exact nofun
      · rename_i n hn
        exact ih _ fun x hx => (mem_pushIfNew.mp hx).elim (hacc x) fun e => e ▸ hP _ _ hn

theorem spec_parseLine_outcome {P : Name → Prop}
    (hP : ∀ f n, Name.fromRelativeDotted Name.root (utf8Encode f) = some n → P n) (l : List Char) :
    Outcome P lineNames (HSpec.parseLine l) := by
  unfold HSpec.parseLine parseFields
  have hnone := fun cc => finishComment_outcome (P := P) cc none nofun
  -- the branches of `parseFields`, in its order
  split
  · exact hnone _                  -- no field
  · split
    · split <;> exact nofun        -- `%` in the first field: non-ASCII before it, or skipped
    · split
      · exact nofun                -- non-ASCII in the first field
      · split
        · exact hnone _            -- address-only line
        · split
          · exact nofun            -- the first field is no address
          · have hr := readNames_outcome hP ‹List (List Char)› [] nofun
            split
            · rename_i e he
              rw [he] at hr
              exact hr
            · rename_i a _ names hn
              rw [hn] at hr
              refine finishComment_outcome _ _ fun n hn' => ?_
              unfold lineResult at hn'
              split at hn'
              · cases hn'
              · exact hr n hn'

theorem spec_parseLine_ne_panic (l : List Char) : HSpec.parseLine l ≠ .error .panic := fun h =>
  have := spec_parseLine_outcome (P := fun _ => True) (fun _ _ _ => trivial) l
  (h ▸ this) rfl

end HostsM

/-! ## the file level: lines, fold, last mapping wins -/

/-! ### `AddrMap.get` / `AddrMap.insert` are `AL.get` / `AL.set` -/

namespace AddrMap

theorem get_eq_al {α : Type} (m : AddrMap α) (k : Name) : m.get k = AL.get m k := by
  induction m with
  | nil => rfl
  | cons kv rest ih => rw [get, AL.get, ih]

theorem insert_eq_al {α : Type} (m : AddrMap α) (k : Name) (v : α) : m.insert k v = AL.set m k v := by
  induction m with
  | nil => rfl
  | cons kv rest ih =>
    rw [insert, AL.set, ih]
    split
    · rename_i h; rw [h]
    · rfl

theorem get_insert {α : Type} (m : AddrMap α) (k n : Name) (v : α) :
    (m.insert k v).get n = if k = n then some v else m.get n := by
  rw [insert_eq_al, get_eq_al, get_eq_al, AL.get_set_comm]

theorem get_mem {α : Type} {m : AddrMap α} {n : Name} {a : α} (h : AddrMap.get m n = some a) :
    (n, a) ∈ m :=
  AL.mem_of_get (get_eq_al m n ▸ h)

theorem get_none_of_not_mem {α : Type} (m : AddrMap α) (n : Name)
    (h : n ∉ m.map (·.1)) : AddrMap.get m n = none :=
  (get_eq_al m n).trans (AL.get_eq_none_iff.mpr h)

theorem get_append_single {α : Type} (m : AddrMap α) (n n' : Name) (a : α) :
    AddrMap.get (m ++ [(n, a)]) n' =
      match AddrMap.get m n' with
      | some x => some x
      | none => if n = n' then some a else none := by
  rw [get_eq_al, AL.get_append, get_eq_al m n']
  cases AL.get m n' <;> rfl

theorem insert_keys {α : Type} (m : AddrMap α) (k : Name) (v : α) :
    (m.insert k v).map (·.1) = if k ∈ m.map (·.1) then m.map (·.1) else m.map (·.1) ++ [k] := by
  rw [AddrMap.insert_eq_al]
  exact AL.keys_set m k v

theorem insert_keysNodup {α : Type} (m : AddrMap α) (k : Name) (v : α) (h : m.KeysNodup) :
    (m.insert k v).KeysNodup := by
  unfold AddrMap.KeysNodup
  rw [AddrMap.insert_eq_al]
  exact AL.nodup_keys_set h k v

theorem get_reverse {α : Type} {m : AddrMap α} (h : m.KeysNodup) (n : Name) : AddrMap.get m.reverse n = m.get n := by
  rw [AddrMap.get_eq_al, AddrMap.get_eq_al]
  refine AL.get_eq_of_mem_iff ?_ h fun v => List.mem_reverse
  rw [AL.keys, List.map_reverse]
  exact (List.reverse_perm _).nodup_iff.mpr h

/-- what the fold step of `toZone_inv` needs of the entry it stands at: the entries before it are well formed and
    do not hold its name -/
theorem entry_facts {α : Type} {l done tail : AddrMap α} {n : Name} {a : α}
    (hl : done ++ (n, a) :: tail = l) (hwf : ∀ kv ∈ l, WFName kv.1) (hnd : l.KeysNodup) :
    (∀ kv ∈ done, WFName kv.1) ∧ WFName n ∧ AddrMap.get done n = none := by
  subst hl
  refine ⟨fun kv hkv => hwf kv (by simp [hkv]), hwf (n, a) (by simp), ?_⟩
  apply AddrMap.get_none_of_not_mem
  unfold AddrMap.KeysNodup at hnd
  simp only [List.map_append, List.map_cons] at hnd
  intro hmem
  exact (List.nodup_append.mp hnd).2.2 n hmem n (by simp) rfl

end AddrMap

namespace HostsM

open HSpec

/-- one pass of the inner loop of `deserialise`: `hosts.v4.insert(name, ip)` or `hosts.v6.insert(name, ip)` -/
def applyMapping (h : Hosts) (m : Name × IpAddr) : Hosts :=
  match m.2 with
  | .v4 ip => { h with v4 := h.v4.insert m.1 ip }
  | .v6 ip => { h with v6 := h.v6.insert m.1 ip }

theorem insertAll_eq (h : Hosts) (a : IpAddr) (names : List Name) :
    h.insertAll a names = (names.map (fun n => (n, a))).foldl applyMapping h := by
  induction names generalizing h with
  | nil => rfl
  | cons n ns ih =>
    cases a with
    | v4 ip => simp only [Hosts.insertAll, List.map, List.foldl, applyMapping]; exact ih _
    | v6 ip => simp only [Hosts.insertAll, List.map, List.foldl, applyMapping]; exact ih _

theorem deserialiseLines_eq (ls : List (List Char)) (h : Hosts) :
    Hosts.deserialiseLines h ls =
      match mappings ls with
      | .error e => .error e
      | .ok ms => .ok (ms.foldl applyMapping h) := by
  induction ls generalizing h with
  | nil => rfl
  | cons l ls ih =>
    rw [Hosts.deserialiseLines, mappings, parseLine_refines_spec]
    cases hl : HSpec.parseLine l with
    | error e => rfl
    | ok r =>
      cases r with
      | none =>
        simp only
        rw [ih]
        cases mappings ls <;> rfl
      | some an =>
        obtain ⟨a, names⟩ := an
        simp only
        rw [ih]
        cases mappings ls with
        | error e => rfl
        | ok ms => simp only [List.foldl_append, insertAll_eq]

theorem deserialiseLines_ok {ls : List (List Char)} {h0 h : Hosts} (hd : Hosts.deserialiseLines h0 ls = .ok h) :
    ∃ ms, mappings ls = .ok ms ∧ h = ms.foldl applyMapping h0 := by
  rw [deserialiseLines_eq] at hd
  cases hm : mappings ls with
  | error e => rw [hm] at hd; cases hd
  | ok ms => rw [hm] at hd; cases hd; exact ⟨ms, rfl, rfl⟩

theorem deserialiseLines_error {ls : List (List Char)} {h0 : Hosts} {e : HErr}
    (hd : Hosts.deserialiseLines h0 ls = .error e) : mappings ls = .error e := by
  rw [deserialiseLines_eq] at hd
  cases hm : mappings ls with
  | error e' => rw [hm] at hd; cases hd; rfl
  | ok ms => rw [hm] at hd; cases hd

def v4Of : Option IpAddr → Option Nat
  | some (.v4 a) => some a
  | _ => none

def v6Of : Option IpAddr → Option (List Nat)
  | some (.v6 g) => some g
  | _ => none

theorem lastMapping_some {ms : List (Name × IpAddr)} {n : Name} {f : Bool} {a : IpAddr}
    (h : lastMapping ms n f = some a) : (n, a) ∈ ms ∧ isV4 a = f := by
  unfold lastMapping at h
  obtain ⟨m, hm, rfl⟩ := Option.map_eq_some_iff.mp h
  have hp := List.find?_some hm
  have hmem := List.mem_reverse.mp (List.mem_of_find?_eq_some hm)
  simp only [Bool.and_eq_true, beq_iff_eq] at hp
  rw [← hp.1]
  exact ⟨hmem, hp.2⟩

theorem lastMapping_none {ms : List (Name × IpAddr)} {n : Name} {f : Bool}
    (h : lastMapping ms n f = none) (a : IpAddr) (hm : (n, a) ∈ ms) : isV4 a ≠ f := by
  unfold lastMapping at h
  rw [Option.map_eq_none_iff, List.find?_eq_none] at h
  intro hf
  exact h (n, a) (List.mem_reverse.mpr hm) (by simp [hf])

theorem lastMapping_family (ms : List (Name × IpAddr)) (n : Name) (f : Bool) (a : IpAddr)
    (h : lastMapping ms n f = some a) : isV4 a = f := (lastMapping_some h).2

theorem AddrMap_get_nil {α : Type} (n : Name) : AddrMap.get ([] : AddrMap α) n = none := rfl

/-- the two maps of `Hosts` read as one lookup by name and family (`f = true`: the v4 map) -/
def famGet (h : Hosts) (n : Name) (f : Bool) : Option IpAddr :=
  if f then (h.v4.get n).map .v4 else (h.v6.get n).map .v6

theorem v4_get_eq_famGet (h : Hosts) (n : Name) : h.v4.get n = v4Of (famGet h n true) := by
  simp only [famGet, if_true]
  cases h.v4.get n <;> rfl

theorem v6_get_eq_famGet (h : Hosts) (n : Name) : h.v6.get n = v6Of (famGet h n false) := by
  simp only [famGet, Bool.false_eq_true, if_false]
  cases h.v6.get n <;> rfl

theorem famGet_family {h : Hosts} {n : Name} {f : Bool} {x : IpAddr} (hg : famGet h n f = some x) :
    isV4 x = f := by
  unfold famGet at hg
  cases f with
  | true => obtain ⟨a, _, rfl⟩ := Option.map_eq_some_iff.mp hg; rfl
  | false => obtain ⟨g, _, rfl⟩ := Option.map_eq_some_iff.mp hg; rfl

theorem famGet_applyMapping (h : Hosts) (m : Name × IpAddr) (n : Name) (f : Bool) :
    famGet (applyMapping h m) n f = if m.1 == n && isV4 m.2 == f then some m.2 else famGet h n f := by
  obtain ⟨k, a⟩ := m
  -- in the family of `a` the entry for `k` is overwritten, the other family is untouched: four cases, one text
  cases a <;> cases f <;> simp only [famGet, applyMapping, AddrMap.get_insert, isV4] <;>
    by_cases hk : k = n <;> simp [hk]

theorem famGet_foldl (ms : List (Name × IpAddr)) (h : Hosts) (n : Name) (f : Bool) :
    famGet (ms.foldl applyMapping h) n f = (lastMapping ms n f).or (famGet h n f) := by
  rw [lastMapping, List.find?_eq_findSome?_guard, List.map_findSome?]
  refine foldl_last_wins (famGet · n f) applyMapping _ (fun h m => ?_) ms h
  rw [famGet_applyMapping, Function.comp_apply, Option.guard_apply]
  split <;> rfl

theorem foldl_applyMapping_new (ms : List (Name × IpAddr)) (n : Name) :
    (ms.foldl applyMapping Hosts.new).v4.get n = v4Of (lastMapping ms n true) ∧
    (ms.foldl applyMapping Hosts.new).v6.get n = v6Of (lastMapping ms n false) := by
  rw [v4_get_eq_famGet, v6_get_eq_famGet, famGet_foldl, famGet_foldl]
  constructor
  · cases lastMapping ms n true <;> rfl
  · cases lastMapping ms n false <;> rfl

/-! ### `str::lines` = the specification's lines -/

theorem splitNl_eq_on (s : List Char) : splitNl s = Split.on (·.toNat = 10) s := by
  induction s with
  | nil => rfl
  | cons b bs ih =>
    rw [splitNl, Split.on, ih]
    cases Split.on (·.toNat = 10) bs <;> rfl

theorem splitNl_ne_nil (s : List Char) : splitNl s ≠ [] :=
  splitNl_eq_on s ▸ Split.on_ne_nil _ s

theorem splitNl_pieces (s : List Char) : ∀ p ∈ splitNl s, ∀ c ∈ p, c.toNat ≠ 10 :=
  fun p hp c hc => (Split.mem_on s p (splitNl_eq_on s ▸ hp) c hc).2

def glue (nl : Char) : List (List Char) → List (List Char)
  | [] => []
  | [p] => if p.isEmpty then [] else [p]
  | p :: q :: r => (p ++ [nl]) :: glue nl (q :: r)

theorem splitInclusiveNl_eq_glue (s : List Char) :
    splitInclusiveNl s = glue (Char.ofNat 10) (splitNl s) := by
  induction s with
  | nil => simp [splitInclusiveNl, splitNl, glue]
  | cons c cs ih =>
    rw [splitInclusiveNl, splitNl]
    by_cases hc : c.toNat = 10
    · have hc' : c = Char.ofNat 10 := by rw [← hc, Char.ofNat_toNat]
      simp only [hc, if_true]
      cases hs : splitNl cs with
      | nil => exact absurd hs (splitNl_ne_nil cs)
      | cons p ps => rw [ih, hs, glue, hc']; simp
    · simp only [hc, if_false]
      rw [ih]
      cases hs : splitNl cs with
      | nil => exact absurd hs (splitNl_ne_nil cs)
      | cons p ps =>
        cases ps with
        | nil =>
          simp only [glue]
          cases p <;> simp
        | cons q r => simp [glue]

theorem linesMap_nl (p : List Char) : linesMap (p ++ [Char.ofNat 10]) = stripCr p := by
  unfold linesMap stripCr
  simp
  cases p.getLast? <;> rfl

theorem linesMap_noNl (p : List Char) (h : ∀ c ∈ p, c.toNat ≠ 10) : linesMap p = p := by
  unfold linesMap
  cases hl : p.getLast? with
  | none => rfl
  | some c =>
    have : c ∈ p := List.mem_of_getLast? hl
    simp [h c this]

theorem map_linesMap_glue (ps : List (List Char)) (h : ∀ p ∈ ps, ∀ c ∈ p, c.toNat ≠ 10) :
    (glue (Char.ofNat 10) ps).map linesMap =
      ps.dropLast.map stripCr ++
        (match ps.getLast? with
         | some last => if last.isEmpty then [] else [last]
         | none => []) := by
  induction ps with
  | nil => rfl
  | cons p rest ih =>
    cases rest with
    | nil =>
      simp only [glue, List.dropLast_singleton, List.map_nil, List.nil_append, List.getLast?_singleton]
      split
      · rfl
      · simp [linesMap_noNl p (h p (by simp))]
    | cons q r =>
      simp only [glue, List.map_cons, linesMap_nl, List.dropLast_cons_cons, List.cons_append,
        List.getLast?_cons_cons]
      rw [ih (fun p' hp' => h p' (by simp [hp']))]

theorem strLines_eq_spec (s : List Char) : strLines s = HSpec.lines s := by
  unfold strLines HSpec.lines
  rw [splitInclusiveNl_eq_glue, map_linesMap_glue _ (splitNl_pieces s)]
  rfl

/-! ### the specification's `hostsOf` as a map -/

theorem mem_foldl_addIfNew (xs acc : List Name) (n : Name) :
    n ∈ xs.foldl addIfNew acc ↔ n ∈ acc ∨ n ∈ xs :=
  mem_foldl_of_mem_step (f := addIfNew) fun _ _ _ => mem_pushIfNew

theorem lastMapping_none_of_not_mem (ms : List (Name × IpAddr)) (n : Name) (f : Bool)
    (h : n ∉ namesOf ms f) : lastMapping ms n f = none := by
  unfold lastMapping
  rw [Option.map_eq_none_iff, List.find?_eq_none]
  intro m hm hc
  apply h
  unfold namesOf
  rw [mem_foldl_addIfNew]
  right
  simp only [List.mem_map, List.mem_filter]
  simp at hc hm
  exact ⟨m, ⟨hm, by simp [hc.2]⟩, hc.1⟩

theorem get_filterMap_names {α : Type} (names : List Name) (g : Name → Option α) (n : Name) :
    AddrMap.get (names.filterMap (fun k => (g k).map (fun v => (k, v)))) n =
      if n ∈ names then g n else none := by
  induction names with
  | nil => rfl
  | cons k ks ih =>
    simp only [List.filterMap_cons]
    cases hg : g k with
    | none =>
      simp only [Option.map_none, ih, List.mem_cons]
      by_cases hk : n = k
      · subst hk; simp [hg]
      · simp [hk]
    | some v =>
      simp only [Option.map_some, AddrMap.get, ih, List.mem_cons]
      by_cases hk : k = n
      · subst hk; simp [hg]
      · have : ¬ n = k := fun h => hk h.symm
        simp [hk, this]

theorem hostsOf_v4_get (ms : List (Name × IpAddr)) (n : Name) :
    (hostsOf ms).v4.get n = v4Of (lastMapping ms n true) := by
  have hform : (hostsOf ms).v4 = (namesOf ms true).filterMap
      (fun k => (v4Of (lastMapping ms k true)).map (fun v => (k, v))) := by
    unfold hostsOf
    simp only
    congr 1
    funext k
    cases hl : lastMapping ms k true with
    | none => rfl
    | some a => cases a <;> rfl
  rw [hform, get_filterMap_names]
  split
  · rfl
  · rename_i hn
    rw [lastMapping_none_of_not_mem ms n true hn]; rfl

theorem hostsOf_v6_get (ms : List (Name × IpAddr)) (n : Name) :
    (hostsOf ms).v6.get n = v6Of (lastMapping ms n false) := by
  have hform : (hostsOf ms).v6 = (namesOf ms false).filterMap
      (fun k => (v6Of (lastMapping ms k false)).map (fun v => (k, v))) := by
    unfold hostsOf
    simp only
    congr 1
    funext k
    cases hl : lastMapping ms k false with
    | none => rfl
    | some a => cases a <;> rfl
  rw [hform, get_filterMap_names]
  split
  · rfl
  · rename_i hn
    rw [lastMapping_none_of_not_mem ms n false hn]; rfl

/-! ### lists of mappings that hold exactly the entries of hosts data (behind the text and the zone round trip) -/

def Maps (h : Hosts) (n : Name) : IpAddr → Prop
  | .v4 a => h.v4.get n = some a
  | .v6 g => h.v6.get n = some g

/-- `ms` holds exactly the entries of `h`, in any order, repetitions allowed -/
def Lists (ms : List (Name × IpAddr)) (h : Hosts) : Prop := ∀ n x, (n, x) ∈ ms ↔ Maps h n x

theorem Maps.iff_famGet (h : Hosts) (n : Name) (x : IpAddr) : Maps h n x ↔ famGet h n (isV4 x) = some x := by
  cases x <;> simp [Maps, famGet, isV4]

/-- whatever the order of `ms`: no two of its mappings compete for a name and family -/
theorem lastMapping_eq_famGet {ms : List (Name × IpAddr)} {h : Hosts} (hl : Lists ms h) (n : Name) (f : Bool) :
    lastMapping ms n f = famGet h n f := by
  cases hm : lastMapping ms n f with
  | some x =>
    obtain ⟨hmem, hf⟩ := lastMapping_some hm
    exact hf ▸ ((Maps.iff_famGet h n x).mp ((hl n x).mp hmem)).symm
  | none =>
    cases hg : famGet h n f with
    | none => rfl
    | some x =>
      have hx := famGet_family hg
      exact absurd hx (lastMapping_none hm x ((hl n x).mpr ((Maps.iff_famGet h n x).mpr (hx ▸ hg))))

/-- a listing of `h`, applied in any order, builds `h` (as a map) -/
theorem Lists.foldl_equiv {ms : List (Name × IpAddr)} {h : Hosts} (hl : Lists ms h) :
    Hosts.Equiv (ms.foldl applyMapping Hosts.new) h :=
  ⟨fun n => by rw [(foldl_applyMapping_new ms n).1, v4_get_eq_famGet h, lastMapping_eq_famGet hl],
    fun n => by rw [(foldl_applyMapping_new ms n).2, v6_get_eq_famGet h, lastMapping_eq_famGet hl]⟩

/-! ### the whole text -/

theorem deserialise_of_mappings {s : List Char} {ms : List (Name × IpAddr)} (hm : mappings (HSpec.lines s) = .ok ms) :
    Hosts.deserialise s = .ok (ms.foldl applyMapping Hosts.new) := by
  unfold Hosts.deserialise
  rw [deserialiseLines_eq, strLines_eq_spec, hm]

theorem deserialise_refines_spec (s : List Char) :
    match HSpec.parse s with
    | .error e => Hosts.deserialise s = .error e
    | .ok h' => ∃ h, Hosts.deserialise s = .ok h ∧ Hosts.Equiv h h' := by
  unfold HSpec.parse Hosts.deserialise
  rw [deserialiseLines_eq, strLines_eq_spec]
  cases mappings (HSpec.lines s) with
  | error e => rfl
  | ok ms =>
    refine ⟨_, rfl, fun n => ?_, fun n => ?_⟩
    · rw [(foldl_applyMapping_new ms n).1, hostsOf_v4_get]
    · rw [(foldl_applyMapping_new ms n).2, hostsOf_v6_get]

theorem mappings_outcome {P : Name → Prop}
    (hP : ∀ f n, Name.fromRelativeDotted Name.root (utf8Encode f) = some n → P n) (ls : List (List Char)) :
    Outcome P (·.map (·.1)) (mappings ls) := by
  induction ls with
  | nil => exact nofun
  | cons l ls ih =>
    have hl := spec_parseLine_outcome hP l
    rw [mappings]
    cases hr : HSpec.parseLine l with
    | error e => rw [hr] at hl; exact hl
    | ok r =>
      rw [hr] at hl
      simp only
      cases hms : mappings ls with
      | error e => rw [hms] at ih; exact ih
      | ok ms =>
        rw [hms] at ih
        cases r with
        | none => exact ih
        | some an =>
          intro n hn
          simp only [List.map_append, List.map_map, List.mem_append, List.mem_map] at hn
          rcases hn with ⟨x, hx, rfl⟩ | hn
          · exact hl x hx
          · exact ih n (List.mem_map.mpr hn)

theorem mappings_ne_panic (ls : List (List Char)) : mappings ls ≠ .error .panic := fun h =>
  have := mappings_outcome (P := fun _ => True) (fun _ _ _ => trivial) ls
  (h ▸ this) rfl

end HostsM

section

open HSpec

/-! ## what `deserialise` returns is a proper map of well-formed names -/

theorem AddrMap.insert_wf {α : Type} {m : AddrMap α} {k : Name} (hm : ∀ kv ∈ m, WFName kv.1) (hk : WFName k)
    (v : α) : ∀ kv ∈ m.insert k v, WFName kv.1 := by
  intro kv h
  rcases AL.eq_or_mem_of_mem_set (AddrMap.insert_eq_al m k v ▸ h) with rfl | h'
  · exact hk
  · exact hm kv h'

/-- `from_labels(..).unwrap()` in `ZoneRecords::insert` needs it -/
def HostsNamesWF (h : Hosts) : Prop := (∀ kv ∈ h.v4, WFName kv.1) ∧ (∀ kv ∈ h.v6, WFName kv.1)

/-- the three hypotheses of the zone theorems (`toZone_inv`, `zone_roundtrip`, …) -/
def GoodHosts (h : Hosts) : Prop := HostsNamesWF h ∧ h.v4.KeysNodup ∧ h.v6.KeysNodup

theorem GoodHosts_new : GoodHosts Hosts.new := by
  refine ⟨⟨?_, ?_⟩, ?_, ?_⟩
  · intro kv hkv; simp [Hosts.new] at hkv
  · intro kv hkv; simp [Hosts.new] at hkv
  · simp [Hosts.new, AddrMap.KeysNodup]
  · simp [Hosts.new, AddrMap.KeysNodup]

theorem GoodHosts_applyMapping (h : Hosts) (m : Name × IpAddr) (hg : GoodHosts h) (hm : WFName m.1) :
    GoodHosts (applyMapping h m) := by
  obtain ⟨⟨w4, w6⟩, n4, n6⟩ := hg
  obtain ⟨k, a⟩ := m
  cases a with
  | v4 ip => exact ⟨⟨AddrMap.insert_wf w4 hm ip, w6⟩, AddrMap.insert_keysNodup _ _ _ n4, n6⟩
  | v6 ip => exact ⟨⟨w4, AddrMap.insert_wf w6 hm ip⟩, n4, AddrMap.insert_keysNodup _ _ _ n6⟩

theorem mappings_wf (ls : List (List Char)) (ms : List (Name × IpAddr)) (h : mappings ls = .ok ms) :
    ∀ m ∈ ms, WFName m.1 := fun m hm =>
  have := mappings_outcome (P := WFName) (fun _ _ hn => C16_fromRelativeDotted_wf _ _ _ C16_root_wf hn) ls
  (h ▸ this) m.1 (List.mem_map.mpr ⟨m, hm, rfl⟩)

theorem foldl_applyMapping_good {ms : List (Name × IpAddr)} {h0 : Hosts} (hg : GoodHosts h0)
    (hw : ∀ m ∈ ms, WFName m.1) : GoodHosts (ms.foldl applyMapping h0) :=
  List.foldlRecOn ms _ hg fun h hg m hm => GoodHosts_applyMapping h m hg (hw m hm)

/-- with this the zone theorems apply to every hosts file that is read successfully -/
theorem deserialise_good (s : List Char) (h : Hosts) (hd : Hosts.deserialise s = .ok h) : GoodHosts h := by
  obtain ⟨ms, hm, rfl⟩ := deserialiseLines_ok hd
  exact foldl_applyMapping_good GoodHosts_new (mappings_wf _ _ hm)

/-! ## `Hosts::merge`

Each map of `Hosts.merge h o` is this fold of `o`'s entries over `h`'s (`C14_merge_later_wins` unfolds it). -/

theorem foldl_insert_get {α : Type} (kvs : List (Name × α)) (m : AddrMap α) (n : Name) :
    (kvs.foldl (fun m kv => m.insert kv.1 kv.2) m).get n = (AddrMap.get kvs.reverse n).or (m.get n) := by
  simp only [AddrMap.insert_eq_al, AddrMap.get_eq_al]
  exact AL.get_foldl_set kvs m n

end

end Resolved
