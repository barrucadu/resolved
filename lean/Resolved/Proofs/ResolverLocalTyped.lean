/-
  The invariants C01 and C10 assume are established by the constructors: `ZNode.Typed` by `Zone::new` /
  `insert` / `insert_wildcard`; `ZonesKeyed` (every zone is found under its own apex) by `Zones::new` /
  `insert` / `insert_merge`; `ZoneAnswersTyped` by `insert_merge` of built zones (`Zones.Configured`).
-/
import Resolved.Proofs.ZoneUnion
import Resolved.Proofs.ResolverLocalSources

namespace Resolved

open Gen

/-! ## record maps -/

theorem recMapTyped_nil : RecMapTyped [] := by
  intro k zrs h; simp at h

theorem recMapTyped_insertRecord {m : RecMap} (h : RecMapTyped m) (zr : ZoneRecord) :
    RecMapTyped (m.insertRecord zr) := by
  intro k zrs hg x hx
  rw [RecMap.get_insertRecord] at hg
  split at hg
  · rename_i hk
    cases hg
    rcases mem_pushNew.mp hx with hx | rfl
    · cases hm : m.get k with
      | none => simp [hm] at hx
      | some l => rw [hm] at hx; exact h k l hm x hx
    · exact hk
  · exact h k zrs hg x hx

theorem recMapTyped_single (zr : ZoneRecord) : RecMapTyped [(zr.rtype, [zr])] := by
  intro k zrs hg x hx
  simp only [RecMap.get_cons, RecMap.get_nil] at hg
  split at hg
  · rename_i hk; cases hg; simp only [List.mem_singleton] at hx; subst hx; exact hk
  · cases hg

/-- both record maps of a node, the exact-name one and the wildcard one, are consistently keyed. -/
def ViewTyped (v : RecMap × Option RecMap) : Prop := RecMapTyped v.1 ∧ ∀ ws, v.2 = some ws → RecMapTyped ws

theorem viewTyped_updView {v : RecMap × Option RecMap} (h : ViewTyped v) (zr : ZoneRecord) (wild : Bool) :
    ViewTyped (ZNode.updView zr wild v) := by
  cases wild with
  | true =>
    rw [ZNode.updView_true]
    refine ⟨h.1, ?_⟩
    intro ws hws
    cases hws
    apply recMapTyped_insertRecord
    cases hv : v.2 with
    | none => exact recMapTyped_nil
    | some w => exact h.2 w hv
  | false => exact ⟨recMapTyped_insertRecord h.1 zr, h.2⟩

theorem ZNode.typed_iff_view (node : ZNode) :
    node.Typed ↔ ∀ p n, node.descend p = some n → ViewTyped (ZNode.view n) := Iff.rfl

theorem ZNode.typed_new (nsd : Name) : (ZNode.new nsd).Typed := by
  intro p n h
  rw [ZNode.descend_new] at h
  split at h
  · cases h; exact ⟨recMapTyped_nil, fun ws hw => by cases hw⟩
  · cases h

theorem ZNode.typed_insertRev {node node' : ZNode} (h : node.Typed) (r : List Label) (zr : ZoneRecord)
    (wild : Bool) (hi : node.insertRev r zr wild = some node') : node'.Typed :=
  ZNode.forall_view_insertRev (Q := ViewTyped) ⟨recMapTyped_nil, nofun⟩
    (fun _ hv => viewTyped_updView hv zr wild) h hi

theorem Zone.typed_of_reachable {apex : Name} {soa : Option SOA} {ops : List ZoneOp} {z : Zone}
    (h : Zone.Reachable apex soa ops z) : z.records.Typed :=
  Zone.build_records_invariant (ZNode.typed_new apex) (fun _ _ r zr w h hi => ZNode.typed_insertRev h r zr w hi)
    ((Zone.reachable_iff_build apex soa ops z).mp h)

/-! ## `Zones` -/

/-- every zone is found under its own apex (what `Zones::insert` / `insert_merge` maintain).  Stated of what
    `lookup` finds: weaker than `Zones.KeyedByApex`, which speaks of every entry of the list, shadowed ones
    included, and all that `Zones::get` needs. -/
def ZonesKeyed (zs : Zones) : Prop := ∀ k z, Zones.lookup zs.zones k = some z → z.apex = k

/-- the invariant C12 and C19 keep, on every entry of the list, gives the one C01 assumes. -/
theorem Zones.KeyedByApex.zonesKeyed {zs : Zones} (h : Zones.KeyedByApex zs) : ZonesKeyed zs :=
  fun k z hl => h k z (Zones.lookup_mem hl)

theorem zonesKeyed_empty : ZonesKeyed Zones.empty := by
  intro k z h; simp [Zones.empty, Zones.lookup] at h

theorem zonesKeyed_insert {zs : Zones} (h : ZonesKeyed zs) (z : Zone) : ZonesKeyed (zs.insert z) := by
  intro k z' hl
  simp only [Zones.insert, Zones.lookup_setZone] at hl
  split at hl
  · rename_i hk; cases hl; exact hk
  · exact h k z' hl

theorem zonesKeyed_insertMerge {zs zs' : Zones} (h : ZonesKeyed zs) (other : Zone)
    (hm : zs.insertMerge other = some zs') : ZonesKeyed zs' := by
  obtain ⟨m, hi, hap, _⟩ := Zones.insertMerge_spec other (h _)
  cases hi.symm.trans hm
  intro k z hl
  rw [Zones.lookup_setZone] at hl
  split at hl
  · rename_i hk; cases hl; exact hap.trans hk
  · exact h k z hl

theorem zonesTyped_of_all {zs : Zones} (h : ∀ k z, Zones.lookup zs.zones k = some z → z.records.Typed) :
    ZonesTyped zs := by
  intro name z hg
  obtain ⟨k, hl⟩ := Zones.get_mem hg
  exact h k z hl

theorem zonesTyped_empty : ZonesTyped Zones.empty :=
  zonesTyped_of_all (by intro k z h; simp [Zones.empty, Zones.lookup] at h)

/-! ## zones as the server configures them: built zones merged into `Zones` -/

theorem recRepr_typed {m : RecMap} {zrs : List ZoneRecord} (h : RecRepr m zrs) : RecMapTyped m := by
  intro k v hg zr hzr
  rw [h.2 k] at hg
  split at hg
  · cases hg
  · cases hg
    exact (mem_ofType.mp hzr).2

theorem TreeRepr.typed {root : ZNode} {es : List ZSpec.Entry} (h : TreeRepr root es) : root.Typed := by
  intro p n hd
  obtain ⟨h1, h2, _⟩ := h.node hd
  exact ⟨recRepr_typed h1, fun ws hws => recRepr_typed (WildRepr.some_iff.mp (hws ▸ h2)).2⟩

/-- `Zones` obtained from `Zones::new()` by `insert_merge` of zones each built by `Zone::new` and
    insertions (what loading zone files and hosts files does). -/
inductive Zones.Configured : Zones → Prop
  | empty : Zones.Configured Zones.empty
  | merge (zs zs' : Zones) (apex : Name) (soa : Option SOA) (ops : List ZoneOp) (o : Zone) :
      Zones.Configured zs → NameOK apex → Zone.build apex soa ops = some o →
      zs.insertMerge o = some zs' → Zones.Configured zs'

theorem Zones.Configured.repr {zs : Zones} (h : Zones.Configured zs) :
    ZonesKeyed zs ∧ ∀ k z, Zones.lookup zs.zones k = some z → ∃ soa es, Zone.Repr z k soa es := by
  induction h with
  | empty => exact ⟨zonesKeyed_empty, by intro k z h; simp [Zones.empty, Zones.lookup] at h⟩
  | merge zs zs' apex soa ops o _ hap hb hm ih =>
    obtain ⟨hk, hr⟩ := ih
    refine ⟨zonesKeyed_insertMerge hk o hm, fun k z hl => ?_⟩
    have ho := Zone.repr_build apex soa ops o hap hb
    obtain ⟨m, hi, _, hmm⟩ := Zones.insertMerge_spec o (hk _)
    cases hi.symm.trans hm
    rw [Zones.lookup_setZone] at hl
    split at hl
    · rename_i hk'
      cases hl
      rw [ho.apex_eq] at hk' hmm
      subst hk'
      cases hmine : Zones.lookup zs.zones apex with
      | none => rw [hmine] at hmm; exact ⟨_, _, hmm ▸ ho⟩
      | some mine =>
        rw [hmine] at hmm
        obtain ⟨s1, es1, hr1⟩ := hr _ _ hmine
        exact ⟨_, _, Zone.repr_merge mine o z apex s1 soa es1 _ hr1 ho (Zone.keysNodup_build apex soa ops o hb) hmm⟩
    · exact hr k z hl

theorem Zones.Configured.answersTyped {zs : Zones} (h : Zones.Configured zs) : ZoneAnswersTyped zs := by
  apply zoneAnswersTyped_of_typed
  apply zonesTyped_of_all
  intro k z hl
  obtain ⟨soa, es, hr⟩ := h.repr.2 k z hl
  exact hr.tree.typed

end Resolved
