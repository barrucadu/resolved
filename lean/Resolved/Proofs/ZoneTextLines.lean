/-
  C13, line level: the pieces of a line written by `Zone::serialise` are token texts (`TokText`, ZoneTextGaps)
  separated by blanks and ended by a line feed, and a record or wildcard line is read back as that record
  (`rrLine_roundtrip`): it is the next entry of the stream (`NextEntry`, ZoneTextBasics), which gives `parse_entry`
  and one step of the entry loop alike.  `Reads`: the two ways a piece ends, on the tokeniser itself.
-/
import Resolved.Proofs.ZoneTextNames
import Resolved.Proofs.ZoneTextShapes
import Resolved.Proofs.ZoneTextGaps
import Resolved.Proofs.ZoneTextNumbers

namespace Resolved.ZoneText

open Resolved Resolved.IpText Gen

/-! ## the pieces of a line, separated by blanks -/

/-- the model writes `x ++ sp ++ y`: the pieces of a line compose in the order and the bracketing in which
    `Zone::serialise` appends them, so no text has to be rearranged. -/
theorem TokTexts.sp {x y : List Char} {ts us : List Token} (hx : TokTexts false x ts false)
    (hy : TokTexts false y us false) : TokTexts false (x ++ sp ++ y) (ts ++ us) false :=
  hx.append (gap_blank (Or.inl rfl) false) hy

theorem TokTexts.line {x : List Char} {toks : List Token} (h : TokTexts false x toks false) (rest : List Char) :
    ZoneText.tokeniseEntry (x ++ nl ++ rest) = .ok (toks, rest) := by
  rw [List.append_assoc]
  exact h.tokeniseEntry (enderAt_newline rest)

/-- the two ways in which a piece of a line ends, on the tokeniser itself. -/
structure Reads (x : List Char) (tok : Token) : Prop where
  space : ∀ (rest : List Char) (rtoks : List Token) (lc : Bool),
    tokLoop 0 (x ++ ' ' :: rest) rtoks [] [] .initial lc = tokLoop 0 rest (tok :: rtoks) [] [] .initial lc
  newline : ∀ (rest : List Char) (rtoks : List Token),
    tokLoop 0 (x ++ '\n' :: rest) rtoks [] [] .initial false = .ok ((tok :: rtoks).reverse, rest)

/-- the one statement about `Reads`; the lines themselves are read through `TokTexts.sp` and `TokTexts.line`. -/
theorem TokText.reads {x : List Char} {tok : Token} (h : TokText x tok) : Reads x tok :=
  ⟨fun rest rtoks lc => h.gap (gap_blank (Or.inl rfl) lc) rest rtoks,
   fun rest rtoks => h.ender (enderAt_newline rest) rtoks⟩

/-! ## plain ASCII words (numbers, `IN`, type mnemonics, addresses) -/

/-- ASCII digits, letters, `.` and `:` are plain everywhere. -/
def wordChar (c : Char) : Bool :=
  (48 ≤ c.toNat && c.toNat ≤ 58) || (65 ≤ c.toNat && c.toNat ≤ 90) || (97 ≤ c.toNat && c.toNat ≤ 122) || c.toNat == 46

theorem wordChar_plain (c : Char) (h : wordChar c = true) : plainInit c = true ∧ plainUnq c = true := by
  simp only [wordChar, Bool.or_eq_true, Bool.and_eq_true, decide_eq_true_eq, beq_iff_eq] at h
  have hu : plainUnq c = true := plainUnq_of_toNat (by omega) (by omega) (by omega) (by omega) (by omega)
  exact ⟨plainInit_of_toNat hu (by omega) (by omega) (by omega), hu⟩

def wordToken (s : List Char) : Token := (s, s.map charAsU8)

theorem wordToken_fst (s : List Char) : (wordToken s).1 = s := rfl

theorem tokText_word {s : List Char} (hne : s ≠ []) (h : ∀ c ∈ s, wordChar c = true) : TokText s (wordToken s) := by
  cases s with
  | nil => exact absurd rfl hne
  | cons c cs =>
    exact tokText_plain c cs (wordChar_plain c (h c List.mem_cons_self)).1
      (List.all_eq_true.mpr fun d hd => (wordChar_plain d (h d (List.mem_cons_of_mem _ hd))).2)

theorem showRtype_known (code : Nat) (name : List Char) (h : lookupByCode rtypeNames code = some name) :
    showRtype code = name ∧ (code, name) ∈ rtypeNames := by
  unfold showRtype
  rw [h]
  refine ⟨rfl, ?_⟩
  have : ∀ (l : List (Nat × List Char)), lookupByCode l code = some name → (code, name) ∈ l := by
    intro l
    induction l with
    | nil => intro h; simp [lookupByCode] at h
    | cons p ps ih =>
      intro h
      obtain ⟨c, n⟩ := p
      simp only [lookupByCode] at h
      split at h
      · rename_i hc; cases h; subst hc; simp
      · simp [ih h]
  exact this _ h

theorem showRtype_mem_of_lookup {c : Nat} {name : List Char} (h : lookupByCode rtypeNames c = some name) :
    (c, showRtype c) ∈ rtypeNames := by
  obtain ⟨h1, h2⟩ := showRtype_known c name h
  rw [h1]
  exact h2

theorem rtypeNames_words : ∀ p ∈ rtypeNames, p.2 ≠ [] ∧ ∀ c ∈ p.2, wordChar c = true := by
  intro p hp
  refine ⟨(rtypeNames_letters p hp).1, fun c hc => ?_⟩
  have := (rtypeNames_letters p hp).2 c hc
  simp only [isUpperChar, Bool.and_eq_true, decide_eq_true_eq] at this
  simp only [wordChar, Bool.or_eq_true, Bool.and_eq_true, decide_eq_true_eq, beq_iff_eq]
  omega

/-! ## the pieces of a record line -/

/-- the text of one RDATA field as `serialise_rdata` writes it … -/
def fieldPiece (z : Zone) : FieldVal → List Char
  | .name n => serialiseDomain z n
  | .u16 n => showDec n
  | .u32 n => showDec n
  | .a addr => showIpv4 addr
  | .aaaa gs => showIpv6 gs
  | .opaque bs => serialiseOctets bs true

/-- … and the token it is read as. -/
def fieldToken (z : Zone) : FieldVal → Token
  | .name n => ((domainStr z n).map octetAsChar, domainStr z n)
  | .u16 n => wordToken (showDec n)
  | .u32 n => wordToken (showDec n)
  | .a addr => wordToken (showIpv4 addr)
  | .aaaa gs => wordToken (showIpv6 gs)
  | .opaque bs => (bs.map octetAsChar, bs)

theorem showDec_words (n : Nat) : showDec n ≠ [] ∧ ∀ c ∈ showDec n, wordChar c = true := by
  refine ⟨(showDec_digits n).1, ?_⟩
  intro c hc
  have := (showDec_digits n).2 c hc
  simp only [isAsciiDigit, Bool.and_eq_true, decide_eq_true_eq] at this
  simp only [wordChar, Bool.or_eq_true, Bool.and_eq_true, decide_eq_true_eq, beq_iff_eq]
  omega

theorem addrByte_word {b : UInt8} (h : Ip.isAddrByte b = true) : wordChar (Char.ofNat b.toNat) = true := by
  have := Ip.isAddrByte_iff.mp h
  simp only [wordChar, toNat_ofNat_byte, Bool.or_eq_true, Bool.and_eq_true, decide_eq_true_eq, beq_iff_eq]
  omega

theorem addrBytes_words {bs : List UInt8} (hne : bs ≠ []) (h : ∀ b ∈ bs, Ip.isAddrByte b = true) :
    bytesAsChars bs ≠ [] ∧ ∀ c ∈ bytesAsChars bs, wordChar c = true := by
  refine ⟨by simpa [bytesAsChars] using hne, ?_⟩
  intro c hc
  simp only [bytesAsChars, List.mem_map] at hc
  obtain ⟨b, hb, rfl⟩ := hc
  exact addrByte_word (h b hb)

theorem showIpv4_words (a : Nat) : showIpv4 a ≠ [] ∧ ∀ c ∈ showIpv4 a, wordChar c = true :=
  addrBytes_words (showIpv4_bytes a).2 (showIpv4_bytes a).1

theorem showIpv6_words (gs : List Nat) (hl : gs.length = 8) (hg : ∀ g ∈ gs, g < 65536) :
    showIpv6 gs ≠ [] ∧ ∀ c ∈ showIpv6 gs, wordChar c = true := by
  exact addrBytes_words (showIpv6_bytes gs hg hl).2 (showIpv6_bytes gs hg hl).1

theorem tokText_field (z : Zone) (ha : TextName z.apex) (f : FieldVal) (hf : FieldOK f) :
    TokText (fieldPiece z f) (fieldToken z f) := by
  cases f with
  | name n => exact tokText_octets_unquoted _ (domainStr_roundtrip z n hf ha).1
  | u16 n => exact tokText_word (showDec_words n).1 (showDec_words n).2
  | u32 n => exact tokText_word (showDec_words n).1 (showDec_words n).2
  | a addr => exact tokText_word (showIpv4_words addr).1 (showIpv4_words addr).2
  | aaaa gs => exact tokText_word (showIpv6_words gs hf.1 hf.2).1 (showIpv6_words gs hf.1 hf.2).2
  | «opaque» bs => exact tokText_octets_quoted bs

theorem RdataOK.known {c : Nat} {fs : List FieldVal} (h : RdataOK c fs) : (c, showRtype c) ∈ rtypeNames := by
  cases h with
  | oneName c hc n hn =>
    rcases hc with h | h | h | h | h | h | h | h <;> subst h <;> exact showRtype_mem_of_lookup rfl
  | octets c hc bs =>
    rcases hc with h | h | h | h <;> subst h <;> exact showRtype_mem_of_lookup rfl
  | _ => exact showRtype_mem_of_lookup rfl

theorem optName_domainStr (z : Zone) (ha : TextName z.apex) (n : Name) (hn : TextName n) :
    optName (emittedOrigin z) ((domainStr z n).map octetAsChar) = some n := by
  unfold optName
  rw [(domainStr_roundtrip z n hn ha).2.2]

theorem tryParse_written (z : Zone) (ha : TextName z.apex) {c : Nat} {fs : List FieldVal} (h : RdataOK c fs) :
    tryParseRtypeWithData (emittedOrigin z) (wordToken (showRtype c) :: fs.map (fieldToken z)) = some ⟨c, fs⟩ := by
  have hmem := h.known
  have hty : rtypeFromStr (showRtype c) = some c := rtypeFromStr_mnemonic (c, showRtype c) hmem
  have nm := optName_domainStr z ha
  cases h with
  | a addr haddr =>
    rw [List.map_cons, List.map_nil, tryParseRtypeWithData_a _ _ hty]
    simp only [fieldToken, wordToken_fst, ipv4FromStr_showIpv4 addr haddr, Option.map_some]
  | oneName c hc n hn =>
    rw [List.map_cons, List.map_nil, tryParseRtypeWithData_oneName _ _ hty hc]
    simp only [fieldToken, nm n hn, Option.map_some]
  | octets c hc bs => exact tryParseRtypeWithData_oneOctets _ _ hty hc _
  | minfo r e hr he =>
    rw [List.map_cons, List.map_cons, List.map_nil, tryParseRtypeWithData_minfo _ _ hty]
    simp only [fieldToken, nm r hr, nm e he]
  | mx p e hp he =>
    rw [List.map_cons, List.map_cons, List.map_nil, tryParseRtypeWithData_mx _ _ hty]
    simp only [fieldToken, wordToken_fst, parseU16_showDec p hp, nm e he]
  | aaaa gs hgs =>
    rw [List.map_cons, List.map_nil, tryParseRtypeWithData_aaaa _ _ hty]
    simp only [fieldToken, wordToken_fst, ipv6FromStr_showIpv6 gs hgs.1 hgs.2, Option.map_some]
  | srv p w port t hp hw hport ht =>
    rw [List.map_cons, List.map_cons, List.map_cons, List.map_cons, List.map_nil,
      tryParseRtypeWithData_srv _ _ hty]
    simp only [fieldToken, wordToken_fst, parseU16_showDec p hp, parseU16_showDec w hw,
      parseU16_showDec port hport, nm t ht]

theorem RdataOK.tokTexts (z : Zone) (ha : TextName z.apex) {c : Nat} {fs : List FieldVal} (h : RdataOK c fs) :
    TokTexts false (serialiseRdata z c fs) (fs.map (fieldToken z)) false := by
  have rd := fun f hf => (tokText_field z ha f hf).one false
  cases h with
  | a addr haddr => exact rd (.a addr) haddr
  | oneName c hc n hn => exact rd (.name n) hn
  | octets c hc bs => exact rd (.opaque bs) trivial
  | minfo r e hr he => exact (rd (.name r) hr).sp (rd (.name e) he)
  | mx p e hp he => exact (rd (.u16 p) hp).sp (rd (.name e) he)
  | aaaa gs hgs => exact rd (.aaaa gs) hgs
  | srv p w port t hp hw hport ht =>
    exact (((rd (.u16 p) hp).sp (rd (.u16 w) hw)).sp (rd (.u16 port) hport)).sp (rd (.name t) ht)

/-- a line `<owner> <ttl> IN <type> <rdata>` as `Zone::serialise` writes it, for any owner piece
    that is read as one token and parses to the owner `w`. -/
theorem rrLine_roundtrip (z : Zone) (ha : TextName z.apex) {ownerPiece : List Char} {ownerTok : Token}
    (hR : TokTexts false ownerPiece [ownerTok] false) {w : MaybeWildcard}
    (howner : parseDomainOrWildcard (emittedOrigin z) ownerTok.1 = .ok w)
    (hnd : ownerTok.1 ≠ sORIGIN ∧ ownerTok.1 ≠ sINCLUDE)
    (zr : ZoneRecord) (hzr : RdataOK zr.rtype zr.fields) (httl : zr.ttl < 4294967296)
    (pd : Option MaybeWildcard) (pt : Option Nat) (rest : List Char) :
    NextEntry (emittedOrigin z) pd pt
      (ownerPiece ++ sp ++ showDec zr.ttl ++ sp ++ sIN ++ sp ++ showRtype zr.rtype ++ sp
        ++ serialiseRdata z zr.rtype zr.fields ++ nl ++ rest)
      (toRr w ⟨zr.rtype, zr.fields⟩ zr.ttl) rest := by
  have hmem := hzr.known
  have hall : TokTexts false (ownerPiece ++ sp ++ showDec zr.ttl ++ sp ++ sIN ++ sp ++ showRtype zr.rtype ++ sp
        ++ serialiseRdata z zr.rtype zr.fields)
      (ownerTok :: wordToken (showDec zr.ttl) :: tIN :: wordToken (showRtype zr.rtype)
        :: zr.fields.map (fieldToken z)) false :=
    (((hR.sp ((tokText_word (showDec_words _).1 (showDec_words _).2).one false)).sp
      ((tokText_word (s := sIN) (by decide) (by decide)).one false)).sp
      ((tokText_word (rtypeNames_words _ hmem).1 (rtypeNames_words _ hmem).2).one false)).sp (hzr.tokTexts z ha)
  -- owner, TTL and `IN` in front of the type: the type is found at the fourth token
  have hp : parseRr (emittedOrigin z) pd pt (ownerTok :: wordToken (showDec zr.ttl) :: tIN
      :: wordToken (showRtype zr.rtype) :: zr.fields.map (fieldToken z)) = .ok (toRr w ⟨zr.rtype, zr.fields⟩ zr.ttl) := by
    refine (parseRr_pre _ pd pt [ownerTok, wordToken (showDec zr.ttl), tIN] _ _ _ (Nat.le_refl 3)
      (tryParse_written z ha hzr) (firstType_three _ _)).trans ?_
    simp only [preFields, tIN_fst, if_true, readPre_owner_ttl, howner, parseU32E, wordToken_fst,
      parseU32_showDec zr.ttl httl]
  exact ⟨_, _, hall.line rest, (entryOfTokens_rr hnd.1 hnd.2 _ pd pt _).trans hp⟩

theorem recordLine_roundtrip (z : Zone) (ha : TextName z.apex) (domain : Name) (hd : TextName domain)
    (hs : NoStar domain) (hasWildcards : Bool) (zr : ZoneRecord) (hzr : RdataOK zr.rtype zr.fields)
    (httl : zr.ttl < 4294967296) (pd : Option MaybeWildcard) (pt : Option Nat) (rest : List Char) :
    NextEntry (emittedOrigin z) pd pt (serialiseRecordLine z domain hasWildcards zr ++ rest)
      (.rr (zr.toRR domain)) rest := by
  have howner : TokTexts false (serialiseDomain z domain ++ (if hasWildcards then [' ', ' '] else []))
      [((domainStr z domain).map octetAsChar, domainStr z domain)] false := by
    have h0 := (tokText_octets_unquoted _ (domainStr_roundtrip z domain hd ha).1).one false
    cases hasWildcards with
    | false => rw [if_neg Bool.false_ne_true, List.append_nil]; exact h0
    | true =>
      rw [if_pos rfl]
      exact h0.append_blanks (gap_blanks _ (List.cons_ne_nil _ _) (fun c hc => Or.inl (by simpa using hc)) false)
  have h := rrLine_roundtrip z ha howner (owner_roundtrip z domain hd ha hs) (owner_not_directive z domain hd ha)
    zr hzr httl pd pt rest
  rw [toRr_not_soa _ _ _ hzr.not_soa] at h
  exact h

theorem tokText_wildcard_owner (bs : List UInt8) :
    TokText ('*' :: '.' :: serialiseOctets bs false) ('*' :: '.' :: bs.map octetAsChar, 42 :: 46 :: bs) := by
  refine .opened (List.cons_ne_nil _ _) fun lc rest rtoks => ?_
  simp only [serialiseOctets, Bool.false_eq_true, if_false, List.nil_append, List.append_nil, List.cons_append]
  rw [tokLoop_init_plain (c := '*') (by decide), tokLoop_unq_plain (c := '.') (by decide),
    tokLoop_serialiseOctets_body (by decide) (by decide) rfl]
  simp only [List.reverse_cons, List.append_assoc, List.cons_append, List.nil_append]
  rfl

theorem wildcardLine_roundtrip (z : Zone) (ha : TextName z.apex) (domain : Name) (hd : TextName domain)
    (zr : ZoneRecord) (hzr : RdataOK zr.rtype zr.fields) (httl : zr.ttl < 4294967296)
    (pd : Option MaybeWildcard) (pt : Option Nat) (rest : List Char) :
    NextEntry (emittedOrigin z) pd pt (serialiseWildcardLine z domain zr ++ rest) (.wildcardRR (zr.toRR domain)) rest := by
  have h := rrLine_roundtrip z ha ((tokText_wildcard_owner (domainStr z domain)).one false)
    (wildcard_owner_roundtrip z domain hd ha) (by constructor <;> (intro h; simp [sORIGIN, sINCLUDE] at h))
    zr hzr httl pd pt rest
  rw [toRr_not_soa _ _ _ hzr.not_soa] at h
  exact h

end Resolved.ZoneText
