/-
  Upstream exchanges (Model/Resolver.lean): the three outcomes of one transport attempt, what an attempt keeps of
  a run (`Deadline`: timed out exactly at the 60 s mark; `CostLe`: at most 5 s of clock per logged attempt), and
  `queryNameserver` as at most two attempts (`mx_udpEx`, `mx_tcpEx`: the UDP and the TCP exchange of a
  query; `mx_fitsUdp`: the request fits a datagram), with the path of a matching UDP reply as an equation.
-/
import Resolved.Model.Resolver

namespace Resolved

open Gen

/-! ## One transport attempt -/

/-- what an attempt that is made adds to the clock: the oracle's delay, capped by the 5 s exchange time-out. -/
def attemptCost (oracle : Oracle) (ex : Exchange) : Nat := min (oracle ex).delayMs EXCHANGE_TIMEOUT_MS

/-- … and what it brings, unless it ends at the 60 s mark: the oracle's reply if that comes before the
    exchange time-out. -/
def attemptReply (oracle : Oracle) (ex : Exchange) : Option Message :=
  if EXCHANGE_TIMEOUT_MS ≤ (oracle ex).delayMs then none else (oracle ex).reply

theorem attempt_cases (oracle : Oracle) (run : Run) (ex : Exchange) :
    (run.timedOut = true ∧ attempt oracle run ex = (run, none)) ∨
    (run.timedOut = false ∧ RESOLVE_TIMEOUT_MS ≤ run.elapsedMs + attemptCost oracle ex ∧
      attempt oracle run ex = (⟨run.log ++ [ex], RESOLVE_TIMEOUT_MS, true⟩, none)) ∨
    (run.timedOut = false ∧ run.elapsedMs + attemptCost oracle ex < RESOLVE_TIMEOUT_MS ∧
      attempt oracle run ex =
        (⟨run.log ++ [ex], run.elapsedMs + attemptCost oracle ex, false⟩, attemptReply oracle ex)) := by
  unfold attempt attemptCost attemptReply
  cases ht : run.timedOut with
  | true => exact Or.inl ⟨rfl, rfl⟩
  | false =>
    simp only [Bool.false_eq_true, if_false]
    by_cases hge : run.elapsedMs + min (oracle ex).delayMs EXCHANGE_TIMEOUT_MS ≥ RESOLVE_TIMEOUT_MS
    · rw [if_pos hge]; exact Or.inr (Or.inl ⟨trivial, hge, rfl⟩)
    · rw [if_neg hge]
      refine Or.inr (Or.inr ⟨trivial, Nat.lt_of_not_le hge, ?_⟩)
      split <;> rw [← ht]

theorem attempt_in_budget {oracle : Oracle} {run : Run} {ex : Exchange} (hlive : run.timedOut = false)
    (ht : run.elapsedMs + attemptCost oracle ex < RESOLVE_TIMEOUT_MS) :
    attempt oracle run ex =
      (⟨run.log ++ [ex], run.elapsedMs + attemptCost oracle ex, false⟩, attemptReply oracle ex) := by
  rcases attempt_cases oracle run ex with ⟨h, _⟩ | ⟨_, h, _⟩ | ⟨_, _, e⟩
  · rw [hlive] at h; cases h
  · exact absurd ht (Nat.not_lt.mpr h)
  · exact e

theorem attempt_answered {oracle : Oracle} {ex : Exchange} {delay : Nat} {r : Option Message}
    (ho : oracle ex = { delayMs := delay, reply := r }) (hd : delay < EXCHANGE_TIMEOUT_MS) :
    attemptCost oracle ex = delay ∧ attemptReply oracle ex = r := by
  unfold attemptCost attemptReply
  rw [ho]
  exact ⟨Nat.min_eq_left (Nat.le_of_lt hd), if_neg (Nat.not_le.mpr hd)⟩

theorem attemptCost_le (oracle : Oracle) (ex : Exchange) : attemptCost oracle ex ≤ EXCHANGE_TIMEOUT_MS :=
  Nat.min_le_right _ _

theorem attempt_timedOut (oracle : Oracle) (run : Run) (ex : Exchange) (h : run.timedOut = true) :
    (attempt oracle run ex).1 = run := by
  unfold attempt; rw [if_pos h]

theorem attempt_time (oracle : Oracle) (run : Run) (ex : Exchange)
    (h : run.elapsedMs ≤ RESOLVE_TIMEOUT_MS) :
    (attempt oracle run ex).1.elapsedMs ≤ RESOLVE_TIMEOUT_MS ∧
    (attempt oracle run ex).1.elapsedMs ≤ run.elapsedMs + EXCHANGE_TIMEOUT_MS ∧
    run.elapsedMs ≤ (attempt oracle run ex).1.elapsedMs := by
  have hd := attemptCost_le oracle ex
  rcases attempt_cases oracle run ex with ⟨_, he⟩ | ⟨_, hge, he⟩ | ⟨_, hlt, he⟩ <;> rw [he]
  · exact ⟨h, Nat.le_add_right _ _, Nat.le_refl _⟩
  · exact ⟨Nat.le_refl _, Nat.le_trans hge (Nat.add_le_add_left hd _), h⟩
  · exact ⟨Nat.le_of_lt hlt, Nat.add_le_add_left hd _, Nat.le_add_right _ _⟩

theorem attempt_reply_logged {oracle : Oracle} {run : Run} {ex : Exchange} {m : Message}
    (h : (attempt oracle run ex).2 = some m) :
    (attempt oracle run ex).1.log = run.log ++ [ex] ∧ (oracle ex).reply = some m := by
  rcases attempt_cases oracle run ex with ⟨_, he⟩ | ⟨_, _, he⟩ | ⟨_, _, he⟩ <;> rw [he] at h ⊢
  · cases h
  · cases h
  · refine ⟨rfl, ?_⟩
    unfold attemptReply at h
    split at h
    · cases h
    · exact h

theorem attempt_reply {oracle : Oracle} {run : Run} {ex : Exchange} {m : Message}
    (h : (attempt oracle run ex).2 = some m) :
    ex ∈ (attempt oracle run ex).1.log ∧ (oracle ex).reply = some m :=
  ⟨by rw [(attempt_reply_logged h).1]; exact List.mem_append_right _ (List.mem_singleton_self ex),
    (attempt_reply_logged h).2⟩

theorem attempt_log (oracle : Oracle) (run : Run) (ex : Exchange) :
    (attempt oracle run ex).1.log = run.log ∨ (attempt oracle run ex).1.log = run.log ++ [ex] := by
  rcases attempt_cases oracle run ex with ⟨_, he⟩ | ⟨_, _, he⟩ | ⟨_, _, he⟩ <;> rw [he]
  · exact Or.inl rfl
  · exact Or.inr rfl
  · exact Or.inr rfl

/-- the clock and the time-out flag agree: timed out exactly at the 60 s mark. -/
def Deadline (run : Run) : Prop :=
  (run.timedOut = true → run.elapsedMs = RESOLVE_TIMEOUT_MS) ∧
  (run.timedOut = false → run.elapsedMs < RESOLVE_TIMEOUT_MS)

theorem Deadline.empty : Deadline Run.empty := by
  refine ⟨fun h => ?_, fun _ => ?_⟩
  · cases h
  · show 0 < RESOLVE_TIMEOUT_MS; decide

theorem attempt_deadline (oracle : Oracle) (run : Run) (ex : Exchange) (h : Deadline run) :
    Deadline (attempt oracle run ex).1 := by
  rcases attempt_cases oracle run ex with ⟨_, he⟩ | ⟨_, _, he⟩ | ⟨_, hlt, he⟩ <;> rw [he]
  · exact h
  · exact ⟨fun _ => rfl, fun hh => Bool.noConfusion hh⟩
  · exact ⟨fun hh => Bool.noConfusion hh, fun _ => hlt⟩

/-- each logged transport attempt accounts for at most one exchange time-out (5 s) of clock. -/
def CostLe (run run' : Run) : Prop :=
  run'.elapsedMs + EXCHANGE_TIMEOUT_MS * run.log.length ≤ run.elapsedMs + EXCHANGE_TIMEOUT_MS * run'.log.length

theorem CostLe.refl (run : Run) : CostLe run run := Nat.le_refl _

theorem CostLe.trans {a b c : Run} (h1 : CostLe a b) (h2 : CostLe b c) : CostLe a c := by
  unfold CostLe at *; omega

theorem CostLe.of_empty {run : Run} (h : CostLe Run.empty run) :
    run.elapsedMs ≤ EXCHANGE_TIMEOUT_MS * run.log.length := by
  simpa only [CostLe, Run.empty, List.length_nil, Nat.mul_zero, Nat.add_zero, Nat.zero_add] using h

theorem attempt_cost (oracle : Oracle) (run : Run) (ex : Exchange) : CostLe run (attempt oracle run ex).1 := by
  have hd := attemptCost_le oracle ex
  rcases attempt_cases oracle run ex with ⟨_, he⟩ | ⟨_, hge, he⟩ | ⟨_, hlt, he⟩ <;> rw [he]
  · exact CostLe.refl run
  · simp only [CostLe, List.length_append, List.length_singleton, Nat.mul_add, Nat.mul_one]; omega
  · simp only [CostLe, List.length_append, List.length_singleton, Nat.mul_add, Nat.mul_one]; omega

/-! ## `queryNameserver`: at most two attempts -/

/-- the request fits a UDP datagram (`serialised_request.len() <= 512`). -/
def mx_fitsUdp (q : Question) (rd : Bool) : Bool :=
  match encodeMessage (requestFor q rd) with
  | .ok bs => decide (bs.length ≤ UDP_MAX)
  | .error _ => false

/-- `if response_matches_request(&request, &response) { return Some(response) }`. -/
def keepMatching (q : Question) (rd : Bool) (r : Message) : Option Message :=
  if responseMatchesRequest (requestFor q rd) r then some r else none

def mx_udpEx (addr : FieldVal) (port : Nat) (q : Question) (rd : Bool) : Exchange :=
  { addr, port, tcp := false, question := q, recursionDesired := rd }

def mx_tcpEx (addr : FieldVal) (port : Nat) (q : Question) (rd : Bool) : Exchange :=
  { addr, port, tcp := true, question := q, recursionDesired := rd }

theorem mx_udpEx_ne_tcpEx (addr : FieldVal) (port : Nat) (q : Question) (rd : Bool) :
    mx_tcpEx addr port q rd ≠ mx_udpEx addr port q rd := by
  intro h
  have := congrArg Exchange.tcp h
  simp [mx_tcpEx, mx_udpEx] at this

theorem keepMatching_some {q : Question} {rd : Bool} {x : Option Message} {m : Message}
    (h : x.bind (keepMatching q rd) = some m) :
    x = some m ∧ responseMatchesRequest (requestFor q rd) m = true := by
  cases x with
  | none => cases h
  | some y =>
    simp only [Option.bind_some, keepMatching] at h
    split at h
    · cases h; exact ⟨rfl, by assumption⟩
    · cases h

theorem keepMatching_none {q : Question} {rd : Bool} {x : Option Message}
    (h : x.bind (keepMatching q rd) = none) :
    ∀ m, x = some m → responseMatchesRequest (requestFor q rd) m = false := by
  intro m hm
  subst hm
  simp only [Option.bind_some, keepMatching] at h
  split at h
  · cases h
  · rename_i hn; exact eq_false_of_ne_true hn

theorem queryNameserver_cases (oracle : Oracle) (run : Run) (addr : FieldVal) (port : Nat)
    (q : Question) (rd : Bool) :
    (mx_fitsUdp q rd = true ∧
      ∃ m, (attempt oracle run (mx_udpEx addr port q rd)).2 = some m ∧
        responseMatchesRequest (requestFor q rd) m = true ∧
        queryNameserver oracle run addr port q rd
          = ((attempt oracle run (mx_udpEx addr port q rd)).1, some m)) ∨
    (mx_fitsUdp q rd = true ∧
      (attempt oracle run (mx_udpEx addr port q rd)).2.bind (keepMatching q rd) = none ∧
      queryNameserver oracle run addr port q rd
        = ((attempt oracle (attempt oracle run (mx_udpEx addr port q rd)).1 (mx_tcpEx addr port q rd)).1,
           (attempt oracle (attempt oracle run (mx_udpEx addr port q rd)).1
              (mx_tcpEx addr port q rd)).2.bind (keepMatching q rd))) ∨
    (mx_fitsUdp q rd = false ∧
      queryNameserver oracle run addr port q rd
        = ((attempt oracle run (mx_tcpEx addr port q rd)).1,
           (attempt oracle run (mx_tcpEx addr port q rd)).2.bind (keepMatching q rd))) := by
  unfold queryNameserver mx_fitsUdp keepMatching mx_udpEx mx_tcpEx
  simp only []
  cases encodeMessage (requestFor q rd) with
  | error e =>
    simp only [Bool.false_eq_true, if_false, false_and, false_or, true_and]
    rfl
  | ok bs =>
    by_cases hl : bs.length ≤ UDP_MAX
    · simp only [hl, decide_true, if_true, true_and, Bool.true_eq_false, false_and, or_false]
      cases hb : (attempt oracle run { addr, port, tcp := false, question := q, recursionDesired := rd }).2.bind
          (fun r => if responseMatchesRequest (requestFor q rd) r = true then some r else none) with
      | some m =>
        obtain ⟨h1, h2⟩ := keepMatching_some (q := q) (rd := rd) hb
        exact Or.inl ⟨m, h1, h2, rfl⟩
      | none => exact Or.inr ⟨rfl, rfl⟩
    · simp only [hl, decide_false, Bool.false_eq_true, if_false, false_and, false_or, true_and]
      rfl

theorem queryNameserver_udp {oracle : Oracle} {run : Run} {addr : FieldVal} {port : Nat} {q : Question} {rd : Bool}
    {m : Message} (hfit : mx_fitsUdp q rd = true) (hu : (attempt oracle run (mx_udpEx addr port q rd)).2 = some m)
    (hm : responseMatchesRequest (requestFor q rd) m = true) :
    queryNameserver oracle run addr port q rd = ((attempt oracle run (mx_udpEx addr port q rd)).1, some m) := by
  rcases queryNameserver_cases oracle run addr port q rd with ⟨_, m', hu', _, heq⟩ | ⟨_, hnone, _⟩ | ⟨hnf, _⟩
  · rw [hu] at hu'; cases hu'; exact heq
  · have := keepMatching_none hnone m hu; rw [hm] at this; cases this
  · rw [hfit] at hnf; cases hnf

theorem queryNameserver_udp_answered (oracle : Oracle) (run : Run) (addr : FieldVal) (port : Nat) (q : Question)
    (rd : Bool) (delay : Nat) (m : Message)
    (ho : oracle (mx_udpEx addr port q rd) = { delayMs := delay, reply := some m })
    (hfit : mx_fitsUdp q rd = true) (hlive : run.timedOut = false) (hd : delay < EXCHANGE_TIMEOUT_MS)
    (ht : run.elapsedMs + delay < RESOLVE_TIMEOUT_MS)
    (hm : responseMatchesRequest (requestFor q rd) m = true) :
    queryNameserver oracle run addr port q rd =
      (⟨run.log ++ [mx_udpEx addr port q rd], run.elapsedMs + delay, false⟩, some m) := by
  obtain ⟨hc, hr⟩ := attempt_answered ho hd
  have h1 := attempt_in_budget (oracle := oracle) (ex := mx_udpEx addr port q rd) hlive (by rw [hc]; exact ht)
  rw [hc, hr] at h1
  rw [queryNameserver_udp hfit (by rw [h1]) hm, h1]

/-- `mid` is the run before the TCP attempt, if one is made: the shape `queryNameserver_rel` composes. -/
theorem queryNameserver_fst (oracle : Oracle) (run : Run) (addr : FieldVal) (port : Nat) (q : Question)
    (rd : Bool) :
    ∃ mid, (mid = run ∨ mid = (attempt oracle run (mx_udpEx addr port q rd)).1) ∧
      ((queryNameserver oracle run addr port q rd).1 = mid ∨
       (queryNameserver oracle run addr port q rd).1 = (attempt oracle mid (mx_tcpEx addr port q rd)).1) := by
  rcases queryNameserver_cases oracle run addr port q rd with ⟨_, m, _, _, he⟩ | ⟨_, _, he⟩ | ⟨_, he⟩ <;> rw [he]
  · exact ⟨_, Or.inr rfl, Or.inl rfl⟩
  · exact ⟨_, Or.inr rfl, Or.inr rfl⟩
  · exact ⟨_, Or.inl rfl, Or.inr rfl⟩

theorem queryNameserver_rel {R : Run → Run → Prop} (oracle : Oracle) (addr : FieldVal) (port : Nat)
    (q : Question) (rd : Bool) (refl : ∀ r, R r r) (trans : ∀ {a b c}, R a b → R b c → R a c)
    (att : ∀ r tcp, R r (attempt oracle r { addr, port, tcp, question := q, recursionDesired := rd }).1)
    (run : Run) : R run (queryNameserver oracle run addr port q rd).1 := by
  obtain ⟨mid, h1, h2⟩ := queryNameserver_fst oracle run addr port q rd
  have hm : R run mid := by
    rcases h1 with h | h <;> rw [h]
    · exact refl run
    · exact att run false
  rcases h2 with h | h <;> rw [h]
  · exact hm
  · exact trans hm (att mid true)

theorem queryNameserver_reply {oracle : Oracle} {run : Run} {addr : FieldVal} {port : Nat} {q : Question}
    {rd : Bool} {m : Message} (h : (queryNameserver oracle run addr port q rd).2 = some m) :
    (∃ ex, (ex = mx_udpEx addr port q rd ∨ ex = mx_tcpEx addr port q rd) ∧
      ex ∈ (queryNameserver oracle run addr port q rd).1.log ∧ (oracle ex).reply = some m) ∧
    responseMatchesRequest (requestFor q rd) m = true := by
  rcases queryNameserver_cases oracle run addr port q rd with ⟨_, m', hm, hmatch, he⟩ | ⟨_, _, he⟩ | ⟨_, he⟩ <;>
    rw [he] at h ⊢
  · cases h
    exact ⟨⟨_, .inl rfl, attempt_reply hm⟩, hmatch⟩
  · obtain ⟨h1, h2⟩ := keepMatching_some h
    exact ⟨⟨_, .inr rfl, attempt_reply h1⟩, h2⟩
  · obtain ⟨h1, h2⟩ := keepMatching_some h
    exact ⟨⟨_, .inr rfl, attempt_reply h1⟩, h2⟩

end Resolved
