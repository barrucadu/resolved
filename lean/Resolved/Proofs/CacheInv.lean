/-
  The cache model's association lists as instances of `AL` (Proofs/Assoc.lean), `PQ.minEntry` and `PQ.pop`; the
  structural invariant `Inv` of the partitioned cache and the list-level facts it rests on (tuple lists, minimum
  expiry, `findDup`/`swapRemove`, `retainLive`, sums over partitions `psum`); queue updates `QUpd`; the two ways an
  operation keeps the invariant (`Inv.setPartition`, `Inv.remove`); the queue clauses of `Inv` in membership form
  (`queue_get_iff_mem`, for the spelled-out invariant of Props/C15).
-/
import Resolved.Model.Cache
import Resolved.Proofs.Assoc

namespace Resolved

/-! ## The model's association lists are instances of `AL` -/

@[simp] theorem getPartition_eq (ps : List (Name × Partition)) (k : Name) :
    PCache.getPartition ps k = AL.get ps k := by
  induction ps with
  | nil => rfl
  | cons x ps ih => obtain ⟨a, b⟩ := x; simp only [PCache.getPartition, AL.get, ih]

@[simp] theorem setPartition_eq (ps : List (Name × Partition)) (k : Name) (p : Partition) :
    PCache.setPartition ps k p = AL.set ps k p := by
  induction ps with
  | nil => rfl
  | cons x ps ih => obtain ⟨a, b⟩ := x; simp only [PCache.setPartition, AL.set, ih]

@[simp] theorem removePartition_eq (ps : List (Name × Partition)) (k : Name) :
    PCache.removePartition ps k = AL.erase ps k := rfl

@[simp] theorem getTuples_eq (rs : List (Nat × Tuples)) (k : Nat) :
    PCache.getTuples rs k = AL.get rs k := by
  induction rs with
  | nil => rfl
  | cons x rs ih => obtain ⟨a, b⟩ := x; simp only [PCache.getTuples, AL.get, ih]

@[simp] theorem setTuples_eq (rs : List (Nat × Tuples)) (k : Nat) (t : Tuples) :
    PCache.setTuples rs k t = AL.set rs k t := by
  induction rs with
  | nil => rfl
  | cons x rs ih => obtain ⟨a, b⟩ := x; simp only [PCache.setTuples, AL.set, ih]

@[simp] theorem PQ_push_eq (q : PQ) (k : Name) (p : Nat) : PQ.push q k p = AL.set q k p := by
  induction q with
  | nil => rfl
  | cons x q ih => obtain ⟨a, b⟩ := x; simp only [PQ.push, AL.set, ih]

@[simp] theorem PQ_change_eq (q : PQ) (k : Name) (p : Nat) : PQ.change q k p = AL.change q k p := by
  induction q with
  | nil => rfl
  | cons x q ih => obtain ⟨a, b⟩ := x; simp only [PQ.change, AL.change, ih]

@[simp] theorem PQ_remove_eq (q : PQ) (k : Name) : PQ.remove q k = AL.erase q k := rfl

/-! ## `PQ.minEntry` -/

theorem PQ.minEntry_eq_none {q : PQ} : PQ.minEntry q = none ↔ q = [] := by
  cases q with
  | nil => simp [PQ.minEntry]
  | cons x q =>
    obtain ⟨k, p⟩ := x
    simp only [PQ.minEntry]
    split <;> simp
    split <;> simp

theorem PQ.minEntry_mem {q : PQ} {k : Name} {p : Nat} (h : PQ.minEntry q = some (k, p)) : (k, p) ∈ q := by
  induction q generalizing k p with
  | nil => simp [PQ.minEntry] at h
  | cons x q ih =>
    obtain ⟨k0, p0⟩ := x
    simp only [PQ.minEntry] at h
    split at h
    · cases h; simp
    · rename_i k' p' hm
      split at h
      · cases h; simp
      · cases h; exact List.mem_cons_of_mem _ (ih hm)

theorem PQ.minEntry_le {q : PQ} {k : Name} {p : Nat} (h : PQ.minEntry q = some (k, p)) :
    ∀ x ∈ q, p ≤ x.2 := by
  induction q generalizing k p with
  | nil => simp
  | cons x q ih =>
    obtain ⟨k0, p0⟩ := x
    simp only [PQ.minEntry] at h
    split at h
    · rename_i hm
      cases h
      have := PQ.minEntry_eq_none.mp hm
      subst this; simp
    · rename_i k' p' hm
      have ih' := ih hm
      split at h
      · rename_i hle
        cases h
        intro x hx
        rcases List.mem_cons.mp hx with rfl | hx
        · exact Nat.le_refl _
        · exact Nat.le_trans hle (ih' x hx)
      · rename_i hle
        cases h
        intro x hx
        rcases List.mem_cons.mp hx with rfl | hx
        · simp only; omega
        · exact ih' x hx

theorem PQ.pop_eq (q : PQ) :
    PQ.pop q = (PQ.minEntry q).map (fun kp => (kp, AL.erase q kp.1)) := by
  unfold PQ.pop
  cases PQ.minEntry q with
  | none => rfl
  | some kp => obtain ⟨k, p⟩ := kp; rfl

open PCache

/-! ## Tuples of a partition -/

def tuplesOf (rs : List (Nat × Tuples)) : Tuples := rs.flatMap (·.2)

def recCount (rs : List (Nat × Tuples)) : Nat := (rs.map (fun r => r.2.length)).sum

@[simp] theorem tuplesOf_nil : tuplesOf [] = [] := rfl
@[simp] theorem tuplesOf_cons (r : Nat × Tuples) (rs : List (Nat × Tuples)) :
    tuplesOf (r :: rs) = r.2 ++ tuplesOf rs := by simp [tuplesOf]
@[simp] theorem tuplesOf_append (a b : List (Nat × Tuples)) :
    tuplesOf (a ++ b) = tuplesOf a ++ tuplesOf b := by simp [tuplesOf]
@[simp] theorem recCount_nil : recCount [] = 0 := rfl
@[simp] theorem recCount_cons (r : Nat × Tuples) (rs : List (Nat × Tuples)) :
    recCount (r :: rs) = r.2.length + recCount rs := by simp [recCount]
@[simp] theorem recCount_append (a b : List (Nat × Tuples)) :
    recCount (a ++ b) = recCount a + recCount b := by simp [recCount]

theorem length_tuplesOf (rs : List (Nat × Tuples)) : (tuplesOf rs).length = recCount rs := by
  induction rs with
  | nil => rfl
  | cons r rs ih => simp [ih]

theorem mem_tuplesOf {rs : List (Nat × Tuples)} {t : CRec × Nat} :
    t ∈ tuplesOf rs ↔ ∃ r ∈ rs, t ∈ r.2 :=
  List.mem_flatMap

theorem tuplesOf_set (rs : List (Nat × Tuples)) (rk : Nat) (ts' : Tuples) :
    ∃ A B, tuplesOf rs = A ++ (AL.get rs rk).getD [] ++ B ∧ tuplesOf (AL.set rs rk ts') = A ++ ts' ++ B := by
  induction rs with
  | nil => exact ⟨[], [], rfl, by simp [AL.set]⟩
  | cons r rs ih =>
    obtain ⟨r1, r2⟩ := r
    obtain ⟨A, B, h1, h2⟩ := ih
    by_cases h : r1 = rk
    · refine ⟨[], tuplesOf rs, ?_, ?_⟩ <;> simp [AL.get, AL.set, h]
    · refine ⟨r2 ++ A, B, ?_, ?_⟩ <;> simp [AL.get, AL.set, h, h1, h2]

theorem recCount_set (rs : List (Nat × Tuples)) (rk : Nat) (ts' : Tuples) :
    recCount (AL.set rs rk ts') + ((AL.get rs rk).getD []).length = recCount rs + ts'.length := by
  have := AL.sum_set List.length rs rk ts'
  cases h : AL.get rs rk <;> simpa [recCount, h] using this

/-! ## Minimum expiry -/

def IsMinExpiry (m : Nat) (ts : Tuples) : Prop := (∃ t ∈ ts, t.2 = m) ∧ ∀ t ∈ ts, m ≤ t.2

theorem IsMinExpiry.congr {m : Nat} {ts ts' : Tuples} (h : IsMinExpiry m ts)
    (hm : ∀ t, t ∈ ts' ↔ t ∈ ts) : IsMinExpiry m ts' := by
  obtain ⟨⟨t, ht, he⟩, hle⟩ := h
  exact ⟨⟨t, (hm t).mpr ht, he⟩, fun t' ht' => hle t' ((hm t').mp ht')⟩

theorem IsMinExpiry.unique {m m' : Nat} {ts : Tuples} (h : IsMinExpiry m ts) (h' : IsMinExpiry m' ts) :
    m = m' := by
  obtain ⟨⟨t, ht, he⟩, hle⟩ := h
  obtain ⟨⟨t', ht', he'⟩, hle'⟩ := h'
  have := hle t' ht'; have := hle' t ht; omega

theorem IsMinExpiry.insert {m : Nat} {ts ts' : Tuples} {x : CRec × Nat} (h : IsMinExpiry m ts)
    (hm : ∀ t, t ∈ ts' ↔ t = x ∨ t ∈ ts) : IsMinExpiry (if x.2 < m then x.2 else m) ts' := by
  obtain ⟨⟨t, ht, he⟩, hle⟩ := h
  split
  · refine ⟨⟨x, (hm x).mpr (Or.inl rfl), rfl⟩, ?_⟩
    intro t' ht'
    rcases (hm t').mp ht' with rfl | h'
    · exact Nat.le_refl _
    · have := hle t' h'; omega
  · refine ⟨⟨t, (hm t).mpr (Or.inr ht), he⟩, ?_⟩
    intro t' ht'
    rcases (hm t').mp ht' with rfl | h'
    · omega
    · exact hle t' h'

theorem IsMinExpiry.remove {m : Nat} {ts ts0 : Tuples} {x : CRec × Nat} (h : IsMinExpiry m ts)
    (hm : ∀ t, t ∈ ts ↔ t = x ∨ t ∈ ts0) (hx : x.2 ≠ m) : IsMinExpiry m ts0 := by
  obtain ⟨⟨t, ht, he⟩, hle⟩ := h
  refine ⟨⟨t, ?_, he⟩, fun t' ht' => hle t' ((hm t').mpr (Or.inr ht'))⟩
  rcases (hm t).mp ht with rfl | h'
  · exact absurd he hx
  · exact h'

theorem foldMin_spec (ts : Tuples) (init : Nat) :
    ts.foldl (fun m t => if t.2 < m then t.2 else m) init ≤ init ∧
    (∀ t ∈ ts, ts.foldl (fun m t => if t.2 < m then t.2 else m) init ≤ t.2) ∧
    (ts.foldl (fun m t => if t.2 < m then t.2 else m) init = init ∨
      ∃ t ∈ ts, t.2 = ts.foldl (fun m t => if t.2 < m then t.2 else m) init) := by
  induction ts generalizing init with
  | nil => exact ⟨Nat.le_refl _, (fun _ h => nomatch h), Or.inl rfl⟩
  | cons t ts ih =>
    simp only [List.foldl_cons]
    split
    · obtain ⟨h1, h2, h3⟩ := ih t.2
      refine ⟨by omega, fun t' ht' => ?_, Or.inr ?_⟩
      · rcases List.mem_cons.mp ht' with rfl | h
        · exact h1
        · exact h2 t' h
      · rcases h3 with h | ⟨t', ht', he⟩
        · exact ⟨t, List.mem_cons_self, h.symm⟩
        · exact ⟨t', List.mem_cons_of_mem _ ht', he⟩
    · obtain ⟨h1, h2, h3⟩ := ih init
      refine ⟨h1, fun t' ht' => ?_, h3.imp_right fun ⟨t', ht', he⟩ => ⟨t', List.mem_cons_of_mem _ ht', he⟩⟩
      rcases List.mem_cons.mp ht' with rfl | h
      · omega
      · exact h2 t' h

theorem minExpiry_le_init (rs : List (Nat × Tuples)) (init : Nat) : minExpiry rs init ≤ init :=
  (foldMin_spec _ _).1

theorem minExpiry_isMin {rs : List (Nat × Tuples)} {init : Nat} (h : ∃ t ∈ tuplesOf rs, t.2 = init) :
    IsMinExpiry (minExpiry rs init) (tuplesOf rs) := by
  refine ⟨?_, (foldMin_spec _ _).2.1⟩
  rcases (foldMin_spec (tuplesOf rs) init).2.2 with he | hm
  · obtain ⟨t, ht, hi⟩ := h
    exact ⟨t, ht, by unfold minExpiry; rw [show (List.flatMap (fun x => x.snd) rs) = tuplesOf rs from rfl, he, hi]⟩
  · exact hm

/-! ## `findDup` and `swapRemove` -/

theorem findDup_go_none {ts : Tuples} {v : CRec} {n : Nat} :
    findDup.go v ts n = none ↔ v ∉ ts.map (·.1) := by
  induction ts generalizing n with
  | nil => simp [findDup.go]
  | cons t ts ih =>
    obtain ⟨v', e⟩ := t
    simp only [findDup.go]
    by_cases h : v' = v
    · simp [h]
    · have h2 : ¬ v = v' := fun e => h e.symm
      simp [h, h2, ih]

theorem findDup_none {ts : Tuples} {v : CRec} : findDup ts v = none ↔ v ∉ ts.map (·.1) :=
  findDup_go_none

theorem findDup_go_some {ts : Tuples} {v : CRec} {n i d : Nat} (h : findDup.go v ts n = some (i, d)) :
    n ≤ i ∧ ts[i - n]? = some (v, d) := by
  induction ts generalizing n with
  | nil => simp [findDup.go] at h
  | cons t ts ih =>
    obtain ⟨v', e⟩ := t
    simp only [findDup.go] at h
    by_cases hv : v' = v
    · simp [hv] at h
      obtain ⟨rfl, rfl⟩ := h
      simp [hv]
    · simp [hv] at h
      obtain ⟨h1, h2⟩ := ih h
      refine ⟨by omega, ?_⟩
      have : i - n = (i - (n + 1)) + 1 := by omega
      rw [this, List.getElem?_cons_succ]; exact h2

theorem findDup_some {ts : Tuples} {v : CRec} {i d : Nat} (h : findDup ts v = some (i, d)) :
    ts[i]? = some (v, d) := by
  have := (findDup_go_some (n := 0) h).2
  simpa using this

theorem perm_cons_set_of_getElem? {α : Type} (d : List α) (i : Nat) (x y : α) (h : d[i]? = some x) :
    (y :: d).Perm (x :: d.set i y) := by
  induction d generalizing i with
  | nil => simp at h
  | cons a d ih =>
    cases i with
    | zero =>
      simp at h; subst h
      simp only [List.set_cons_zero]
      exact List.Perm.swap _ _ _
    | succ i =>
      simp only [List.getElem?_cons_succ] at h
      simp only [List.set_cons_succ]
      have := ih i h
      -- y :: a :: d ~ a :: y :: d ~ a :: x :: d.set i y ~ x :: a :: d.set i y
      exact ((List.Perm.swap a y d).trans (this.cons a)).trans (List.Perm.swap x a _)

theorem swapRemove_concat (d : Tuples) (last : CRec × Nat) (i : Nat) :
    swapRemove (d ++ [last]) i = if i = d.length then d else ((d ++ [last]).set i last).dropLast := by
  unfold swapRemove
  simp only [List.getLast?_concat, List.length_append, List.length_cons, List.length_nil,
    List.dropLast_concat]
  by_cases h : i = d.length
  · simp [h]
  · simp [h]

theorem swapRemove_perm {ts : Tuples} {i : Nat} {x : CRec × Nat} (h : ts[i]? = some x) :
    ts.Perm (x :: swapRemove ts i) := by
  have hne : ts ≠ [] := by intro e; subst e; simp at h
  have hlt : i < ts.length := by
    rcases Nat.lt_or_ge i ts.length with h' | h'
    · exact h'
    · rw [List.getElem?_eq_none h'] at h; cases h
  have hts : ts = ts.dropLast ++ [ts.getLast hne] := (List.dropLast_concat_getLast hne).symm
  generalize ts.getLast hne = last at hts
  generalize ts.dropLast = d at hts
  subst hts
  rw [swapRemove_concat]
  simp only [List.length_append, List.length_cons, List.length_nil] at hlt
  split
  · rename_i hi
    subst hi
    simp at h; subst h
    exact List.perm_append_singleton _ _
  · rename_i hi
    have hi' : i < d.length := by omega
    rw [List.getElem?_append_left hi'] at h
    rw [List.set_append_left _ _ hi', List.dropLast_concat]
    exact (List.perm_append_singleton _ _).trans (perm_cons_set_of_getElem? d i x last h)

theorem nodup_map_fst_concat {l : Tuples} {v : CRec} (e : Nat) (hn : (l.map (·.1)).Nodup) (hv : v ∉ l.map (·.1)) :
    ((l ++ [(v, e)]).map (·.1)).Nodup := by
  rw [List.map_append, List.nodup_append]
  refine ⟨hn, by simp, ?_⟩
  intro x hx y hy
  simp only [List.map_cons, List.map_nil, List.mem_singleton] at hy
  subst hy
  exact fun hxv => hv (hxv ▸ hx)

/-! ## `retainLive` -/

/-- the record map with the tuples of expiry `≤ now` dropped (a type whose tuples all go keeps an empty list) -/
def liveRecs (rs : List (Nat × Tuples)) (now : Nat) : List (Nat × Tuples) :=
  rs.map (fun r => (r.1, r.2.filter (fun t => t.2 > now)))

/-- the number of tuples of expiry `≤ now`: the count `retainLive` returns -/
def expiredIn (rs : List (Nat × Tuples)) (now : Nat) : Nat :=
  (tuplesOf rs).countP (fun t => decide (t.2 ≤ now))

@[simp] theorem liveRecs_nil (now : Nat) : liveRecs [] now = [] := rfl
@[simp] theorem liveRecs_cons (r : Nat × Tuples) (rs : List (Nat × Tuples)) (now : Nat) :
    liveRecs (r :: rs) now = (r.1, r.2.filter (fun t => t.2 > now)) :: liveRecs rs now := rfl

theorem keys_liveRecs (rs : List (Nat × Tuples)) (now : Nat) : AL.keys (liveRecs rs now) = AL.keys rs := by
  simp [liveRecs, AL.keys, Function.comp_def]

theorem tuplesOf_liveRecs (rs : List (Nat × Tuples)) (now : Nat) :
    tuplesOf (liveRecs rs now) = (tuplesOf rs).filter (fun t => t.2 > now) := by
  induction rs with
  | nil => rfl
  | cons r rs ih => simp [ih]

theorem filter_add_countP (ts : Tuples) (now : Nat) :
    (ts.filter (fun t => t.2 > now)).length + ts.countP (fun t => decide (t.2 ≤ now)) = ts.length := by
  induction ts with
  | nil => rfl
  | cons t ts ih =>
    by_cases h : t.2 > now
    · have h' : ¬ t.2 ≤ now := by omega
      rw [List.filter_cons_of_pos (by simpa using h), List.countP_cons_of_neg (by simpa using h')]
      simp only [List.length_cons]; omega
    · have h' : t.2 ≤ now := by omega
      rw [List.filter_cons_of_neg (by simpa using h), List.countP_cons_of_pos (by simpa using h')]
      simp only [List.length_cons]; omega

theorem expiredIn_add_live (rs : List (Nat × Tuples)) (now : Nat) :
    expiredIn rs now + recCount (liveRecs rs now) = recCount rs := by
  have := filter_add_countP (tuplesOf rs) now
  rw [← length_tuplesOf, ← length_tuplesOf, tuplesOf_liveRecs, expiredIn]
  omega

def OptMin (o : Option Nat) (ts : Tuples) : Prop :=
  match o with
  | none => ts = []
  | some n => IsMinExpiry n ts

theorem foldOptMin_some (ts : Tuples) (x : Nat) :
    ts.foldl (fun (m : Option Nat) t =>
      match m with
      | none => some t.2
      | some x => if t.2 < x then some t.2 else some x) (some x) =
    some (ts.foldl (fun m t => if t.2 < m then t.2 else m) x) :=
  List.foldl_hom some fun _ _ => by dsimp only; split <;> rfl

theorem foldOptMin_optMin (ts : Tuples) :
    OptMin (ts.foldl (fun (m : Option Nat) t =>
      match m with
      | none => some t.2
      | some x => if t.2 < x then some t.2 else some x) none) ts := by
  cases ts with
  | nil => rfl
  | cons t ts =>
    simp only [List.foldl_cons, foldOptMin_some, OptMin]
    refine ⟨?_, ?_⟩
    · rcases (foldMin_spec ts t.2).2.2 with h | ⟨t', ht', he⟩
      · exact ⟨t, by simp, h.symm⟩
      · exact ⟨t', List.mem_cons_of_mem _ ht', he⟩
    · intro t' ht'
      rcases List.mem_cons.mp ht' with rfl | h
      · exact (foldMin_spec _ _).1
      · exact (foldMin_spec _ _).2.1 _ h

/-- how `retainLive` combines two optional minima -/
def combOpt : Option Nat → Option Nat → Option Nat
  | none, x => x
  | some a, none => some a
  | some a, some b => some (min a b)

theorem OptMin.append {a b : Option Nat} {A B : Tuples} (ha : OptMin a A) (hb : OptMin b B) :
    OptMin (combOpt a b) (A ++ B) := by
  cases a with
  | none => simp only [OptMin] at ha; subst ha; simpa [combOpt] using hb
  | some x =>
    cases b with
    | none => simp only [OptMin] at hb; subst hb; simpa [combOpt] using ha
    | some y =>
      simp only [OptMin, combOpt] at ha hb ⊢
      obtain ⟨⟨t, ht, he⟩, hle⟩ := ha
      obtain ⟨⟨t', ht', he'⟩, hle'⟩ := hb
      refine ⟨?_, ?_⟩
      · by_cases hxy : x ≤ y
        · exact ⟨t, List.mem_append_left _ ht, by rw [he, Nat.min_eq_left hxy]⟩
        · exact ⟨t', List.mem_append_right _ ht', by rw [he', Nat.min_eq_right (by omega)]⟩
      · intro u hu
        rcases List.mem_append.mp hu with hu | hu
        · have := hle u hu; exact Nat.le_trans (Nat.min_le_left _ _) this
        · have := hle' u hu; exact Nat.le_trans (Nat.min_le_right _ _) this

theorem retainLive_spec (rs : List (Nat × Tuples)) (now : Nat) :
    (retainLive rs now).1 = liveRecs rs now ∧ (retainLive rs now).2.1 = expiredIn rs now ∧
      OptMin (retainLive rs now).2.2 (tuplesOf (liveRecs rs now)) := by
  induction rs with
  | nil => exact ⟨rfl, rfl, rfl⟩
  | cons r rs ih =>
    obtain ⟨k, ts⟩ := r
    obtain ⟨ih1, ih2, ih3⟩ := ih
    simp only [retainLive]
    refine ⟨?_, ?_, ?_⟩
    · simp [ih1]
    · simp only [ih2, expiredIn, tuplesOf_cons, List.countP_append]
      have := filter_add_countP ts now
      omega
    · exact OptMin.append (foldOptMin_optMin (ts.filter (fun t => t.2 > now))) ih3

/-! ## The invariant -/

/-- the per-partition part of the invariant.  The clauses of `Inv` are numbered as in Props/C15: I1 keys are
    distinct and no partition is empty, I2 the sizes are tuple counts, I3 `nextExpiry` is the least expiry,
    I4 the queues mirror the partition map, I5 no value twice in a list, I6 tuples are filed under their type. -/
structure PInv (p : Partition) : Prop where
  keysNodup : (AL.keys p.records).Nodup
  size_eq : p.size = recCount p.records
  /-- I3, and with it "no partition is empty" of I1 -/
  nextExpiry_min : IsMinExpiry p.nextExpiry (tuplesOf p.records)
  noDup : ∀ r ∈ p.records, (r.2.map (·.1)).Nodup
  rtype_eq : ∀ r ∈ p.records, ∀ t ∈ r.2, t.1.rtype = r.1

def psum (f : Partition → Nat) (ps : List (Name × Partition)) : Nat := (ps.map (fun kp => f kp.2)).sum

@[simp] theorem psum_nil (f : Partition → Nat) : psum f [] = 0 := rfl
@[simp] theorem psum_cons (f : Partition → Nat) (x : Name × Partition) (ps : List (Name × Partition)) :
    psum f (x :: ps) = f x.2 + psum f ps := by simp [psum]
@[simp] theorem psum_append (f : Partition → Nat) (a b : List (Name × Partition)) :
    psum f (a ++ b) = psum f a + psum f b := by simp [psum]

/-- the sum `Inv.size_eq` is stated with: `psum (·.size)` under a name of its own (`sizeSum_eq_psum`); proofs rewrite
    to `psum`, which has the lemmas -/
def sizeSum (ps : List (Name × Partition)) : Nat := (ps.map (·.2.size)).sum

@[simp] theorem sizeSum_nil : sizeSum [] = 0 := rfl

theorem sizeSum_eq_psum (ps : List (Name × Partition)) : sizeSum ps = psum (·.size) ps := rfl

/-- the structural invariant of `PartitionedCache` (property C15). -/
structure Inv (c : PCache) : Prop where
  keysNodup : (AL.keys c.partitions).Nodup
  parts : ∀ kp ∈ c.partitions, PInv kp.2
  size_eq : c.currentSize = sizeSum c.partitions
  aqNodup : (AL.keys c.accessPriority).Nodup
  aq_get : ∀ k, AL.get c.accessPriority k = (AL.get c.partitions k).map (·.lastRead)
  eqNodup : (AL.keys c.expiryPriority).Nodup
  eq_get : ∀ k, AL.get c.expiryPriority k = (AL.get c.partitions k).map (·.nextExpiry)

theorem PInv.one_le_size {p : Partition} (h : PInv p) : 1 ≤ p.size := by
  obtain ⟨⟨t, ht, _⟩, _⟩ := h.nextExpiry_min
  rw [h.size_eq, ← length_tuplesOf]
  exact List.length_pos_of_mem ht

theorem Inv.pinv_of_get {c : PCache} (h : Inv c) {k : Name} {p : Partition}
    (hp : AL.get c.partitions k = some p) : PInv p :=
  h.parts _ (AL.mem_of_get hp)

theorem Inv.aq_get_of {c : PCache} (h : Inv c) {k : Name} {p : Partition}
    (hp : AL.get c.partitions k = some p) : AL.get c.accessPriority k = some p.lastRead := by
  rw [h.aq_get, hp]; rfl

theorem Inv.eq_get_of {c : PCache} (h : Inv c) {k : Name} {p : Partition}
    (hp : AL.get c.partitions k = some p) : AL.get c.expiryPriority k = some p.nextExpiry := by
  rw [h.eq_get, hp]; rfl

theorem Inv.size_le {c : PCache} (h : Inv c) {k : Name} {p : Partition}
    (hp : AL.get c.partitions k = some p) : p.size ≤ c.currentSize := by
  obtain ⟨a, b, hab, _⟩ := AL.get_split hp
  rw [h.size_eq, hab, sizeSum_eq_psum, psum_append, psum_cons]
  exact Nat.le_trans (Nat.le_add_right _ _) (Nat.le_add_left _ _)

theorem Inv.partitions_nil_size {c : PCache} (h : Inv c) (hp : c.partitions = []) : c.currentSize = 0 := by
  rw [h.size_eq, hp]; rfl

theorem Inv.totalTuples_eq {c : PCache} (h : Inv c) : totalTuples c = c.currentSize := by
  rw [h.size_eq]
  unfold totalTuples sizeSum
  congr 1
  apply List.map_congr_left
  intro kp hkp
  exact (h.parts kp hkp).size_eq.symm

theorem PInv.getD_nodup {p : Partition} (h : PInv p) (rk : Nat) :
    (((AL.get p.records rk).getD []).map (·.1)).Nodup := by
  cases hg : AL.get p.records rk with
  | none => exact List.nodup_nil
  | some ts => exact h.noDup _ (AL.mem_of_get hg)

theorem PInv.getD_rtype {p : Partition} (h : PInv p) (rk : Nat) :
    ∀ t ∈ (AL.get p.records rk).getD [], t.1.rtype = rk := by
  cases hg : AL.get p.records rk with
  | none => intro t ht; cases ht
  | some ts => exact h.rtype_eq _ (AL.mem_of_get hg)

theorem PInv.setTuples {p : Partition} (h : PInv p) {rk : Nat} {ts' : Tuples} {lr ne n : Nat}
    (hnd : (ts'.map (·.1)).Nodup) (hrt : ∀ t ∈ ts', t.1.rtype = rk)
    (hmin : IsMinExpiry ne (tuplesOf (AL.set p.records rk ts')))
    (hn : n = recCount (AL.set p.records rk ts')) :
    PInv { lastRead := lr, nextExpiry := ne, size := n, records := AL.set p.records rk ts' } := by
  refine ⟨AL.nodup_keys_set h.keysNodup rk ts', hn, hmin, ?_, ?_⟩
  · intro r hr
    rcases AL.eq_or_mem_of_mem_set hr with rfl | hr
    · exact hnd
    · exact h.noDup r hr
  · intro r hr
    rcases AL.eq_or_mem_of_mem_set hr with rfl | hr
    · exact hrt
    · exact h.rtype_eq r hr

theorem PInv.touch {p : Partition} (h : PInv p) (x : Nat) : PInv { p with lastRead := x } :=
  ⟨h.keysNodup, h.size_eq, h.nextExpiry_min, h.noDup, h.rtype_eq⟩

theorem PInv.retain {p : Partition} (h : PInv p) (now : Nat) {n : Nat}
    (hn : IsMinExpiry n (tuplesOf (liveRecs p.records now))) :
    PInv { p with records := liveRecs p.records now, size := p.size - expiredIn p.records now, nextExpiry := n } := by
  refine ⟨?_, ?_, hn, ?_, ?_⟩
  · simp only; rw [keys_liveRecs]; exact h.keysNodup
  · have := expiredIn_add_live p.records now
    have := h.size_eq
    simp only; omega
  · intro r hr
    simp only [liveRecs, List.mem_map] at hr
    obtain ⟨r0, hr0, rfl⟩ := hr
    exact ((List.filter_sublist (l := r0.2)).map _).nodup (h.noDup r0 hr0)
  · intro r hr t ht
    simp only [liveRecs, List.mem_map] at hr
    obtain ⟨r0, hr0, rfl⟩ := hr
    exact h.rtype_eq r0 hr0 t (List.mem_filter.mp ht).1

/-! ## Queue updates -/

/-- what `push` and `change_priority` do to a queue, up to order -/
def QUpd (q q' : PQ) (k : Name) (x : Nat) : Prop :=
  (AL.keys q').Nodup ∧ ∀ k', AL.get q' k' = if k' = k then some x else AL.get q k'

theorem QUpd.set {q : PQ} (hn : (AL.keys q).Nodup) (k : Name) (x : Nat) : QUpd q (AL.set q k x) k x :=
  ⟨AL.nodup_keys_set hn k x, fun k' => AL.get_set q k k' x⟩

theorem QUpd.change {q : PQ} (hn : (AL.keys q).Nodup) {k : Name} {y : Nat} (hy : AL.get q k = some y)
    (x : Nat) : QUpd q (AL.change q k x) k x := by
  rw [AL.change_eq_set hy]; exact QUpd.set hn k x

theorem QUpd.same {q : PQ} (hn : (AL.keys q).Nodup) {k : Name} {x : Nat} (hx : AL.get q k = some x) :
    QUpd q q k x := by
  refine ⟨hn, fun k' => ?_⟩
  by_cases h : k' = k
  · simp [h, hx]
  · simp [h]

theorem QUpd.trans {q q' q'' : PQ} {k : Name} {x y : Nat} (h : QUpd q q' k x) (h' : QUpd q' q'' k y) :
    QUpd q q'' k y := by
  refine ⟨h'.1, fun k' => ?_⟩
  rw [h'.2 k']
  by_cases hk : k' = k
  · simp [hk]
  · simp [hk, h.2 k']

theorem QUpd.erase_set {q : PQ} (hn : (AL.keys q).Nodup) (k : Name) (x : Nat) :
    QUpd q (AL.set (AL.erase q k) k x) k x := by
  refine ⟨AL.nodup_keys_set (AL.nodup_keys_erase hn k) k x, fun k' => ?_⟩
  rw [AL.get_set, AL.get_erase]
  by_cases hk : k' = k <;> simp [hk]

theorem QUpd.get_self {q q' : PQ} {k : Name} {x : Nat} (h : QUpd q q' k x) : AL.get q' k = some x := by
  rw [h.2 k]; simp

theorem QUpd.get_map {q q' : PQ} {ps : List (Name × Partition)} {f : Partition → Nat} {k : Name} {p' : Partition}
    (hq : QUpd q q' k (f p')) (h : ∀ k', AL.get q k' = (AL.get ps k').map f) (k' : Name) :
    AL.get q' k' = (AL.get (AL.set ps k p') k').map f := by
  rw [hq.2 k', AL.get_set]
  split
  · rfl
  · exact h k'

theorem queue_get_erase {q : PQ} {ps : List (Name × Partition)} {f : Partition → Nat}
    (h : ∀ k, AL.get q k = (AL.get ps k).map f) (k k' : Name) :
    AL.get (AL.erase q k) k' = (AL.get (AL.erase ps k) k').map f := by
  rw [AL.get_erase, AL.get_erase]
  split
  · rfl
  · exact h k'

theorem queue_head {q : PQ} {ps : List (Name × Partition)} {f : Partition → Nat}
    (hq : (AL.keys q).Nodup) (hps : (AL.keys ps).Nodup) (hg : ∀ k, AL.get q k = (AL.get ps k).map f) :
    (q = [] ∧ ps = []) ∨
    ∃ k p, PQ.minEntry q = some (k, f p) ∧ AL.get ps k = some p ∧ ∀ kp ∈ ps, f p ≤ f kp.2 := by
  have hmem : ∀ kp ∈ ps, (kp.1, f kp.2) ∈ q := by
    intro kp hkp
    apply AL.mem_of_get
    rw [hg, AL.get_of_mem hps (show (kp.1, kp.2) ∈ ps from hkp)]; rfl
  cases hm : PQ.minEntry q with
  | none =>
    have hq0 := PQ.minEntry_eq_none.mp hm
    refine Or.inl ⟨hq0, List.eq_nil_iff_forall_not_mem.mpr fun kp hkp => ?_⟩
    have := hmem kp hkp
    rw [hq0] at this; cases this
  | some kx =>
    obtain ⟨k, x⟩ := kx
    have hgk := hg k
    rw [AL.get_of_mem hq (PQ.minEntry_mem hm)] at hgk
    obtain ⟨p, hp, hx⟩ := Option.map_eq_some_iff.mp hgk.symm
    subst hx
    exact Or.inr ⟨k, p, rfl, hp, fun kp hkp => PQ.minEntry_le hm _ (hmem kp hkp)⟩

/-! ## Set / remove one partition -/

theorem Inv.setPartition {c c' : PCache} (h : Inv c) {k : Name} {p' : Partition} (hp' : PInv p')
    (hps : c'.partitions = AL.set c.partitions k p')
    (haq : QUpd c.accessPriority c'.accessPriority k p'.lastRead)
    (heq : QUpd c.expiryPriority c'.expiryPriority k p'.nextExpiry)
    (hcs : c'.currentSize + ((AL.get c.partitions k).map (·.size)).getD 0 = c.currentSize + p'.size) :
    Inv c' := by
  refine ⟨?_, ?_, ?_, haq.1, ?_, heq.1, ?_⟩
  · rw [hps]; exact AL.nodup_keys_set h.keysNodup k p'
  · intro kp hkp
    rw [hps] at hkp
    rcases AL.eq_or_mem_of_mem_set hkp with rfl | hkp
    · exact hp'
    · exact h.parts kp hkp
  · have : psum (·.size) (AL.set c.partitions k p') + _ = psum (·.size) c.partitions + p'.size :=
      AL.sum_set (·.size) c.partitions k p'
    have := h.size_eq
    rw [hps, sizeSum_eq_psum] at *; omega
  · rw [hps]; exact haq.get_map (f := (·.lastRead)) h.aq_get
  · rw [hps]; exact heq.get_map (f := (·.nextExpiry)) h.eq_get

theorem Inv.remove {c c' : PCache} (h : Inv c) {k : Name} {p : Partition}
    (hp : AL.get c.partitions k = some p)
    (hps : c'.partitions = AL.erase c.partitions k)
    (haq : c'.accessPriority = AL.erase c.accessPriority k)
    (heq : c'.expiryPriority = AL.erase c.expiryPriority k)
    (hcs : c'.currentSize + p.size = c.currentSize) : Inv c' := by
  obtain ⟨a, b, hab, hka, hkb⟩ := AL.get_split_nodup h.keysNodup hp
  refine ⟨?_, ?_, ?_, ?_, ?_, ?_, ?_⟩
  · rw [hps]; exact AL.nodup_keys_erase h.keysNodup _
  · intro kp hkp
    rw [hps] at hkp
    exact h.parts _ (AL.mem_erase.mp hkp).1
  · have := h.size_eq
    rw [hab] at this
    rw [hps, hab, AL.erase_split hka hkb]
    simp only [sizeSum_eq_psum, psum_append, psum_cons] at this ⊢
    omega
  · rw [haq]; exact AL.nodup_keys_erase h.aqNodup _
  · rw [haq, hps]; exact queue_get_erase h.aq_get k
  · rw [heq]; exact AL.nodup_keys_erase h.eqNodup _
  · rw [heq, hps]; exact queue_get_erase h.eq_get k

/-! ## The queue clauses in membership form -/

theorem queue_get_iff_mem {q : PQ} {ps : List (Name × Partition)} (f : Partition → Nat)
    (hq : (AL.keys q).Nodup) (hps : (AL.keys ps).Nodup) :
    (∀ k, AL.get q k = (AL.get ps k).map f) ↔
      (∀ k x, (k, x) ∈ q ↔ ∃ p, (k, p) ∈ ps ∧ f p = x) := by
  have key : ∀ k x, (AL.get ps k).map f = some x ↔ ∃ p, (k, p) ∈ ps ∧ f p = x := fun k x => by
    rw [Option.map_eq_some_iff]
    exact ⟨fun ⟨p, hp, hf⟩ => ⟨p, AL.mem_of_get hp, hf⟩, fun ⟨p, hp, hf⟩ => ⟨p, AL.get_of_mem hps hp, hf⟩⟩
  constructor
  · intro h k x
    rw [AL.mem_iff_get hq, h k, key]
  · intro h k
    apply Option.ext
    intro x
    rw [← AL.mem_iff_get hq, h k x, key]

end Resolved
