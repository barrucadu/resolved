/-
  The example universes of C07 (`Spec/UniverseSpec.lean`, namespace `UniEx`): the finite facts the
  examples of `Props/C07Universe.lean` and `Props/C07Universe2.lean` need about `uni`, `uniM`, `uniG`,
  `uniG2` and the questions asked of them.
-/
import Resolved.Proofs.UniverseWalks
import Resolved.Proofs.ResolverMachineExample  -- `exceptDecEq`, for the `decide` examples of the two property files

namespace Resolved

open Gen

set_option autoImplicit false

namespace UniEx

/-! ## `uni` -/

theorem uni_ex_hints_built : rootHintsZone nA 16909060 3600 = some hintsZone := by
  simp only [rootHintsZone, Zone.insert, Zone.default, Zone.new, ZNode.insert_eq_rev]
  rfl

theorem uni_ex_mem {E : UEntry} (h : E ∈ uni) : E = eRoot ∨ E = eE ∨ E = eXE ∨ E = eYE := by
  simpa [uni] using h

theorem uni_ex_ok : UniOK uni cfg := by
  apply uniCfg_ok
  · decide +kernel
  · unfold HostsFunctional; decide +kernel
  · decide +kernel
  · decide +kernel
  · decide +kernel

theorem uni_ex_prefer_ok : UniOK uni cfgPrefer := uni_ex_ok.preferV4

theorem uni_ex_hints : RootHints zones eRoot.host eRoot.addr :=
  uni_hints_rootHints nA 16909060 3600 hintsZone uni_ex_hints_built (by decide) (by decide)

theorem uni_ex_refers : ∀ n ∈ [nWXE, nYXE, nCXE, nDXE], ∀ t ∈ [RT_A, RT_AAAA],
    zoneRoot.resolve n t = some (.delegation [eE.nsRR 3600]) ∧
    zoneE.resolve n t = some (.delegation [eXE.nsRR 3600]) := by
  decide +kernel

theorem uni_ex_e_refers_y : zoneE.resolve nWYE RT_A = some (.delegation [eYE.nsRR 3600]) := by
  decide +kernel

/-- the delegation path of the example questions under `x.e.`: root → `e.` → `x.e.`. -/
theorem uni_ex_path_xe (q : Question) (hn : q.name ∈ [nWXE, nYXE, nCXE, nDXE]) (ht : q.qtype ∈ [RT_A, RT_AAAA]) :
    DelegPath uni q eRoot [eE, eXE] eXE :=
  .down eRoot eE eXE [eXE] 3600 (by simp [uni]) (by simp [uni]) (uni_ex_refers _ hn _ ht).1 (by decide) (by decide)
    (.down eE eXE eXE [] 3600 (by simp [uni]) (by simp [uni]) (uni_ex_refers _ hn _ ht).2 (by decide) (by decide)
      (.here eXE (by simp [uni])))

theorem uni_ex_path (q : Question) (hn : q.name = nWXE ∨ q.name = nYXE ∨ q.name = nCXE)
    (ht : q.qtype = RT_A ∨ q.qtype = RT_AAAA) :
    DelegPath uni q eRoot [eE, eXE] eXE :=
  uni_ex_path_xe q (by rcases hn with h | h | h <;> simp [h]) (by rcases ht with h | h <;> simp [h])

theorem uni_ex_path_three (q : Question) (hq : q = qA ∨ q = qAAAA ∨ q = qNx) : DelegPath uni q eRoot [eE, eXE] eXE := by
  rcases hq with rfl | rfl | rfl <;> exact uni_ex_path_xe _ (by simp [qA, qAAAA, qNx]) (by simp [qA, qAAAA, qNx])

/-- … and of the alias target `w.y.e.`, from `e.` (whose NS set is cached by then): `e.` → `y.e.`. -/
theorem uni_ex_path_y : DelegPath uni (aliasQ qC nWYE) eE [eYE] eYE :=
  .down eE eYE eYE [] 3600 (by simp [uni]) (by simp [uni]) uni_ex_e_refers_y (by decide) (by decide)
    (.here eYE (by simp [uni]))

theorem uni_ex_typed : ∀ E ∈ uni, E.zone.records.Typed := by
  have hc : ∀ E ∈ uni, fb_nodeAll (fun m => m.all fun kv => kv.2.all (·.rtype == kv.1)) E.zone.records = true := by
    decide +kernel
  exact fun E hE => ZNode.typed_of_nodeAll (hc E hE)

theorem uni_ex_xe_typed : zoneXE.records.Typed := uni_ex_typed eXE (by simp [uni])

theorem uni_ex_question (q : Question) (hq : q = qA ∨ q = qAAAA ∨ q = qNx ∨ q = qC ∨ q = aliasQ qC nWYE ∨ q = qD) :
    QuestionOK q ∧ rtypeIsUnknown q.qtype = false := by
  rcases hq with rfl | rfl | rfl | rfl | rfl | rfl <;> exact ⟨⟨by decide, by decide +kernel⟩, by decide⟩

theorem uni_ex_resolve_A : zoneXE.resolve nWXE RT_A = some (.answer [rrW1, rrW2]) := by
  decide +kernel

theorem uni_ex_resolve_AAAA : zoneXE.resolve nWXE RT_AAAA = some (.answer []) := by
  decide +kernel

theorem uni_ex_resolve_nx : zoneXE.resolve nYXE RT_A = some .nameError := by
  decide +kernel

theorem uni_ex_resolve_C : zoneXE.resolve nCXE RT_A = some (.cname nWYE rrC) := by
  decide +kernel

theorem uni_ex_resolve_WY : zoneYE.resolve nWYE RT_A = some (.answer [rrWY]) := by
  decide +kernel

theorem uni_ex_resolve_D : zoneXE.resolve nDXE RT_A = some (.cname nCXE rrD) := by
  decide +kernel

theorem uni_ex_consistent_check : universeConsistent uni 2 = true := by decide +kernel

theorem uni_ex_consistent : Consistent uni := uni_consistent_of_check uni 2 uni_ex_consistent_check

theorem uni_ex_hostsMiss : ∀ C ∈ [eE, eXE, eYE], localMiss zones C.host RT_A = true := by
  decide +kernel

theorem uni_ex_apexMiss : ∀ C ∈ [eE, eXE, eYE], C.apex ≠ Name.root ∧ localMiss zones C.apex RT_NS = true := by
  decide +kernel

theorem uni_ex_startAll (q : Question) (hq : q = qA ∨ q = qAAAA ∨ q = qNx) : UniStartAll uni zones q eRoot 30 := by
  have hall : ∀ q ∈ [qA, qAAAA, qNx], localMiss zones q.name q.qtype = true ∧ candMiss zones q.name.labels = true ∧
      (∀ C ∈ uni, C.apex.labels.length ≠ 1 → q.name ≠ C.host) ∧
      30 * q.name.labels.length < RESOLVE_TIMEOUT_MS ∧ q.name.labels.length + 2 ≤ REC_FUEL := by
    decide +kernel
  obtain ⟨h1, h2, h3, h4, h5⟩ := hall q (by simpa using hq)
  refine ⟨rfl, uni_ex_hints, h1, h2, ?_, fun _ => h3, by decide, h4, h5⟩
  intro C hC
  rcases uni_ex_mem hC with rfl | rfl | rfl | rfl
  · intro h; exact absurd rfl h
  · intro _; exact uni_ex_hostsMiss eE (by simp)
  · intro _; exact uni_ex_hostsMiss eXE (by simp)
  · intro _; exact uni_ex_hostsMiss eYE (by simp)

theorem uni_ex_start (q : Question) (hq : q = qA ∨ q = qAAAA ∨ q = qNx) : UniStart zones q eRoot [eE, eXE] := by
  refine uni_start_of_all (uni_ex_startAll q hq) (uni_ex_path_three q hq) ?_
  rcases hq with rfl | rfl | rfl
  · exact congrArg Option.isSome uni_ex_resolve_A
  · exact congrArg Option.isSome uni_ex_resolve_AAAA
  · exact congrArg Option.isSome uni_ex_resolve_nx

theorem uni_ex_startAlias : UniStartAlias uni zones qC nWYE eRoot [eE, eXE] eE [eYE] := by
  have hmiss : localMiss zones qC.name qC.qtype = true ∧ candMiss zones qC.name.labels = true ∧
      localMiss zones nWYE qC.qtype = true ∧
      warmMiss zones [eE, eXE] [qC.name] eE.apex.labels.length nWYE.labels = true := by
    decide +kernel
  refine ⟨rfl, uni_ex_hints, hmiss.1, hmiss.2.1, by decide, ?_, fun C hC => uni_ex_hostsMiss C (by simpa using hC),
    by decide, hmiss.2.2.1, Or.inl ⟨by simp, (uni_ex_apexMiss eE (by simp)).2⟩, by decide, hmiss.2.2.2, by decide, by decide⟩
  have hnot : ∀ E ∈ uni, qC.name ≠ E.host ∧ nWYE ≠ E.host := by decide
  exact fun _ => hnot

theorem uni_ex_leg {V : List UEntry} {cn : List Name} {stack : List Question} {q : Question} {Y Z : UEntry}
    {rest : List UEntry} (hp : DelegPath uni q Y rest Z) (hq : QuestionOK q ∧ rtypeIsUnknown q.qtype = false)
    (hA : q.qtype = RT_A) (hstart : (Y ∈ V ∧ Y ∈ [eE, eXE, eYE]) ∨ Y = eRoot) (hrest : ∀ C ∈ rest, C ∈ [eE, eXE, eYE])
    (hd : Name.fromLabels Y.apex.labels = some Y.apex ∧ stack.length + 1 < RECURSION_LIMIT ∧
      (∀ q0 ∈ stack, q0.qtype = RT_A ∧ q0.name ≠ q.name ∧ ∀ E ∈ uni, q0.name ≠ E.host) ∧
      localMiss zones q.name q.qtype = true ∧ (∀ E ∈ uni, q.name ≠ E.host) ∧ q.name ∉ cn ∧
      warmMiss zones V cn Y.apex.labels.length q.name.labels = true) :
    UniLeg uni zones V cn stack q Y rest Z := by
  obtain ⟨hwf, hdepth, hst, hqm, hnh, hna, hw⟩ := hd
  exact
    { ok := hq.1
      notNS := by rw [hA]; decide
      notCN := by rw [hA]; decide
      path := hp
      says := uni_zoneSaysWF_of_typed (uni_ex_typed Z (path_end_mem_universe hp)) q hq.1.qtype hq.2
      start := by
        rcases hstart with ⟨hV, hY⟩ | rfl
        · exact Or.inl ⟨hV, (uni_ex_apexMiss Y hY).2, uni_ex_hostsMiss Y hY⟩
        · exact Or.inr ⟨rfl, uni_ex_hints⟩
      startWf := hwf
      depth := hdepth
      stackOK := fun q0 hq0 => ⟨by rw [(hst q0 hq0).1]; decide, fun he => (hst q0 hq0).2.1 (by rw [he]),
        fun E hE he => (hst q0 hq0).2.2 E hE (by rw [he]; rfl)⟩
      qmiss := hqm
      notHost := fun _ => hnh
      notAlias := hna
      warm := hw
      hostsMiss := fun C hC => uni_ex_hostsMiss C (hrest C hC) }

/-- the plan for `d.x.e. A`: root → `e.` → `x.e.` (alias for `c.x.e.`), `x.e.` again (alias for
    `w.y.e.`), `e.` → `y.e.` (the address). -/
theorem uni_ex_plan_D : ∃ ex n, UniPlan uni zones [] [] [] qD ex n (.nonAuthoritative [rrD, rrC, rrWY] none) ∧
    n ≤ REC_FUEL ∧ planDelay ex < RESOLVE_TIMEOUT_MS ∧
    planLog 53 ex = [eRoot.exchange 53 qD, eE.exchange 53 qD, eXE.exchange 53 qD, eXE.exchange 53 qC,
      eE.exchange 53 (aliasQ qC nWYE), eYE.exchange 53 (aliasQ qC nWYE)] := by
  -- third leg: `w.y.e.` from `e.`
  have leg3 : UniLeg uni zones ([] ++ [eE, eXE] ++ []) [nCXE, nDXE] ([] ++ [qD] ++ [aliasQ qD nCXE])
      (aliasQ qC nWYE) eE [eYE] eYE :=
    uni_ex_leg uni_ex_path_y (uni_ex_question _ (by simp)) rfl (Or.inl ⟨by simp, by simp⟩) (by simp) (by decide +kernel)
  have plan3 := UniPlan.final leg3 (res := .nonAuthoritative [rrWY] none)
    (expectedAt_answer (soa := ⟨nYE, 6, soaYE.toFields, 1, 60⟩) uni_ex_resolve_WY (by simp) rfl)
  -- second leg: `c.x.e.` from `x.e.`
  have leg2 : UniLeg uni zones ([] ++ [eE, eXE]) [nDXE] ([] ++ [qD]) qC eXE [] eXE :=
    uni_ex_leg (.here eXE (by simp [uni])) (uni_ex_question _ (by simp)) rfl (Or.inl ⟨by simp, by simp⟩) (by simp)
      (by decide +kernel)
  have plan2 := UniPlan.alias leg2 (tn := nWYE) (rr := rrC) uni_ex_resolve_C (by decide) plan3
  -- first leg: `d.x.e.` from the root hints
  have leg1 : UniLeg uni zones [] [] [] qD eRoot [eE, eXE] eXE :=
    uni_ex_leg (uni_ex_path_xe qD (by simp [qD]) (by simp [qD])) (uni_ex_question _ (by simp)) rfl (Or.inr rfl) (by simp)
      (by decide +kernel)
  have plan1 := UniPlan.alias leg1 (tn := nCXE) (rr := rrD) uni_ex_resolve_D (by decide) plan2
  exact ⟨_, _, plan1, by decide, by decide, rfl⟩

/-! ### a second question after `w.x.e. A` -/

theorem uni2_ex_expected_A : expectedAt eXE qA = some (.nonAuthoritative [rrW1, rrW2] none) :=
  expectedAt_answer (soa := soaRRXE) uni_ex_resolve_A (by simp) rfl

theorem uni2_ex_expected_AAAA : expectedAt eXE qAAAA = some (.nonAuthoritative [] (some soaRRXE)) :=
  expectedAt_empty eXE qAAAA soaRRXE (Or.inl uni_ex_resolve_AAAA) rfl

theorem uni2_ex_expected_nx : expectedAt eXE qNx = some (.nonAuthoritative [] (some soaRRXE)) :=
  expectedAt_empty eXE qNx soaRRXE (Or.inr uni_ex_resolve_nx) rfl

theorem uni2_ex_fresh (q : Question) (hq : q = qA ∨ q = qAAAA ∨ q = qNx) (now now' : Nat) (h1 : now ≤ now')
    (h2 : now' + NANOS ≤ now + 3600 * NANOS) : UniFresh uni q eRoot [eE, eXE] 3600 now now' := by
  refine ⟨h1, h2, by decide +kernel, ?_⟩
  rcases hq with rfl | rfl | rfl <;> decide +kernel

theorem uni2_ex_sibling (q2 : Question) (hq2 : q2 = qAAAA ∨ q2 = qNx) :
    UniSibling zones [(qA.name, qA.qtype)] eRoot [eE, eXE] eXE q2 := by
  have hq := uni_ex_question q2 (by rcases hq2 with h | h <;> simp [h])
  rcases hq2 with rfl | rfl <;>
    exact ⟨hq.1, hq.2, by decide, by decide +kernel, fun _ => by decide +kernel, by decide +kernel,
      Or.inl ⟨by simp, (uni_ex_apexMiss eXE (by simp)).2⟩, by decide, by decide +kernel⟩

/-! ## `uniM`: two name servers for `x.e.` -/

theorem uni_ex_okM : UniOKM uniM cfgM :=
  ⟨uniCfg_faithful uniM 53 (by decide +kernel), Or.inl rfl, by unfold HostsFunctional; decide +kernel,
    by decide +kernel, by decide +kernel⟩

/-- root → `e.` → `x.e.`, the referral to `x.e.` naming `m.x.e.` and `m2.x.e.`; with `hostOrder = id`
    the loop contacts the one named last, `m2.x.e.`. -/
theorem uni_ex_pathM : DelegPathM uniM cfgM.hostOrder qA eRoot [eEM, eXE2] ([eEM] ++ ([eXE, eXE2] ++ [])) eXE2 :=
  .down eRoot eEM eXE2 [eXE2] ([eXE, eXE2] ++ []) [eEM] [eEM.nsRR 3600] (by simp [uniM]) (by simp)
    (by intro D hD; simp only [List.mem_singleton] at hD; subst hD; exact ⟨by simp [uniM], rfl⟩)
    (by decide +kernel)
    (by intro rr hr; simp only [List.mem_singleton] at hr; subst hr; exact ⟨by decide, eEM, by simp, rfl⟩)
    (by intro D hD; simp only [List.mem_singleton] at hD; subst hD; exact ⟨eEM.nsRR 3600, by simp, rfl⟩)
    (by decide) (by decide)
    (.down eEM eXE2 eXE2 [] [] [eXE, eXE2] [eXE.nsRR 3600, eXE2.nsRR 3600] (by simp [uniM]) (by simp)
      (by
        intro D hD
        simp only [List.mem_cons, List.not_mem_nil, or_false] at hD
        rcases hD with rfl | rfl <;> exact ⟨by simp [uniM], rfl⟩)
      (by decide +kernel)
      (by
        intro rr hr
        simp only [List.mem_cons, List.not_mem_nil, or_false] at hr
        rcases hr with rfl | rfl
        · exact ⟨by decide, eXE, by simp, rfl⟩
        · exact ⟨by decide, eXE2, by simp, rfl⟩)
      (by
        intro D hD
        simp only [List.mem_cons, List.not_mem_nil, or_false] at hD
        rcases hD with rfl | rfl
        · exact ⟨eXE.nsRR 3600, by simp, rfl⟩
        · exact ⟨eXE2.nsRR 3600, by simp, rfl⟩)
      (by decide) (by decide) (.here eXE2 (by simp [uniM])))

theorem uni_ex_startM : UniStartM zones qA eRoot [eEM, eXE2] ([eEM] ++ ([eXE, eXE2] ++ [])) := by
  have hmiss : localMiss zones qA.name qA.qtype = true ∧ candMiss zones qA.name.labels = true ∧
      ∀ C ∈ [eEM] ++ ([eXE, eXE2] ++ []), localMiss zones C.host RT_A = true ∧ qA.name ≠ C.host := by
    decide +kernel
  exact ⟨rfl, uni_ex_hints, hmiss.1, hmiss.2.1, fun C hC => (hmiss.2.2 C hC).1, fun _ C hC => (hmiss.2.2 C hC).2,
    by decide, by decide⟩

/-! ## `uniG`: a zone whose name server lies out of bailiwick -/

theorem uni2_ex_ok : UniOKG (uniGlueB uniG) uniG cfgG := by
  refine uniCfgB_ok uniG 53 ?_ ?_ ?_ ?_ ?_
  · decide +kernel
  · unfold HostsFunctional; decide +kernel
  all_goals decide +kernel

theorem uni2_ex_root_refers : zoneRoot.resolve nWZE RT_A = some (.delegation [eEG.nsRR 3600]) := by
  decide +kernel

theorem uni2_ex_e_refers_z : zoneEG.resolve nWZE RT_A = some (.delegation [eZE.nsRR 3600]) := by
  decide +kernel

theorem uni2_ex_e_refers_y : zoneEG.resolve nKYE RT_A = some (.delegation [eYEG.nsRR 3600]) := by
  decide +kernel

theorem uni2_ex_resolve_K : zoneYEG.resolve nKYE RT_A = some (.answer [rrK]) := by
  decide +kernel

theorem uni2_ex_resolve_WZ : zoneZE.resolve nWZE RT_A = some (.answer [rrWZ]) := by
  decide +kernel

/-- the main path of `w.z.e. A`: root → `e.` (which then refers to `z.e.` without glue). -/
theorem uni2_ex_path : DelegPath uniG qZ eRoot [eEG] eEG :=
  .down eRoot eEG eEG [] 3600 (by simp [uniG]) (by simp [uniG]) uni2_ex_root_refers (by decide)
    (by decide) (.here eEG (by simp [uniG]))

/-- the path of the name server's address `k.y.e. A`, from `e.` (cached): `e.` → `y.e.`. -/
theorem uni2_ex_path_k : DelegPath uniG (uniHostQ eZE.host) eEG [eYEG] eYEG :=
  .down eEG eYEG eYEG [] 3600 (by simp [uniG]) (by simp [uniG]) uni2_ex_e_refers_y (by decide) (by decide)
    (.here eYEG (by simp [uniG]))

theorem uni2_ex_typed : ∀ E ∈ uniG, E.zone.records.Typed := by
  have hc : ∀ E ∈ uniG, fb_nodeAll (fun m => m.all fun kv => kv.2.all (·.rtype == kv.1)) E.zone.records = true := by
    decide +kernel
  exact fun E hE => ZNode.typed_of_nodeAll (hc E hE)

theorem uni2_ex_expected_K : expectedAt eYEG (uniHostQ eZE.host) = some (.nonAuthoritative [rrK] none) :=
  expectedAt_answer (soa := ⟨nYE, 6, soaYE.toFields, 1, 60⟩) uni2_ex_resolve_K (by simp) rfl

theorem uni2_ex_expected_WZ : expectedAt eZE qZ = some (.nonAuthoritative [rrWZ] none) :=
  expectedAt_answer (soa := soaRRZE) uni2_ex_resolve_WZ (by simp) rfl

theorem uni2_ex_startGlueless :
    UniStartGlueless (uniGlueB uniG) uniG zones 300 qZ eRoot [eEG] eZE 3600 eEG [eYEG] := by
  have hin : ∀ C ∈ [eEG] ++ [eYEG], C ∈ uniG ∧ C.host.isSubdomainOf C.apex = true := by
    intro C hC
    simp only [List.cons_append, List.nil_append, List.mem_cons, List.not_mem_nil, or_false] at hC
    rcases hC with rfl | rfl <;> exact ⟨by simp [uniG], by decide +kernel⟩
  exact ⟨rfl, uni_ex_hints, by decide, by decide +kernel, by decide +kernel,
    fun C hC ttl => uniGlueB_mem (hin C hC).1 (hin C hC).2 ttl, by decide +kernel, fun _ => by decide +kernel,
    uniGlueB_nil (by decide +kernel) 3600, by decide +kernel, ⟨by decide, by decide +kernel⟩,
    Or.inl ⟨List.mem_cons_self, by decide +kernel⟩,
    by decide, by decide +kernel, by decide +kernel, by decide +kernel, by decide +kernel, by decide, by decide⟩

/-! ## `uniG2`: a glueless zone whose name server lies in another glueless zone -/

theorem uni2_ex2_ok : UniOKG (uniGlueB uniG2) uniG2 cfgG2 := by
  refine uniCfgB_ok uniG2 53 ?_ ?_ ?_ ?_ ?_
  · decide +kernel
  · unfold HostsFunctional; decide +kernel
  all_goals decide +kernel

theorem uni2_ex2_typed : ∀ E ∈ uniG2, E.zone.records.Typed := by
  have hc : ∀ E ∈ uniG2, fb_nodeAll (fun m => m.all fun kv => kv.2.all (·.rtype == kv.1)) E.zone.records = true := by
    decide +kernel
  exact fun E hE => ZNode.typed_of_nodeAll (hc E hE)

/-- the walk of `w.v.e. A`: root → `e.` — glueless referral to `v.e.` (name server `j.z.e.`) — nested:
    `j.z.e. A` from `e.` — glueless referral to `z.e.` (name server `k.y.e.`) — nested in that:
    `k.y.e. A` from `e.` → `y.e.` (6.6.6.6) — then `z.e.` (8.8.8.8) — then `v.e.`. -/
theorem uni2_ex2_walk : ∃ V' G', UniWalk (uniGlueB uniG2) uniG2 zones [] 300 [qV] qV [] [] eRoot
    [(eEG2, qV), (eEG2, uniHostQ nJZE), (eEG2, uniHostQ nKYE), (eYEG, uniHostQ nKYE), (eZE2, uniHostQ nJZE), (eVE, qV)]
    (((0 + 2) + 0 + 6) + 0 + 6 + 2) V' G' (.nonAuthoritative [rrWV] none) := by
  obtain ⟨mE, mY, mZ, mV⟩ : eEG2 ∈ uniG2 ∧ eYEG ∈ uniG2 ∧ eZE2 ∈ uniG2 ∧ eVE ∈ uniG2 := by simp [uniG2]
  have says : ∀ E ∈ uniG2, ∀ n, ZoneSaysWF E.zone (uniHostQ n) := fun E hE n =>
    uni_zoneSaysWF_of_typed (uni2_ex2_typed E hE) _ lookupNat_qt_RT_A (show rtypeIsUnknown RT_A = false by decide)
  -- both nested walks start at `e.`, whose NS set and address are cached by then
  have nested : ∀ (V G : List UEntry) (S : List Question) (C : UEntry), eEG2 ∈ V → eEG2 ∈ G →
      C.host.isSubdomainOf eEG2.apex = true → warmMissK zones V [] eEG2.apex.labels.length C.host.labels = true →
      uniHostQ eEG2.host ∉ S → NestedStart uniG2 zones [] V G S C eEG2 := fun _ _ _ _ hV hG hsub hwarm hS =>
    ⟨mE, Or.inl ⟨hV, hG, by decide +kernel, by decide +kernel, (fun hk => nomatch hk)⟩,
      (fun hk => nomatch hk), by decide, hsub, hwarm, hS⟩
  -- innermost: `k.y.e. A`, stack `[qV, j.z.e. A, k.y.e. A]`, from `e.`: referral (glue) to `y.e.`, which answers
  have hN2 : UniWalk (uniGlueB uniG2) uniG2 zones [] 300 ([qV] ++ [uniHostQ eVE.host] ++ [uniHostQ eZE2.host])
      (uniHostQ eZE2.host) ((([] ++ [eEG2]) ++ [eVE]) ++ [eZE2]) ([] ++ [eEG2]) eEG2 [(eYEG, uniHostQ eZE2.host)] (0 + 2)
      (((([] ++ [eEG2]) ++ [eVE]) ++ [eZE2]) ++ [eYEG]) (([] ++ [eEG2]) ++ [eYEG]) (.nonAuthoritative [rrK] none) :=
    UniWalk.glued (ttl := 3600) mY (by decide +kernel) (by decide) (by decide) (by decide +kernel) (by decide +kernel)
      ⟨fun _ => by decide +kernel, by decide +kernel, (fun hk => nomatch hk), by decide +kernel, by decide⟩
      (UniWalk.last uni2_ex_expected_K (says eYEG mY _))
  -- middle: `j.z.e. A`, stack `[qV, j.z.e. A]`, from `e.`: glueless referral to `z.e.`
  have hN1 : UniWalk (uniGlueB uniG2) uniG2 zones [] 300 ([qV] ++ [uniHostQ eVE.host]) (uniHostQ eVE.host)
      (([] ++ [eEG2]) ++ [eVE]) ([] ++ [eEG2]) eEG2
      ((eEG2, uniHostQ eZE2.host) :: [(eYEG, uniHostQ eZE2.host)] ++ (eZE2, uniHostQ eVE.host) :: [])
      ((0 + 2) + 0 + 6) (((([] ++ [eEG2]) ++ [eVE]) ++ [eZE2]) ++ [eYEG]) ((([] ++ [eEG2]) ++ [eYEG]) ++ [eZE2])
      (.nonAuthoritative [rrJ] none) :=
    UniWalk.glueless (ttl := 3600) (resH := .nonAuthoritative [rrK] none) (fN := 0 + 2) (f := 0) mZ (by decide +kernel)
      (by decide) (by decide) (by decide +kernel) (by decide +kernel)
      ⟨fun _ => by decide +kernel, by decide +kernel, by decide +kernel, by decide +kernel,
        ⟨(fun hk => nomatch hk), (fun hk => nomatch hk), (fun hk => nomatch hk)⟩, by decide +kernel, by decide,
        by decide +kernel, by decide, by decide +kernel⟩
      (nested _ _ _ _ (by simp) (by simp) (by decide +kernel) (by decide +kernel) (by decide +kernel))
      hN2 (by decide +kernel) (UniWalk.last (by decide +kernel) (says eZE2 mZ _))
  -- the node of `e.` for `w.v.e. A`: glueless referral to `v.e.`
  have hW1 : UniWalk (uniGlueB uniG2) uniG2 zones [] 300 [qV] qV ([] ++ [eEG2]) ([] ++ [eEG2]) eEG2
      ((eEG2, uniHostQ eVE.host) ::
        ((eEG2, uniHostQ eZE2.host) :: [(eYEG, uniHostQ eZE2.host)] ++ (eZE2, uniHostQ eVE.host) :: []) ++
        (eVE, qV) :: [])
      (((0 + 2) + 0 + 6) + 0 + 6) (((([] ++ [eEG2]) ++ [eVE]) ++ [eZE2]) ++ [eYEG])
      (((([] ++ [eEG2]) ++ [eYEG]) ++ [eZE2]) ++ [eVE]) (.nonAuthoritative [rrWV] none) :=
    UniWalk.glueless (ttl := 3600) (resH := .nonAuthoritative [rrJ] none) (fN := (0 + 2) + 0 + 6) (f := 0) mV
      (by decide +kernel) (by decide) (by decide) (by decide +kernel) (by decide +kernel)
      ⟨fun _ => by decide +kernel, by decide +kernel, by decide +kernel, by decide +kernel,
        ⟨(fun hk => nomatch hk), (fun hk => nomatch hk), (fun hk => nomatch hk)⟩, by decide +kernel, by decide,
        by decide +kernel, by decide, by decide +kernel⟩
      (nested _ _ _ _ (by simp) (by simp) (by decide +kernel) (by decide +kernel) (by decide +kernel))
      hN1 (by decide +kernel) (UniWalk.last (by decide +kernel) (says eVE mV _))
  -- the root refers to `e.` with glue
  exact ⟨_, _, UniWalk.glued (ttl := 3600) mE (by decide +kernel) (by decide) (by decide) (by decide +kernel)
    (by decide +kernel) ⟨fun _ => by decide +kernel, by decide +kernel, (fun hk => nomatch hk), by decide +kernel, by decide⟩
    hW1⟩

end UniEx

end Resolved
