/-
  C11: `Zone::deserialise (render ds v)` against the meaning `denote ds`, both directions in one theorem
  (`parse_render`, under the side condition on the single directives): the zone built from the collected records, a
  record outside the apex (the specification's final check, `NotSubdomainOfApex`), a rejected directive.  What
  `buildZone` does on the loop's final state is taken from `ZoneTextParsedZone` (`buildZone_isOk`,
  `buildZone_err_outside`, `buildZone_lists`), and carried to the specification's state by `StRel`.
-/
import Resolved.Proofs.ZoneTextSpecLoop
import Resolved.Proofs.ZoneTextParsedZone

namespace Resolved.ZoneText

open Resolved ZTSpec

/-! ## the zone built from the collected records -/

/-- a listing of the zone (`all_records`, `all_wildcard_records`) as flat records. -/
def zoneFlat (m : List (Name × List ZoneRecord)) : List FlatRecord :=
  m.flatMap (fun p => p.2.map (fun zr => { owner := p.1, rtype := zr.rtype, fields := zr.fields, ttl := zr.ttl }))

theorem mem_zoneFlat (m : List (Name × List ZoneRecord)) (r : FlatRecord) :
    r ∈ zoneFlat m ↔ ∃ zrs, (r.owner, zrs) ∈ m ∧ (⟨r.rtype, r.fields, r.ttl⟩ : ZoneRecord) ∈ zrs := by
  unfold zoneFlat
  simp only [List.mem_flatMap, List.mem_map]
  constructor
  · rintro ⟨⟨n, zrs⟩, hm, zr, hzr, rfl⟩
    exact ⟨zrs, hm, by cases zr; exact hzr⟩
  · rintro ⟨zrs, hm, hzr⟩
    exact ⟨(r.owner, zrs), hm, ⟨r.rtype, r.fields, r.ttl⟩, hzr, by cases r; rfl⟩

theorem mem_dedup {α} [DecidableEq α] (l : List α) (x : α) : x ∈ ZTSpec.dedup l ↔ x ∈ l := by
  induction l with
  | nil => simp [ZTSpec.dedup]
  | cons a as ih =>
    simp only [ZTSpec.dedup, List.mem_cons, List.mem_filter, ih, decide_eq_true_eq]
    constructor
    · rintro (h | ⟨h, -⟩)
      · exact Or.inl h
      · exact Or.inr h
    · rintro (h | h)
      · exact Or.inl h
      · by_cases hx : x = a
        · exact Or.inl hx
        · exact Or.inr ⟨h, hx⟩

/-! the `let`s of `denote`'s final step, named -/

def apexOf (dst : DenoteState) : Name := match dst.soa with | some (a, _) => a | none => Name.root
def minOf (dst : DenoteState) : Nat := match dst.soa with | some (_, s) => s.minimum | none => 0
def clampFr (dst : DenoteState) (r : FlatRecord) : FlatRecord := { r with ttl := max (minOf dst) r.ttl }
def soaRecOf (dst : DenoteState) : List FlatRecord :=
  match dst.soa with
  | some (a, s) => [{ owner := a, rtype := 6, fields := s.toFields, ttl := s.minimum }]
  | none => []

theorem denote_eq (ds : List Directive) :
    denote ds =
      match denoteAll {} ds with
      | .error e => .error e
      | .ok dst =>
        if (dst.records ++ dst.wildcards).all (fun r => ZTSpec.isSuffix (apexOf dst) r.owner) then
          .ok { apex := apexOf dst, soa := dst.soa.map (·.2),
                records := ZTSpec.dedup (soaRecOf dst ++ dst.records.map (clampFr dst)),
                wildcards := ZTSpec.dedup (dst.wildcards.map (clampFr dst)) }
        else .error .outsideApex := by
  unfold denote
  cases denoteAll {} ds with
  | error e => rfl
  | ok dst =>
    show (if (!(dst.records ++ dst.wildcards).all fun r => ZTSpec.isSuffix (apexOf dst) r.owner) = true then _ else _)
      = if ((dst.records ++ dst.wildcards).all fun r => ZTSpec.isSuffix (apexOf dst) r.owner) = true then _ else _
    cases (dst.records ++ dst.wildcards).all fun r => ZTSpec.isSuffix (apexOf dst) r.owner <;> rfl

theorem clampFr_ttl (dst : DenoteState) (fr : FlatRecord) :
    clampFr dst fr = ⟨fr.owner, fr.rtype, fr.fields, Zone.clampTtl (dst.soa.map (·.2)) fr.ttl⟩ := by
  unfold clampFr minOf Zone.clampTtl
  cases hs : dst.soa with
  | none => simp
  | some p => rfl

theorem clampFr_eq_iff (dst : DenoteState) (fr r : FlatRecord) :
    clampFr dst fr = r ↔ r.owner = fr.owner ∧
      (⟨r.rtype, r.fields, r.ttl⟩ : ZoneRecord) = ⟨fr.rtype, fr.fields, Zone.clampTtl (dst.soa.map (·.2)) fr.ttl⟩ := by
  rw [clampFr_ttl]
  cases r
  simp only [FlatRecord.mk.injEq, ZoneRecord.mk.injEq]
  constructor
  · rintro ⟨h1, h2, h3, h4⟩; exact ⟨h1.symm, h2.symm, h3.symm, h4.symm⟩
  · rintro ⟨h1, h2, h3, h4⟩; exact ⟨h1.symm, h2.symm, h3.symm, h4.symm⟩

theorem StRel.apex {dst : DenoteState} {st : DState} (h : StRel dst st) : st.apex = apexOf dst := by
  unfold DState.apex apexOf; rw [h.soa]; rfl

theorem StRel.soa_snd {dst : DenoteState} {st : DState} (h : StRel dst st) : st.soa = dst.soa.map (·.2) := by
  unfold DState.soa; rw [h.soa]

/-- the records the loop collected are those the specification collected. -/
theorem StRel.collected {dst : DenoteState} {st : DState} (h : StRel dst st) (rr : RR) :
    (rr ∈ st.rrs ∨ rr ∈ st.wildcardRrs) ↔ ∃ fr, (fr ∈ dst.records ∨ fr ∈ dst.wildcards) ∧ frRR fr = rr := by
  rw [← List.mem_reverse (as := st.rrs), ← List.mem_reverse (as := st.wildcardRrs), h.rrs, h.wrrs, List.mem_map,
    List.mem_map]
  exact ⟨fun h => h.elim (fun ⟨fr, a, b⟩ => ⟨fr, .inl a, b⟩) (fun ⟨fr, a, b⟩ => ⟨fr, .inr a, b⟩),
    fun ⟨fr, a, b⟩ => a.elim (fun a => .inl ⟨fr, a, b⟩) (fun a => .inr ⟨fr, a, b⟩)⟩

theorem deserialise_render (ds : List Directive) (v : FileVar) (hv : VariantOk v)
    (hok : ∀ d ∈ ds, directiveOk false d = true) (dstF : DenoteState) (hall : denoteAll {} ds = .ok dstF) :
    ∃ stF, deserialise (render ds v) = buildZone stF ∧ StRel dstF stF ∧ zp_StOK stF := by
  have := run_render v hv ds 0 {} {} stRel_init hok
  rw [hall] at this
  obtain ⟨stF, hrel, hrun⟩ := this
  have hrun : runLoop {} (render ds v) = .ok stF := hrun
  exact ⟨stF, by rw [deserialise_eq_run, hrun], hrel, zp_stOK_init.of_runLoop hrun⟩

/-- a record outside the apex: `NotSubdomainOfApex` (the insertion loops never panic on the collected names). -/
theorem parse_render_outside (ds : List Directive) (v : FileVar) (hok : ∀ d ∈ ds, directiveOk false d = true)
    (hv : VariantOk v) (dstF : DenoteState) (hall : denoteAll {} ds = .ok dstF)
    (hout : ((dstF.records ++ dstF.wildcards).all (fun r => ZTSpec.isSuffix (apexOf dstF) r.owner)) = false) :
    deserialise (render ds v) = .err .notSubdomainOfApex := by
  obtain ⟨stF, hdes, hrel, hst⟩ := deserialise_render ds v hv hok dstF hall
  simp only [List.all_eq_false, List.mem_append] at hout
  obtain ⟨fr, hfr, hbad⟩ := hout
  rw [hdes]
  have hb : ZTSpec.isSuffix (apexOf dstF) fr.owner = false := by simpa using hbad
  exact buildZone_err_outside hst ⟨frRR fr, (hrel.collected _).mpr ⟨fr, hfr, rfl⟩, by rw [hrel.apex]; exact hb⟩

/-- `w = false`: `all_records`, `w = true`: `all_wildcard_records`. -/
theorem mem_zoneFlat_built {dstF : DenoteState} {stF : DState} (hrel : StRel dstF stF) (hst : zp_StOK stF) {z : Zone}
    (h : buildZone stF = .ok z) (w : Bool) (r : FlatRecord) :
    r ∈ zoneFlat (ZNode.listing w z.records) ↔
      r ∈ (bif w then [] else soaRecOf dstF) ++ (bif w then dstF.wildcards else dstF.records).map (clampFr dstF) := by
  refine (mem_zoneFlat _ r).trans (((buildZone_lists hst h).2.2 w r.owner _).trans ?_)
  rw [List.mem_append, hrel.apex, hrel.soa_snd, hrel.rrs, hrel.wrrs]
  refine or_congr ?_ ?_
  · cases w with
    | true => exact ⟨fun h => Bool.noConfusion h.1, fun h => nomatch h⟩
    | false =>
      cases hs : dstF.soa with
      | none => simp [soaRecOf, hs]
      | some p =>
        obtain ⟨a, s⟩ := p
        cases r
        simp [soaRecOf, apexOf, hs, Zone.soaRecord, RT_SOA, eq_comm]
  · rw [List.mem_map]
    cases w <;>
      exact ⟨fun ⟨_, hrr, hr⟩ => (List.mem_map.mp hrr).elim fun fr hfr =>
          ⟨fr, hfr.1, (clampFr_eq_iff dstF fr r).mpr (by rw [← hfr.2] at hr; exact hr)⟩,
        fun ⟨fr, hfr, hr⟩ => ⟨frRR fr, List.mem_map_of_mem hfr, (clampFr_eq_iff dstF fr r).mp hr⟩⟩

theorem parse_render_inside (ds : List Directive) (v : FileVar) (hok : ∀ d ∈ ds, directiveOk false d = true)
    (hv : VariantOk v) (dstF : DenoteState) (hall : denoteAll {} ds = .ok dstF)
    (hin : ((dstF.records ++ dstF.wildcards).all (fun r => ZTSpec.isSuffix (apexOf dstF) r.owner)) = true) :
    ∃ z, deserialise (render ds v) = .ok z ∧ z.apex = apexOf dstF ∧ z.soa = dstF.soa.map (·.2) ∧
      (∀ r, r ∈ zoneFlat z.allRecords ↔ r ∈ ZTSpec.dedup (soaRecOf dstF ++ dstF.records.map (clampFr dstF))) ∧
      (∀ r, r ∈ zoneFlat z.allWildcardRecords ↔ r ∈ ZTSpec.dedup (dstF.wildcards.map (clampFr dstF))) := by
  obtain ⟨stF, hdes, hrel, hst⟩ := deserialise_render ds v hv hok dstF hall
  simp only [List.all_eq_true, List.mem_append] at hin
  obtain ⟨z, hz⟩ := buildZone_isOk hst fun rr hrr => by
    obtain ⟨fr, hfr, rfl⟩ := (hrel.collected rr).mp hrr
    rw [hrel.apex]; exact hin fr hfr
  obtain ⟨hza, hzs, -⟩ := buildZone_lists hst hz
  exact ⟨z, hdes.trans hz, hza.trans (hrel.apex), hzs.trans (hrel.soa_snd),
    fun r => (mem_zoneFlat_built hrel hst hz false r).trans (mem_dedup _ r).symm,
    fun r => (mem_zoneFlat_built hrel hst hz true r).trans (mem_dedup _ r).symm⟩

theorem unambiguous_directives {ds : List Directive} (h : Unambiguous ds = true) :
    ∀ d ∈ ds, directiveOk false d = true := by
  simp only [Unambiguous, Bool.and_eq_true, List.all_eq_true] at h
  exact h.1

/-- The listings are compared by membership: neither order nor multiplicity.  Which `Err` answers a rejected file is
    not claimed; `isK1` is the situation of finding C11-K1. -/
theorem parse_render (ds : List Directive) (v : FileVar) (hok : ∀ d ∈ ds, directiveOk false d = true)
    (hv : VariantOk v) :
    match denote ds with
    | .ok m =>
      ∃ z, deserialise (render ds v) = .ok z ∧ z.apex = m.apex ∧ z.soa = m.soa ∧
        (∀ r, r ∈ zoneFlat z.allRecords ↔ r ∈ m.records) ∧
        (∀ r, r ∈ zoneFlat z.allWildcardRecords ↔ r ∈ m.wildcards)
    | .error _ => isK1 ds v = true ∨ ∃ e', deserialise (render ds v) = .err e' := by
  rw [denote_eq]
  cases hall : denoteAll {} ds with
  | error e0 => exact render_rejected_directive ds v hok hv e0 hall
  | ok dstF =>
    by_cases hin : ((dstF.records ++ dstF.wildcards).all fun r => ZTSpec.isSuffix (apexOf dstF) r.owner) = true
    · simp only [hin, if_true]
      exact parse_render_inside ds v hok hv dstF hall hin
    · simp only [hin, Bool.false_eq_true, if_false]
      exact Or.inr ⟨_, parse_render_outside ds v hok hv dstF hall (by simpa using hin)⟩

/-! ## the names a denoted state holds -/

/-- the names of a denoted state are text names; not used above. -/
structure DstNames (dst : DenoteState) : Prop where
  origin : ∀ on, dst.origin = some on → TextName on
  prev : ∀ p, dst.prevOwner = some p → TextName p.2
  soa : ∀ p, dst.soa = some p → TextName p.1
  recs : ∀ fr ∈ dst.records, TextName fr.owner
  wilds : ∀ fr ∈ dst.wildcards, TextName fr.owner

/-- by `StRel` they are the parser's names, which are text names by its invariant `zp_StOK`. -/
theorem dstNames_of_rel {dst : DenoteState} {st : DState} (hrel : StRel dst st) (hst : zp_StOK st) : DstNames dst := by
  have key : ∀ (L : List RR) (frs : List FlatRecord), L.reverse = frs.map frRR →
      (∀ rr ∈ L, TextName rr.name ∧ rr.ttl < 4294967296 ∧ RdataOK rr.rtype rr.fields) →
      ∀ fr ∈ frs, TextName fr.owner := by
    intro L frs hL h fr hfr
    exact (h (frRR fr) (List.mem_reverse.mp (hL ▸ List.mem_map_of_mem hfr))).1
  refine ⟨hrel.originOk, fun p hp => ?_, fun p hp => ?_, key _ _ hrel.rrs hst.rrs, key _ _ hrel.wrrs hst.wild⟩
  · have := hst.pd (mwOf p) (by rw [hrel.prevOwner, hp]; rfl)
    unfold mwOf at this
    split at this <;> exact this
  · exact (hst.soa p.1 p.2 (by rw [hrel.soa, hp])).1

end Resolved.ZoneText
