/-
  C07 over consistent universes, what the rules of `UniverseRun` are made of: the address lookup of one iteration of
  the candidate loop (`tryTypes_known`: the address is known locally; `tryTypes_unknown`: nothing is known), what the
  servers of a universe reply and how the filter takes it, what caching a referral adds to the invariant; then the standing
  hypotheses (`UniNet`), the state of a resolution (`UniAt`), what entering the loop needs (`EnterOK`), and over them
  the walk up to the deepest cached zone and entering the loop there.
-/
import Resolved.Proofs.UniverseCache
import Resolved.Proofs.UniverseFilter
import Resolved.Proofs.UniversePaths
import Resolved.Proofs.ResolverMachineSteps

namespace Resolved

open Gen

set_option autoImplicit false

/-! ## Small facts about questions and TTLs -/

theorem hostQ_ne {q : Question} {host : Name} (h : isAddrQ q → q.name ≠ host) :
    q ≠ uniHostQ host ∧ q ≠ uniHost6Q host := by
  constructor
  · intro he
    exact h (Or.inl (by rw [he]; rfl)) (by rw [he]; rfl)
  · intro he
    exact h (Or.inr (by rw [he]; rfl)) (by rw [he]; rfl)

theorem within_of_ttl_le {T now m t : Nat} (hT : T ≤ now + m * NANOS) (h : m ≤ t) : T ≤ now + t * NANOS :=
  Nat.le_trans hT (Nat.add_le_add_left (Nat.mul_le_mul_right _ h) _)

theorem one_le_of_alive {now T m : Nat} (h1 : now + NANOS ≤ T) (h2 : T ≤ now + m * NANOS) : 1 ≤ m :=
  Nat.pos_of_ne_zero fun h0 => by
    rw [h0, Nat.zero_mul] at h2
    exact absurd (Nat.le_trans h1 h2) (Nat.not_le_of_gt (Nat.lt_add_of_pos_right (by decide)))

/-! ## The address of the candidate is known locally -/

/-- `PCache.Touches` weakened to what the last clause of `UniAddrKnown` says; `of_touches` is its only introduction,
    and no proof reads the clause. -/
def UniSameStore (c c' : PCache) : Prop := (Inv c → Inv c') ∧ ∀ k rk, tuplesAt c' k rk = tuplesAt c k rk

theorem UniSameStore.of_touches {c c' : PCache} (h : c.Touches c') : UniSameStore c c' :=
  ⟨h.inv, h.tuplesAt⟩

/-- the local lookup of the candidate loop finds the address of `host`.  (The last clause — the lookup only touches
    the cache — holds of every context, by `resolveLocal_looked`; the step theorems of C07 that take `UniAddrKnown` as
    a hypothesis do not read it.) -/
def UniAddrKnown (ctx : Ctx) (host : Name) (addr : Nat) : Prop :=
  ∃ r, (resolveLocal (RECURSION_LIMIT + 1) ctx (uniHostQ host)).2 = .ok (.done r) ∧
    getIp r.rrs host RT_A = some (.a addr) ∧
    UniSameStore ctx.cache (resolveLocal (RECURSION_LIMIT + 1) ctx (uniHostQ host)).1.cache

theorem uni_A_ne_wildcard : RT_A ≠ QTYPE_WILDCARD := by decide

theorem addrKnown_of_hints {ctx : Ctx} {host : Name} {addr : Nat}
    (hh : RootHints ctx.zones host addr)
    (hl : ctx.stack.length ≠ RECURSION_LIMIT) (hd : uniHostQ host ∉ ctx.stack) :
    UniAddrKnown ctx host addr := by
  obtain ⟨z, ttl, hz, hs⟩ := hh.a
  have := resolveLocal_zone_answer_nonauth RECURSION_LIMIT (q := uniHostQ host) hl hd hz (Zone.soaRR_eq_none_iff.mpr hs)
    uni_A_ne_wildcard (by simp)
  refine ⟨_, by rw [this], ?_, .of_touches (resolveLocal_looked _ _ _).touches⟩
  show getIp [_] host RT_A = _
  exact uni_getIp _ host addr (by simp) (by intro rr hr; simp at hr; subst hr; exact ⟨rfl, rfl, rfl⟩)

theorem addrKnown_of_cached {U : Universe} {V G : List UEntry} {K : List (Name × Nat)} {T : Nat} {ctx : Ctx}
    (hU : HostsFunctional U) (hG : ∀ E ∈ G, E ∈ U) (E : UEntry) (hE : E ∈ U)
    (hc : uni2_Sound V G K ctx.cache T) (hT : ctx.now + NANOS ≤ T) (hK : (E.host, RT_A) ∉ K)
    (hne : tuplesAt ctx.cache E.host RT_A ≠ [])
    (hmiss : localMiss ctx.zones E.host RT_A = true)
    (hl : ctx.stack.length ≠ RECURSION_LIMIT) (hd : uniHostQ E.host ∉ ctx.stack) :
    UniAddrKnown ctx E.host E.addr := by
  obtain ⟨h1, h2⟩ := uni2_Sound.lookup_addr hc hT hU hG E hE hK hne
  exact ⟨_, resolveLocal_cache_answer RECURSION_LIMIT hl hd (uni_zoneFalls_of_miss hmiss) uni_A_ne_wildcard rfl h1,
    uni_getIp _ E.host E.addr h1 h2, .of_touches (resolveLocal_looked _ _ _).touches⟩

/-! ## One iteration of the candidate loop -/

/-- `resolve_hostname_to_ip`, local pass (IPv4 only or preferred): the `A` lookup comes first and succeeds. -/
theorem tryTypes_known (cfg : RecCfg) (f : Nat) (st : St) (host : Name) (addr : Nat)
    (hmode : cfg.mode = .onlyV4 ∨ cfg.mode = .preferV4) (hlive : st.run.timedOut = false)
    (hk : UniAddrKnown st.ctx host addr) :
    tryTypes cfg (f + 1) st true host (rtypesFor cfg.mode) =
      (⟨(resolveLocal (RECURSION_LIMIT + 1) st.ctx (uniHostQ host)).1, st.run⟩, some (.a addr)) := by
  obtain ⟨r, h1, h2, _⟩ := hk
  obtain ⟨more, hm⟩ := rtypesFor_v4 hmode
  rw [hm]
  exact tryTypes_found hlive ((lookupStep_local_done h1).trans (by rw [h2]; rfl))

/-- One iteration of the candidate loop: it tries its LAST candidate first; once that server has answered in
    time, the other candidates are not even looked at.  This is the `locally = true` instance of the step
    `WalkRuns.ask` takes; the step theorems of Props/C07Universe rest on it, no rule does. -/
theorem candidateLoop_known_reply (cfg : RecCfg) (f : Nat) (st : St) (q : Question) (mc : Nat) (host : Name)
    (addr delay : Nat) (cands : List Name) (hlast : cands.getLast? = some host)
    (m : Message) (hmode : cfg.mode = .onlyV4 ∨ cfg.mode = .preferV4) (hlive : st.run.timedOut = false)
    (hk : UniAddrKnown st.ctx host addr)
    (ho : cfg.oracle { addr := .a addr, port := cfg.port, tcp := false, question := q, recursionDesired := false } =
      { delayMs := delay, reply := some m })
    (hfit : udpFits q = true) (hd : delay < EXCHANGE_TIMEOUT_MS)
    (ht : st.run.elapsedMs + delay < RESOLVE_TIMEOUT_MS)
    (hm : responseMatchesRequest (requestFor q false) m = true) :
    candidateLoop cfg (f + 2) st q [] mc cands [] true =
      loopAfterReply cfg (f + 1)
        ⟨(resolveLocal (RECURSION_LIMIT + 1) st.ctx (uniHostQ host)).1,
         { log := st.run.log ++ [⟨.a addr, cfg.port, false, q, false⟩], elapsedMs := st.run.elapsedMs + delay,
           timedOut := false }⟩ q [] (validateNameserverResponse q m mc) := by
  rw [candidateLoop_found hlive hlast (tryTypes_known cfg f st host addr hmode hlive hk) hlive]
  exact loopQuery_reply (queryNameserver_udp_answered cfg.oracle st.run (.a addr) cfg.port q false delay m ho hfit hlive hd ht hm) rfl

theorem tryTypes_unknown_step (cfg : RecCfg) (f : Nat) (st : St) (host : Name) (t : Nat) (more : List Nat)
    (hlive : st.run.timedOut = false) (hlim : st.ctx.stack.length ≠ RECURSION_LIMIT)
    (hnd : ({ name := host, qclass := CLASS_IN, qtype := t } : Question) ∉ st.ctx.stack)
    (hmiss : localMiss st.ctx.zones host t = true) (hq : lookupNat queryTypeFromU16 t = none)
    (h1 : tuplesAt st.ctx.cache host t = []) (h2 : tuplesAt st.ctx.cache host RT_CNAME = []) :
    ∃ ctx', tryTypes cfg (f + 1) st true host (t :: more) = tryTypes cfg f ⟨ctx', st.run⟩ true host more ∧
      ctx'.Looked st.ctx := by
  have he := resolveLocal_dead_end_of_miss RECURSION_LIMIT st.ctx
    { name := host, qclass := CLASS_IN, qtype := t } hlim hnd hmiss hq h1 h2
  exact ⟨_, tryTypes_next hlive (lookupStep_local_other fun r hr => nomatch he.symm.trans hr),
    resolveLocal_looked (RECURSION_LIMIT + 1) st.ctx ⟨host, t, CLASS_IN⟩⟩

theorem tryTypes_unknown (cfg : RecCfg) (hmode : cfg.mode = .onlyV4 ∨ cfg.mode = .preferV4) (f : Nat) (st : St)
    (host : Name) (hlive : st.run.timedOut = false) (hlim : st.ctx.stack.length ≠ RECURSION_LIMIT)
    (hnd : uniHostQ host ∉ st.ctx.stack ∧ uniHost6Q host ∉ st.ctx.stack)
    (hmiss : localMiss st.ctx.zones host RT_A = true ∧ localMiss st.ctx.zones host RT_AAAA = true)
    (h1 : tuplesAt st.ctx.cache host RT_A = []) (h2 : tuplesAt st.ctx.cache host RT_AAAA = [])
    (h3 : tuplesAt st.ctx.cache host RT_CNAME = []) :
    ∃ ctx', tryTypes cfg (f + 2) st true host (rtypesFor cfg.mode) = (⟨ctx', st.run⟩, none) ∧ ctx'.Looked st.ctx := by
  rcases hmode with hm | hm <;> rw [hm] <;> simp only [rtypesFor]
  · obtain ⟨ctx1, e1, a⟩ := tryTypes_unknown_step cfg (f + 1) st host RT_A [] hlive hlim hnd.1
      hmiss.1 lookupNat_qt_RT_A h1 h3
    exact ⟨ctx1, by rw [e1, tryTypes_nil], a⟩
  · obtain ⟨ctx1, e1, a⟩ := tryTypes_unknown_step cfg (f + 1) st host RT_A [RT_AAAA] hlive hlim hnd.1
      hmiss.1 lookupNat_qt_RT_A h1 h3
    obtain ⟨ctx2, e2, b⟩ := tryTypes_unknown_step cfg f ⟨ctx1, st.run⟩ host RT_AAAA [] hlive
      (by show ctx1.stack.length ≠ _; rw [a.stack]; exact hlim) (by show _ ∉ ctx1.stack; rw [a.stack]; exact hnd.2)
      (by show localMiss ctx1.zones _ _ = _; rw [a.zones]; exact hmiss.2) (by decide)
      (by show tuplesAt ctx1.cache _ _ = _; rw [a.tuplesAt]; exact h2)
      (by show tuplesAt ctx1.cache _ _ = _; rw [a.tuplesAt]; exact h3)
    exact ⟨ctx2, by rw [e1, e2, tryTypes_nil], b.trans a⟩

/-- `glueFor` of ResolverMachineSteps, word for word, so definitionally equal: that is how the step theorems of
    Props/C07Universe, stated with this one, hand their hypothesis to `loopAfterReply_follow`, which asks for
    `glueFor … = none`. -/
def uni_glueFor (q : Question) (rrs : List RR) : Option RR :=
  if q.qtype == RT_A then getRecord rrs q.name RT_A
  else if q.qtype == RT_AAAA then getRecord rrs q.name RT_AAAA
  else none

/-! ## What the servers reply, and what caching a referral adds -/

theorem authReplyG_uniGlue (U : Universe) (E : UEntry) (q : Question) (rd : Bool) :
    authReplyG (uniGlue U) E q rd = authReply U E q rd := by
  unfold authReplyG authReply
  cases E.zone.resolve q.name q.qtype with
  | none => rfl
  | some zr => cases zr <;> rfl

/-- `authReply []`, the empty universe, as in `authReplyG`: only the delegation arm of `authReply` reads the universe. -/
theorem authReplyG_nondeleg (gp : List RR → List RR) (E : UEntry) (q : Question) (rd : Bool)
    (h : ∀ ns, E.zone.resolve q.name q.qtype ≠ some (.delegation ns)) :
    authReplyG gp E q rd = authReply [] E q rd := by
  unfold authReplyG
  split
  · rename_i ns hres; exact absurd hres (h ns)
  · rfl

theorem authReplyG_matches {gp : List RR → List RR} {E : UEntry} {q : Question} {rd : Bool} {m : Message}
    (h : authReplyG gp E q rd = some m) : responseMatchesRequest (requestFor q rd) m = true := by
  unfold authReplyG at h
  split at h
  · cases h; exact uni_matches_hdr _ _ _ _ _ _ _ (Or.inl rfl)
  · exact uni_authReply_matches h

theorem authReplyG_terminal (gp : List RR → List RR) (Z : UEntry) (q : Question) (res : ResolvedRecord)
    (hq : lookupNat queryTypeFromU16 q.qtype = none) (hexp : expectedAt Z q = some res) (hsays : ZoneSaysWF Z.zone q) :
    ∃ m rrs soa, authReplyG gp Z q false = some m ∧ res = .nonAuthoritative rrs soa ∧
      ∀ mc ≤ Z.apex.labels.length, validateNameserverResponse q m mc = some (.answer rrs soa) := by
  rw [authReplyG_nondeleg gp Z q false (expectedAt_nondeleg hexp)]
  obtain ⟨soa, hsoa, h⟩ := expectedAt_eq_some.mp hexp
  obtain ⟨hs1, hs2⟩ : soa.rtype = RT_SOA ∧ soa.name = Z.zone.apex :=
    let ⟨_, _, e⟩ := Zone.soaRR_eq_some_iff.mp hsoa; e ▸ ⟨rfl, rfl⟩
  have hsub := uni_resolve_sub (expectedAt_isSome hexp)
  have hempty : ∀ m : Message, m.answers = [] → m.authority = [soa] →
      (m.header.rcode = RCODE_NOERROR ∨ m.header.rcode = RCODE_NAMEERROR) → ∀ mc ≤ Z.apex.labels.length,
      validateNameserverResponse q m mc = some (.answer [] (some soa)) := fun m h1 h2 h3 mc hmc =>
    uni_validate_nodata q m mc soa h1 h2 hs1 h3 (by rw [hs2]; exact hsub) (by rw [hs2]; exact hmc)
  unfold authReply
  rcases h with ⟨rrs, hres, hne, rfl⟩ | ⟨hres | hres, rfl⟩
  · rw [hres, hsoa]
    simp only
    rw [if_neg (by simpa using hne)]
    exact ⟨_, rrs, none, rfl, rfl, fun mc _ => uni_validate_answer q _ mc hq hne (hsays.1 rrs hres)⟩
  · rw [hres, hsoa]
    exact ⟨_, [], some soa, rfl, rfl, hempty _ rfl rfl (Or.inl rfl)⟩
  · rw [hres, hsoa]
    exact ⟨_, [], some soa, rfl, rfl, hempty _ rfl rfl (Or.inr rfl)⟩

/-- The fourth conjunct is `hglue` of `referral_cache`. -/
theorem authReplyG_referral {gp : List RR → List RR} {U : Universe} (hgp : ∀ ns g, g ∈ gp ns → g ∈ uniGlue U ns)
    {Y C : UEntry} {sibs : List UEntry} {q : Question} {nsRrs : List RR} (r : Refers U q Y C sibs nsRrs)
    (hsub : q.name.isSubdomainOf C.apex = true) (hqa : isAddrQ q → ∀ D ∈ sibs, q.name ≠ D.host) :
    ∃ m, authReplyG gp Y q false = some m ∧
      validateNameserverResponse q m Y.apex.labels.length =
        some (.delegation (nsRrs ++ gp nsRrs) (nsHosts nsRrs) C.apex) ∧
      glueFor q (nsRrs ++ gp nsRrs) = none ∧
      ∀ g ∈ gp nsRrs, ∃ E ∈ U, (∃ D ∈ sibs, E.host = D.host) ∧ g ∈ E.glueRRs := by
  obtain ⟨hCs, hsibs, hres, hns, hall, hdepth⟩ := r
  have htarget : ∀ rr ∈ nsRrs, ∃ D ∈ sibs, rr.name = C.apex ∧ nsTarget rr = some D.host ∧ rr.rtype = RT_NS := by
    intro rr hr
    obtain ⟨_, D, hD, he⟩ := hns rr hr
    refine ⟨D, hD, ?_, ?_, ?_⟩
    · rw [he]; exact (hsibs D hD).2
    · rw [he]; exact uni_nsTarget_nsRR D rr.ttl
    · rw [he]; rfl
  have hne : nsRrs ≠ [] := by
    obtain ⟨rr, hr, _⟩ := hall C hCs
    exact List.ne_nil_of_mem hr
  -- a glue record is an address record of a server of the universe whose host one of the NS records names
  have hglue : ∀ g ∈ gp nsRrs, (g.rtype = RT_A ∨ g.rtype = RT_AAAA) ∧ g.name ∈ nsHosts nsRrs ∧
      ∃ E ∈ U, (∃ D ∈ sibs, E.host = D.host ∧ g.name = D.host) ∧ g ∈ E.glueRRs := by
    intro g hg
    obtain ⟨E, hE, hh, hgE⟩ := uni_mem_uniGlue.mp (hgp _ g hg)
    obtain ⟨rr, hr, ht⟩ := List.mem_filterMap.mp hh
    obtain ⟨D, hD, _, htD, _⟩ := htarget rr hr
    have hED : E.host = D.host := by rw [htD] at ht; exact (Option.some.inj ht).symm
    have hnm : g.name = E.host ∧ (g.rtype = RT_A ∨ g.rtype = RT_AAAA) := by
      rcases uni_mem_glueRRs.mp hgE with rfl | ⟨g6, _, rfl⟩
      · exact ⟨rfl, Or.inl rfl⟩
      · exact ⟨rfl, Or.inr rfl⟩
    exact ⟨hnm.2, by rw [hnm.1]; exact uni_mem_nsHosts.mpr ⟨rr, hr, ht⟩, E, hE, ⟨D, hD, hED, hnm.1.trans hED⟩, hgE⟩
  refine ⟨_, by unfold authReplyG; rw [hres], ?_, ?_, fun g hg => ?_⟩
  · exact uni_validate_referral_multi q _ _ C.apex rfl hne
      (fun rr hr => by
        obtain ⟨D, _, h1, h2, _⟩ := htarget rr hr
        exact ⟨h1, by rw [h2]; rfl⟩)
      (fun g hg => ⟨(hglue g hg).1, (hglue g hg).2.1⟩) hsub hdepth
  · -- the short-cut would pick an address record owned by the question name: the NS records are none, and the glue
    -- is owned by hosts the question is not for
    cases hgl : glueFor q (nsRrs ++ gp nsRrs) with
    | none => rfl
    | some rr =>
      obtain ⟨hmem, hn, ht, ha⟩ := glueFor_some hgl
      rcases List.mem_append.mp hmem with h1 | h1
      · obtain ⟨_, _, _, _, h5⟩ := htarget rr h1
        rw [← ht, h5] at ha
        rcases ha with ha | ha <;> cases ha
      · obtain ⟨_, _, _, _, ⟨D, hD, _, h3⟩, _⟩ := hglue rr h1
        exact absurd (hn.symm.trans h3) (hqa ha D hD)
  · obtain ⟨_, _, E, hE, ⟨D, hD, hED, _⟩, hgE⟩ := hglue g hg
    exact ⟨E, hE, ⟨D, hD, hED⟩, hgE⟩

/-- Caching a referral adds the zone's servers to `V` and those with glue to `G`.  `hG2` and `hG3` bound `G'` from
    both sides in different words on purpose: `hG2` speaks of ANY glue record owned by `D.host`, because an `AAAA` record
    is allowed only under the host of a server of `G'`; `hG3` of the `A` record, because the invariant wants a
    non-empty `A` entry for every server of `G'`.  Together they exclude a policy that serves only `AAAA` glue for a
    server that is not in `G` yet. -/
theorem referral_cache {U : Universe} (hU : HostsFunctional U) (hgt : ∀ E ∈ U, 0 < E.glueTtl) {T now : Nat}
    (c : PCache) (sibs : List UEntry) (hsibs : ∀ D ∈ sibs, D ∈ U) (nsRrs : List RR)
    (hns : ∀ rr ∈ nsRrs, 0 < rr.ttl ∧ ∃ D ∈ sibs, rr = D.nsRR rr.ttl)
    (hall : ∀ D ∈ sibs, ∃ rr ∈ nsRrs, rr = D.nsRR rr.ttl) (glue : List RR)
    (hglue : ∀ g ∈ glue, ∃ E ∈ U, (∃ D ∈ sibs, E.host = D.host) ∧ g ∈ E.glueRRs)
    (hTg : ∀ E ∈ U, T ≤ now + E.glueTtl * NANOS) (hTn : ∀ rr ∈ nsRrs, T ≤ now + rr.ttl * NANOS)
    (V G G' : List UEntry) (K : List (Name × Nat)) (hcache : uni2_Cache V G K c T)
    (hG1 : ∀ D ∈ G, D ∈ G') (hG2 : ∀ D ∈ sibs, (∃ g ∈ glue, g.name = D.host) → D ∈ G')
    (hG3 : ∀ D ∈ G', D ∈ G ∨ (D ∈ sibs ∧ D.glueRR ∈ glue)) :
    uni2_Cache (V ++ sibs) G' K (sharedInsertAll c (nsRrs ++ glue) now) T := by
  refine hcache.insertAll (fun D hD => List.mem_append_left _ hD) hG1 (fun _ hk => hk) _ ?_ ?_ ?_
  · intro rr hrr _
    rcases List.mem_append.mp hrr with h1 | h1
    · obtain ⟨D, hD, he⟩ := (hns rr h1).2
      have hT := hTn rr h1
      rw [he] at hT ⊢
      exact .ns rfl (List.mem_append_right _ hD) rfl rfl hT
    · obtain ⟨E, hE, ⟨D, hD, hh⟩, hgE⟩ := hglue rr h1
      rcases uni_mem_glueRRs.mp hgE with rfl | ⟨g6, _, rfl⟩
      · exact .addr rfl (hG2 D hD ⟨_, h1, hh⟩) hh.symm
          (show [FieldVal.a E.addr] = [FieldVal.a D.addr] by rw [hU E hE D (hsibs D hD) hh]) (hTg E hE)
      · exact .addr6 rfl (hG2 D hD ⟨_, h1, hh⟩) hh.symm
  · intro D hD
    refine (List.mem_append.mp hD).imp_right fun hD => ?_
    obtain ⟨rr, hr, he⟩ := hall D hD
    exact ⟨rr, List.mem_append_left _ hr, (hns rr hr).1, by rw [he]; rfl, by rw [he]; rfl⟩
  · intro D hD
    refine (hG3 D hD).imp_right fun hh => ?_
    exact ⟨D.glueRR, List.mem_append_right _ hh.2, hgt D (hsibs D hh.1), rfl, rfl⟩

/-! ## Standing hypotheses, the state of a resolution, what entering the loop needs -/

/-- what every form of the standing hypotheses (`UniOK`, `UniOKM`, `UniOKG`) gives the machine. -/
structure UniNet (gp : List RR → List RR) (U : Universe) (cfg : RecCfg) : Prop where
  faithful : FaithfulG gp U cfg
  sub : ∀ ns g, g ∈ gp ns → g ∈ uniGlue U ns
  mode : cfg.mode = .onlyV4 ∨ cfg.mode = .preferV4
  hosts : HostsFunctional U
  delay : ∀ E ∈ U, E.delayMs < EXCHANGE_TIMEOUT_MS
  glueTtl : ∀ E ∈ U, 0 < E.glueTtl

theorem UniNet.ofOKG {gp : List RR → List RR} {U : Universe} {cfg : RecCfg} (h : UniOKG gp U cfg) : UniNet gp U cfg :=
  ⟨h.faithful, h.sub, h.mode, h.hosts, h.delay, h.glueTtl⟩

theorem UniNet.ofOKM {U : Universe} {cfg : RecCfg} (h : UniOKM U cfg) : UniNet (uniGlue U) U cfg :=
  ⟨fun E hE q rd tcp => by rw [authReplyG_uniGlue]; exact h.faithful E hE q rd tcp, fun _ _ hg => hg, h.mode, h.hosts,
    h.delay, h.glueTtl⟩

theorem UniNet.ofOK {U : Universe} {cfg : RecCfg} (h : UniOK U cfg) : UniNet (uniGlue U) U cfg :=
  .ofOKM ⟨h.faithful, h.mode, h.hosts, h.delay, h.glueTtl⟩

/-- The machine stands in `st`: local zones `zs`, question stack `S`, cache clock `clock`, a live run, a cache that
    satisfies the invariant for the zones `V`, the servers `G` and the keys `K`, everything in it alive until `T`, and
    `T` within `m` seconds (so that records with a TTL of at least `m` seconds may be added). -/
structure UniAt (U : Universe) (zs : Zones) (S : List Question) (V G : List UEntry) (K : List (Name × Nat))
    (T m clock : Nat) (st : St) : Prop where
  zones : st.ctx.zones = zs
  stack : st.ctx.stack = S
  now : st.ctx.now = clock
  cache : uni2_Cache V G K st.ctx.cache T
  memV : ∀ C ∈ V, C ∈ U
  memG : ∀ C ∈ G, C ∈ U
  alive : clock + NANOS ≤ T
  within : T ≤ clock + m * NANOS
  live : st.run.timedOut = false

theorem UniAt.looked {U : Universe} {zs : Zones} {S : List Question} {V G : List UEntry} {K : List (Name × Nat)}
    {T m clock : Nat} {st st' : St} (h : UniAt U zs S V G K T m clock st) (hl : st'.ctx.Looked st.ctx)
    (hlive : st'.run.timedOut = false) : UniAt U zs S V G K T m clock st' :=
  ⟨hl.zones.trans h.zones, hl.stack.trans h.stack, hl.now.trans h.now, h.cache.touches hl.touches, h.memV, h.memG, h.alive,
    h.within, hlive⟩

theorem UniAt.cached {U : Universe} {zs : Zones} {S : List Question} {V G V' G' : List UEntry} {K K' : List (Name × Nat)}
    {T m clock : Nat} {st : St} {rrs : List RR} (h : UniAt U zs S V G K T m clock st)
    (hc : uni2_Cache V' G' K' (sharedInsertAll st.ctx.cache rrs clock) T) (hV : ∀ C ∈ V', C ∈ U) (hG : ∀ C ∈ G', C ∈ U) :
    UniAt U zs S V' G' K' T m clock ⟨st.ctx.cacheInsertAll rrs, st.run⟩ :=
  ⟨h.zones, h.stack, h.now, by rw [← h.now] at hc; exact hc, hV, hG, h.alive, h.within, h.live⟩

theorem UniAt.pushed {U : Universe} {zs : Zones} {S : List Question} {V G : List UEntry} {K : List (Name × Nat)}
    {T m clock : Nat} {st : St} (h : UniAt U zs S V G K T m clock st) (q : Question) :
    UniAt U zs (S ++ [q]) V G K T m clock ⟨st.ctx.push q, st.run⟩ :=
  ⟨h.zones, congrArg (· ++ [q]) h.stack, h.now, h.cache, h.memV, h.memG, h.alive, h.within, h.live⟩

theorem UniAt.start (U : Universe) (zs : Zones) (d now : Nat) {m : Nat} (hm : 1 ≤ m) :
    UniAt U zs [] [] [] [] (now + m * NANOS) m now ⟨startCtx zs d now, Run.empty⟩ :=
  ⟨rfl, rfl, rfl, uni2_Cache.new d _, (fun _ hC => nomatch hC), (fun _ hC => nomatch hC),
    Nat.add_le_add_left (Nat.le_mul_of_pos_left _ hm) _, Nat.le_refl _, rfl⟩

/-- What `resolveRec` needs in order to enter the loop for `q` at the server `Y`, from a state `UniAt … S V G K`; `Y`
    is where the walk up from `q`'s name ends (`start`: the deepest zone whose NS set is cached, its server's address
    cached too, or the root hints).  `apex` (one host per zone apex) is asked only when `Y` comes from the cache, whose
    NS set for `Y`'s zone must then name `Y`'s host alone; it is not in `UniNet` because it fails with several servers
    per zone, which a cold start (`V = []`) allows.  Introductions: `EnterOK.cold` (below), `EnterOK.ofLeg`,
    `.ofNested`, `.ofSibling` (UniverseWalks). -/
structure EnterOK (U : Universe) (zs : Zones) (K : List (Name × Nat)) (V G : List UEntry) (S : List Question)
    (q : Question) (Y : UEntry) : Prop where
  ok : QuestionOK q
  mem : Y ∈ U
  sub : q.name.isSubdomainOf Y.apex = true
  start : (Y ∈ V ∧ Y ∈ G ∧ localMiss zs Y.apex RT_NS = true ∧ localMiss zs Y.host RT_A = true ∧ (Y.apex, RT_NS) ∉ K) ∨
    (Y.apex = Name.root ∧ RootHints zs Y.host Y.addr)
  apex : Y ∈ V → ∀ E ∈ U, ∀ E' ∈ U, E.apex = E'.apex → E.host = E'.host
  keyA : (Y.host, RT_A) ∉ K
  wf : Name.fromLabels Y.apex.labels = some Y.apex
  depth : S.length + 1 < RECURSION_LIMIT
  stack : ∀ q0 ∈ S, q0 ≠ q ∧ q0 ≠ uniNsQ Y.apex ∧ q0 ≠ uniHostQ Y.host
  qmiss : localMiss zs q.name q.qtype = true
  notG : isAddrQ q → ∀ E ∈ G, q.name ≠ E.host
  notV : q.qtype = RT_NS → ∀ C ∈ V, C.apex ≠ q.name
  notY : q ≠ uniNsQ Y.apex ∧ q ≠ uniHostQ Y.host
  keys : (q.name, q.qtype) ∉ K ∧ (q.name, RT_CNAME) ∉ K
  warm : warmMissK zs V K Y.apex.labels.length q.name.labels = true

/-! ## The walk up to the deepest known zone -/

theorem miss_ne_hints_key {zs : Zones} {host : Name} {addr : Nat} (hh : RootHints zs host addr) {name : Name}
    {t : Nat} (hq : localMiss zs name t = true) : ¬ (name = host ∧ t = RT_A) := by
  rintro ⟨rfl, rfl⟩
  obtain ⟨z, ttl, hz, _⟩ := hh.a
  unfold localMiss at hq
  rw [hz] at hq
  simp at hq

theorem miss_ne_hints_question {zs : Zones} {host : Name} {addr : Nat} (hh : RootHints zs host addr) (q : Question)
    (hq : localMiss zs q.name q.qtype = true) : q ≠ uniNsQ Name.root ∧ q ≠ uniHostQ host := by
  refine ⟨fun he => ?_, fun he => miss_ne_hints_key hh hq ⟨by rw [he]; rfl, by rw [he]; rfl⟩⟩
  obtain ⟨z, ttl, hz, _⟩ := hh.ns
  subst he
  unfold localMiss at hq
  simp only [uniNsQ] at hq
  rw [hz] at hq
  simp at hq

theorem warmMissK_of_candMiss (zs : Zones) : ∀ (ls : List Label), candMiss zs ls = true → warmMissK zs [] [] 1 ls = true := by
  intro ls
  induction ls with
  | nil => intro _; rfl
  | cons l ls ih =>
    intro hc
    unfold candMiss at hc
    unfold warmMissK
    cases ls with
    | nil => simp
    | cons l2 ls2 =>
      simp only [List.isEmpty_cons, Bool.false_or, Bool.and_eq_true] at hc
      have hlen : ¬ (l :: l2 :: ls2).length ≤ 1 := by simp
      rw [if_neg hlen]
      simp only [Bool.and_eq_true]
      refine ⟨?_, ih hc.2⟩
      cases hn : Name.fromLabels (l :: l2 :: ls2) with
      | none => rfl
      | some n =>
        rw [hn] at hc
        simp [hc.1]

theorem warmMissK_subset (zs : Zones) (V : List UEntry) {K K' : List (Name × Nat)} (hK : ∀ k ∈ K', k ∈ K)
    (stop : Nat) : ∀ ls, warmMissK zs V K stop ls = true → warmMissK zs V K' stop ls = true := by
  intro ls
  induction ls with
  | nil => exact fun _ => rfl
  | cons l ls ih =>
    intro h
    unfold warmMissK at h ⊢
    by_cases hs : (l :: ls).length ≤ stop
    · rw [if_pos hs]
    · rw [if_neg hs, Bool.and_eq_true] at h ⊢
      refine ⟨?_, ih h.2⟩
      have h1 := h.1
      cases hn : Name.fromLabels (l :: ls) with
      | none => rfl
      | some n =>
        rw [hn] at h1
        simp only [Bool.and_eq_true, Bool.not_eq_true', List.contains_eq_mem, decide_eq_false_iff_not] at h1 ⊢
        exact ⟨⟨⟨h1.1.1.1, fun hc => h1.1.1.2 (hK _ hc)⟩, fun hc => h1.1.2 (hK _ hc)⟩, h1.2⟩

theorem warmMissK_aliasKeys (zs : Zones) (V : List UEntry) (cn : List Name) (stop : Nat) :
    ∀ ls, warmMissK zs V (uniAliasKeys cn) stop ls = warmMiss zs V cn stop ls
  | [] => rfl
  | l :: ls => by
    have h1 : ∀ n, (uniAliasKeys cn).contains (n, RT_NS) = false := fun n =>
      Bool.eq_false_iff.mpr fun hc => absurd (uni_mem_aliasKeys.mp (List.contains_iff_mem.mp hc)).1 (by decide)
    have h2 : ∀ n, (uniAliasKeys cn).contains (n, RT_CNAME) = cn.contains n := fun n =>
      Bool.eq_iff_iff.mpr ⟨fun hc => List.contains_iff_mem.mpr (uni_mem_aliasKeys.mp (List.contains_iff_mem.mp hc)).2,
        fun hc => List.contains_iff_mem.mpr (uni_mem_aliasKeys.mpr ⟨rfl, List.contains_iff_mem.mp hc⟩)⟩
    unfold warmMissK warmMiss
    rw [warmMissK_aliasKeys zs V cn stop ls]
    cases Name.fromLabels (l :: ls) with
    | none => rfl
    | some n => simp only [h1, h2, Bool.not_false, Bool.and_true]

/-- The walk up ends at the deepest zone `Y` whose NS set is cached (or at the root hints).  A name on the way
    whose NS question is being worked on is skipped like one nothing is known about. -/
theorem candidateNameservers_warm {U : Universe} {zs : Zones} {V G : List UEntry} {K : List (Name × Nat)} {T m : Nat}
    {S : List Question} (Y : UEntry)
    (hY : (Y ∈ V ∧ localMiss zs Y.apex RT_NS = true ∧ (Y.apex, RT_NS) ∉ K) ∨
      (Y.apex = Name.root ∧ RootHints zs Y.host Y.addr))
    (hapex : Y ∈ V → ∀ E ∈ U, ∀ E' ∈ U, E.apex = E'.apex → E.host = E'.host)
    (hwf : Name.fromLabels Y.apex.labels = some Y.apex) (hlim : S.length ≠ RECURSION_LIMIT)
    (hS : uniNsQ Y.apex ∉ S) :
    ∀ (ls : List Label) {clock : Nat} {st : St}, UniAt U zs S V G K T m clock st →
      Y.apex.labels <:+ ls → warmMissK zs V K Y.apex.labels.length ls = true →
      (candidateNameservers st ls).2 = some ⟨[Y.host], Y.apex⟩ := by
  intro ls
  induction ls with
  | nil =>
    intro clock st _ hsuf _
    exact absurd (show Y.apex.labels = [] by simpa using hsuf) (Name.fromLabels_self.mp hwf).1.1
  | cons l ls ih =>
    intro clock st hat hsuf hwm
    have hlim : st.ctx.stack.length ≠ RECURSION_LIMIT := by rw [hat.stack]; exact hlim
    have hstack : uniNsQ Y.apex ∉ st.ctx.stack := by rw [hat.stack]; exact hS
    have hzs := hat.zones
    have hsound := hat.cache.sound
    unfold warmMissK at hwm
    by_cases hlen : (l :: ls).length ≤ Y.apex.labels.length
    · -- arrived at `Y`'s zone
      have heq : Y.apex.labels = l :: ls := by
        rcases List.suffix_cons_iff.mp hsuf with h1 | h1
        · exact h1
        · exact absurd (Nat.le_trans hlen h1.length_le) (Nat.not_succ_le_self _)
      rw [heq] at hwf
      rcases hY with ⟨hYV, hmiss, hKn⟩ | ⟨hroot, hh⟩
      · obtain ⟨h1, h2⟩ := uni2_Sound.lookup_ns hsound (show st.ctx.now + NANOS ≤ T by rw [hat.now]; exact hat.alive) hat.memV (hapex hYV) Y hYV hKn
          (hat.cache.ns_ne_nil Y hYV)
        rw [candidateNameservers_found st hwf (resolveLocal_cache_answer RECURSION_LIMIT (q := uniNsQ Y.apex) hlim hstack
          (uni_zoneFalls_of_miss (by rw [hzs]; exact hmiss)) (by show RT_NS ≠ QTYPE_WILDCARD; decide) rfl h1) h2 (by simp)]
      · obtain ⟨z, ttl, hz, hs⟩ := hh.ns
        rw [hroot] at hstack hwf ⊢
        have hloc := resolveLocal_zone_answer_nonauth RECURSION_LIMIT (q := uniNsQ Name.root) hlim hstack
          (by rw [hzs]; exact hz) (Zone.soaRR_eq_none_iff.mpr hs) (by show RT_NS ≠ QTYPE_WILDCARD; decide) (by simp)
        rw [candidateNameservers_found st hwf (congrArg Prod.snd hloc) (hosts := [Y.host])
          (by simp [ResolvedRecord.rrs, nsTarget]) (by simp)]
    · -- still above `Y`'s zone: nothing known here
      rw [if_neg hlen] at hwm
      simp only [Bool.and_eq_true] at hwm
      have hsuf' : Y.apex.labels <:+ ls := by
        rcases List.suffix_cons_iff.mp hsuf with h1 | h1
        · rw [h1] at hlen; exact absurd (Nat.le_refl _) hlen
        · exact h1
      cases hn : Name.fromLabels (l :: ls) with
      | none => rw [candidateNameservers_cons, hn]; exact ih hat hsuf' hwm.2
      | some name =>
        rw [hn] at hwm
        simp only [Bool.and_eq_true, Bool.not_eq_true', List.all_eq_true, bne_iff_ne, ne_eq] at hwm
        obtain ⟨⟨⟨⟨hm1, hm2⟩, hm2'⟩, hm3⟩, hm4⟩ := hwm
        -- the lookup fails: the NS question is being worked on, or nothing is stored under the name
        have herr : ∃ e, (resolveLocal (RECURSION_LIMIT + 1) st.ctx (uniNsQ name)).2 = .error e := by
          by_cases hin : uniNsQ name ∈ st.ctx.stack
          · exact ⟨_, congrArg Prod.snd (resolveLocal_duplicate _ hlim hin)⟩
          · have hk : ∀ t, K.contains (name, t) = false → (name, t) ∉ K := by
              intro t hf hc
              rw [List.contains_iff_mem.mpr hc] at hf; cases hf
            exact ⟨_, resolveLocal_dead_end_of_miss RECURSION_LIMIT st.ctx (uniNsQ name) hlim hin (by rw [hzs]; exact hm1)
              lookupNat_qt_RT_NS
              (uni2_Sound.nil_of_fresh hsound name RT_NS (fun hh => by rcases hh with hh | hh <;> cases hh)
                (fun _ C hC => hm3 C hC) (hk _ hm2))
              (uni2_Sound.nil_of_fresh hsound name RT_CNAME (fun hh => by rcases hh with hh | hh <;> cases hh)
                (fun hh => by cases hh) (hk _ hm2'))⟩
        obtain ⟨e, he⟩ := herr
        rw [candidateNameservers_error st hn he]
        exact ih (hat.looked (st' := ⟨_, st.run⟩) (resolveLocal_looked (RECURSION_LIMIT + 1) st.ctx ⟨name, RT_NS, CLASS_IN⟩)
          hat.live) hsuf' hm4

theorem candidateNameservers_looked (ls : List Label) (st : St) :
    (candidateNameservers st ls).1.run = st.run ∧ (candidateNameservers st ls).1.ctx.Looked st.ctx :=
  (candidateNameservers_rel (R := fun a b => b.run = a.run ∧ b.ctx.Looked a.ctx) (fun _ => ⟨rfl, .refl _⟩)
    (fun h1 h2 => ⟨h2.1.trans h1.1, h2.2.trans h1.2⟩) (fun st q => ⟨rfl, resolveLocal_looked _ st.ctx q⟩) ls st).1

/-! ## Entering the loop -/

/-- `resolveRec` misses `q` locally, walks up to `Y` and runs the candidate loop on `Y`'s host between push and pop of
    `q`, `Y`'s address being available to the loop's local lookup. -/
theorem resolveRec_enter {gp : List RR → List RR} {U : Universe} {cfg : RecCfg} (h : UniNet gp U cfg) {zs : Zones}
    {K : List (Name × Nat)} {V G : List UEntry} {S : List Question} {q : Question} {Y : UEntry}
    (he : EnterOK U zs K V G S q Y) {T m clock : Nat} {st : St} (hat : UniAt U zs S V G K T m clock st) (F : Nat) :
    ∃ st5, resolveRec cfg (F + 1) st q =
        (⟨(candidateLoop cfg F st5 q [] Y.apex.labels.length [Y.host] [] true).1.ctx.pop,
          (candidateLoop cfg F st5 q [] Y.apex.labels.length [Y.host] [] true).1.run⟩,
         (candidateLoop cfg F st5 q [] Y.apex.labels.length [Y.host] [] true).2) ∧
      st5.run = st.run ∧ UniAt U zs (S ++ [q]) V G K T m clock st5 ∧ UniAddrKnown st5.ctx Y.host Y.addr := by
  have hlim : st.ctx.stack.length ≠ RECURSION_LIMIT := by
    rw [hat.stack]; exact Nat.ne_of_lt (Nat.lt_of_succ_lt he.depth)
  have hnd : q ∉ st.ctx.stack := by rw [hat.stack]; exact fun hin => (he.stack q hin).1 rfl
  have hloc := resolveLocal_dead_end_of_miss RECURSION_LIMIT st.ctx q hlim hnd (by rw [hat.zones]; exact he.qmiss)
    he.ok.qtype
    (uni2_Sound.nil_of_fresh hat.cache.sound q.name q.qtype (fun hh E hE he' => he.notG hh E hE he'.symm) he.notV he.keys.1)
    (uni2_Sound.nil_of_fresh hat.cache.sound q.name RT_CNAME (fun hh => by rcases hh with hh | hh <;> cases hh)
      (fun hh => by cases hh) he.keys.2)
  have hnotin : ∀ q0, q0 ≠ q → (∀ q1 ∈ S, q1 ≠ q0) → q0 ∉ S ++ [q] := fun q0 h1 h2 hin =>
    (List.mem_append.mp hin).elim (fun hin => h2 q0 hin rfl) fun hin => h1 (List.mem_singleton.mp hin)
  have hlimS : (S ++ [q]).length ≠ RECURSION_LIMIT := by rw [List.length_append]; exact Nat.ne_of_lt he.depth
  -- the walk up, from the state after the lookup and the push
  have hat4 := (hat.looked (st' := ⟨(resolveLocal (RECURSION_LIMIT + 1) st.ctx q).1, st.run⟩)
    (resolveLocal_looked (RECURSION_LIMIT + 1) st.ctx q) hat.live).pushed q
  have hc1 := candidateNameservers_warm Y (he.start.imp (fun hh => ⟨hh.1, hh.2.2.1, hh.2.2.2.2⟩) id) he.apex he.wf hlimS
    (hnotin _ he.notY.1.symm fun q1 h1 => (he.stack q1 h1).2.1) q.name.labels hat4
    (Name.isSubdomainOf_iff.mp he.sub) he.warm
  obtain ⟨hr5, hl5⟩ := candidateNameservers_looked q.name.labels
    ⟨(resolveLocal (RECURSION_LIMIT + 1) st.ctx q).1.push q, st.run⟩
  obtain ⟨st5, hst5⟩ : ∃ s, (candidateNameservers ⟨(resolveLocal (RECURSION_LIMIT + 1) st.ctx q).1.push q, st.run⟩
    q.name.labels).1 = s := ⟨_, rfl⟩
  rw [hst5] at hr5 hl5
  have hat5 := hat4.looked hl5 (show st5.run.timedOut = false by rw [hr5]; exact hat.live)
  have hnotin5 : uniHostQ Y.host ∉ st5.ctx.stack := by
    rw [hat5.stack]; exact hnotin _ he.notY.2.symm fun q1 h1 => (he.stack q1 h1).2.2
  have hlim5 : st5.ctx.stack.length ≠ RECURSION_LIMIT := by rw [hat5.stack]; exact hlimS
  refine ⟨st5, ?_, hr5, hat5, ?_⟩
  · rw [resolveRec_local_error hat.live hlim hnd hloc,
      recUpstream_found (show initialCandidates ⟨(resolveLocal (RECURSION_LIMIT + 1) st.ctx q).1.push q, st.run⟩ q
        (.error (.deadEnd q)) = (st5, some ⟨[Y.host], Y.apex⟩) from Prod.ext hst5 hc1)]
    rfl
  · rcases he.start with hh | ⟨_, hh⟩
    · exact addrKnown_of_cached h.hosts hat5.memG Y he.mem hat5.cache.sound (by rw [hat5.now]; exact hat5.alive) he.keyA
        (hat5.cache.addr_ne_nil Y hh.2.1) (by rw [hat5.zones]; exact hh.2.2.2.1) hlim5 hnotin5
    · exact addrKnown_of_hints (by rw [hat5.zones]; exact hh) hlim5 hnotin5

theorem EnterOK.cold {U : Universe} {zs : Zones} {q : Question} {R : UEntry} (hq : QuestionOK q) (hR : R ∈ U)
    (hsub : q.name.isSubdomainOf R.apex = true) (hroot : R.apex = Name.root) (hints : RootHints zs R.host R.addr)
    (hqmiss : localMiss zs q.name q.qtype = true) (hcand : candMiss zs q.name.labels = true) :
    EnterOK U zs [] [] [] [] q R :=
  { ok := hq, mem := hR, sub := hsub, start := Or.inr ⟨hroot, hints⟩, apex := (fun hh => nomatch hh)
    keyA := (fun hk => nomatch hk), wf := (by rw [hroot]; exact Name.fromLabels_root), depth := (by decide)
    stack := (fun _ hq0 => nomatch hq0), qmiss := hqmiss, notG := (fun _ _ hE => nomatch hE)
    notV := (fun _ _ hC => nomatch hC), notY := (by rw [hroot]; exact miss_ne_hints_question hints q hqmiss)
    keys := ⟨(fun hk => nomatch hk), (fun hk => nomatch hk)⟩
    warm := (by rw [hroot]; exact warmMissK_of_candMiss zs _ hcand) }

end Resolved
