/-
  C11: a record line of the specification's rendering against `denoteRecord`: its tokens, which of those in front
  of the type `parse_rr` takes for owner and TTL (`preFields_preTokens`), what `denoteRecord` decides
  (`denoteRecord_cases`), and the rendered line in the entry loop, accepted or rejected, in one statement
  (`record_line`, over the simulation relation `StRel`).
-/
import Resolved.Proofs.ZoneTextSpecRecord

namespace Resolved.ZoneText

open Resolved Resolved.IpText ZTSpec

/-! ## tokens that do not spell a type -/

theorem map_charAsU8_eq_asciiOctets (s : List Char) : s.map charAsU8 = asciiOctets s := rfl

theorem rtypeFromStr_none_of_not_spells (bs : List UInt8) (h : spellsType bs = false) :
    rtypeFromStr (bs.map octetAsChar) = none := by
  simp only [spellsType, Bool.or_eq_false_iff, List.any_eq_false, beq_iff_eq] at h
  obtain ⟨h1, h2⟩ := h
  rw [rtypeFromStr_of_no_mnemonic, if_neg]
  · intro ht
    apply (by simpa using h2 : ¬ bs.take 4 = asciiOctets ['T', 'Y', 'P', 'E'])
    rw [← List.map_take] at ht
    exact eq_map_charAsU8_of_map_octetAsChar ht
  · intro p hp he
    exact h1 p hp (eq_map_charAsU8_of_map_octetAsChar he).symm

theorem fieldAtoms_congr (lv lv' : LineVar) (h : lv.aaaaFull = lv'.aaaaFull) (f : RField) :
    fieldAtoms lv f = fieldAtoms lv' f := by
  cases f <;> simp [fieldAtoms, h]

theorem noType_rdata (lv : LineVar) (rd : List RField)
    (h : ∀ f ∈ rd, fieldOk false {} f = true ∧ fieldOk false { aaaaFull := true } f = true) :
    NoType (rd.map (fieldTok lv)) := by
  intro t ht
  simp only [List.mem_map] at ht
  obtain ⟨f, hf, rfl⟩ := ht
  obtain ⟨h1, h2⟩ := h f hf
  simp only [fieldOk, Bool.and_eq_true, Bool.not_eq_true'] at h1 h2
  have hsp : spellsType (fieldText lv f) = false := by
    cases hfull : lv.aaaaFull with
    | false =>
      have : fieldText lv f = fieldText {} f := by
        unfold fieldText; rw [fieldAtoms_congr lv {} (by rw [hfull]) f]
      rw [this]; exact h1.2
    | true =>
      have : fieldText lv f = fieldText { aaaaFull := true } f := by
        unfold fieldText; rw [fieldAtoms_congr lv { aaaaFull := true } (by rw [hfull]) f]
      rw [this]; exact h2.2
  exact rtypeFromStr_none_of_not_spells _ hsp

/-! ## the tokens of a record line

`recordTokens lv r` is `(directiveTokens lv (.record r)).map tokenOf` (`recordTokens_eq`) cut at the type token:
`preTokens`, the at most three tokens in front of it (owner, then TTL and class in the order `lv.classFirst` says),
the type token, the RDATA tokens. -/

def ownerT (ow : OwnerRef) : Token := tokenOf (ownerAtoms ow)
def ttlT (t : Nat) : Token := tokenOf (asciiAtoms (showDec t))
def clsT (c : List UInt8) : Token := tokenOf (plainAtoms c)
def typeT (lv : LineVar) (code : Nat) : Token := tokenOf (asciiAtoms (typeText lv.typeNumeric code))

theorem ownerT_fst (ow : OwnerRef) : (ownerT ow).1 = ownerChars ow := rfl

theorem ttlT_fst (t : Nat) : (ttlT t).1 = showDec t := by
  simp [ttlT, tokenOf_asciiAtoms _ (showDec_ascii t)]

theorem clsT_IN : clsT clsIN = tIN := by
  unfold clsT
  rw [tokenOf_plainAtoms]
  rfl

def optToken {α : Type} (f : α → Token) : Option α → List Token
  | some a => [f a]
  | none => []

theorem mem_optToken {α : Type} {f : α → Token} {o : Option α} {t : Token} (h : t ∈ optToken f o) :
    ∃ a, o = some a ∧ t = f a := by
  cases o with
  | none => cases h
  | some a => exact ⟨a, rfl, List.mem_singleton.mp h⟩

def preTokens (lv : LineVar) (r : Rec) : List Token :=
  optToken ownerT r.owner
    ++ (if lv.classFirst then optToken clsT r.cls ++ optToken ttlT r.ttl
        else optToken ttlT r.ttl ++ optToken clsT r.cls)

theorem optToken_length {α : Type} (f : α → Token) (x : Option α) : (optToken f x).length ≤ 1 := by
  cases x <;> simp [optToken]

theorem preTokens_length (lv : LineVar) (r : Rec) : (preTokens lv r).length ≤ 3 := by
  have h1 := optToken_length ownerT r.owner
  have h2 := optToken_length ttlT r.ttl
  have h3 := optToken_length clsT r.cls
  unfold preTokens
  split <;> simp only [List.length_append] <;> omega

def recordTokens (lv : LineVar) (r : Rec) : List Token :=
  preTokens lv r ++ typeT lv r.rtype :: r.rdata.map (fieldTok lv)

theorem recordTokens_eq (lv : LineVar) (r : Rec) :
    (directiveTokens lv (.record r)).map tokenOf = recordTokens lv r := by
  unfold directiveTokens recordTokens preTokens
  simp only [List.map_append, List.map_cons, List.map_map, apply_ite (List.map tokenOf), List.append_assoc,
    List.singleton_append]
  cases r.owner <;> cases r.ttl <;> cases r.cls <;> rfl

theorem ttlT_ne_sIN (t : Nat) : (ttlT t).1 ≠ sIN := by
  rw [ttlT_fst]
  intro h
  have := (showDec_digits t).2 'I' (by rw [h]; decide)
  revert this; decide

theorem ttlT_allDigits (t : Nat) : allDigits (ttlT t).1 = true := by
  rw [ttlT_fst]
  simp only [allDigits, List.all_eq_true]
  exact (showDec_digits t).2

/-! ## what the side condition gives; the first token of a record line -/

theorem directiveOk_record {r : Rec} (h : directiveOk false (.record r) = true) :
    (∀ ow, r.owner = some ow → ownerRefOk false ow = true) ∧ (∀ t, r.ttl = some t → t < 4294967296) ∧
    (∀ c, r.cls = some c → c ∈ knownClasses) ∧ rdataFits r.rtype r.rdata = true ∧
    (∀ f ∈ r.rdata, fieldOk false {} f = true ∧ fieldOk false { aaaaFull := true } f = true) := by
  simp only [directiveOk, Bool.and_eq_true, List.all_eq_true] at h
  obtain ⟨⟨⟨⟨h1, h2⟩, h3⟩, h4⟩, h5⟩ := h
  refine ⟨?_, ?_, ?_, h4, h5⟩
  · intro ow ho; rw [ho] at h1; exact h1
  · intro t ht; rw [ht] at h2; simpa using h2
  · intro c hc; rw [hc] at h3; simpa using h3

/-- what `parse_rr` and `parse_entry` test of the owner token, on its chars `ownerChars ow`, for any owner; for a plain
    name obtained from `OwnerNameOk` (`ownerRefOk_chars`). -/
structure OwnerTokenOk (ow : OwnerRef) : Prop where
  notDigits : allDigits (ownerChars ow) = false
  ne_IN : ownerChars ow ≠ sIN
  ne_ORIGIN : ownerChars ow ≠ sORIGIN
  ne_INCLUDE : ownerChars ow ≠ sINCLUDE
  noType : rtypeFromStr (ownerChars ow) = none

theorem ownerRefOk_chars {ow : OwnerRef} (h : ownerRefOk false ow = true) : OwnerTokenOk ow := by
  have hstar : ∀ (cs : List Char), allDigits ('*' :: cs) = false ∧ ('*' :: cs) ≠ sIN ∧ ('*' :: cs) ≠ sORIGIN
      ∧ ('*' :: cs) ≠ sINCLUDE ∧ rtypeFromStr ('*' :: cs) = none := by
    intro cs
    refine ⟨by simp [allDigits, isAsciiDigit], ?_, ?_, ?_, rtypeFromStr_none_of_head '*' cs rfl⟩ <;>
      (intro he; simp [sIN, sORIGIN, sINCLUDE] at he)
  cases ow with
  | star => obtain ⟨h1, h2, h3, h4, h5⟩ := hstar []; exact ⟨h1, h2, h3, h4, h5⟩
  | wild n => obtain ⟨h1, h2, h3, h4, h5⟩ := hstar ('.' :: nameChars n); exact ⟨h1, h2, h3, h4, h5⟩
  | name n =>
    have hn := ownerRefOk_name h
    have hch : ownerChars (.name n) = (nameText n).map octetAsChar := rfl
    refine ⟨?_, fun he => hn.ne_IN (eq_map_charAsU8_of_map_octetAsChar he),
      fun he => hn.ne_ORIGIN (eq_map_charAsU8_of_map_octetAsChar he),
      fun he => hn.ne_INCLUDE (eq_map_charAsU8_of_map_octetAsChar he), rtypeFromStr_none_of_not_spells _ hn.noType⟩
    have hdig := hn.notDigits
    rw [hch]
    simp only [allDigitOctets, List.all_eq_false] at hdig
    obtain ⟨b, hb, hnb⟩ := hdig
    simp only [allDigits, List.all_eq_false, List.mem_map]
    refine ⟨octetAsChar b, ⟨b, hb, rfl⟩, ?_⟩
    simp only [isDigitOctet, Bool.and_eq_true, decide_eq_true_eq] at hnb
    simp only [isAsciiDigit, octetAsChar_toNat, Bool.and_eq_true, decide_eq_true_eq]
    exact hnb

/-- what `parse_rr` and `parse_entry` test of the token of a class other than `IN`. -/
structure ForeignClassToken (c : List UInt8) : Prop where
  ne_IN : (clsT c).1 ≠ sIN
  notNumber : parseU32 (clsT c).1 = none
  noType : rtypeFromStr (clsT c).1 = none
  ne_ORIGIN : (clsT c).1 ≠ sORIGIN
  ne_INCLUDE : (clsT c).1 ≠ sINCLUDE

theorem clsT_foreign {c : List UInt8} (hc : c ∈ knownClasses) (hne : c ≠ clsIN) : ForeignClassToken c := by
  have hcl : clsT c = (c.map octetAsChar, c) := tokenOf_plainAtoms c
  simp only [knownClasses, List.mem_cons, List.not_mem_nil, or_false] at hc
  rcases hc with h | h | h | h
  · exact absurd h hne
  all_goals (subst h; exact ⟨by rw [hcl]; decide, by rw [hcl]; decide, by rw [hcl]; decide, by rw [hcl]; decide,
    by rw [hcl]; decide⟩)

theorem typeT_no_directive (lv : LineVar) (code : Nat) (hknown : KnownCode code) :
    (typeT lv code).1 ≠ sORIGIN ∧ (typeT lv code).1 ≠ sINCLUDE := by
  have hty : rtypeFromStr (typeT lv code).1 = some code := typeToken_spec lv.typeNumeric code hknown
  have n1 : rtypeFromStr sORIGIN = none := by decide
  have n2 : rtypeFromStr sINCLUDE = none := by decide
  constructor <;> intro h <;> rw [h] at hty
  · rw [n1] at hty; cases hty
  · rw [n2] at hty; cases hty

theorem mem_preTokens {lv : LineVar} {r : Rec} {t : Token} (h : t ∈ preTokens lv r) :
    (∃ ow, r.owner = some ow ∧ t = ownerT ow) ∨ (∃ x, r.ttl = some x ∧ t = ttlT x) ∨
    (∃ c, r.cls = some c ∧ t = clsT c) := by
  unfold preTokens at h
  rw [List.mem_append] at h
  rcases h with h | h
  · exact Or.inl (mem_optToken h)
  · split at h <;> rw [List.mem_append] at h
    · exact Or.inr (h.elim (fun h => Or.inr (mem_optToken h)) (fun h => Or.inl (mem_optToken h)))
    · exact Or.inr (h.elim (fun h => Or.inl (mem_optToken h)) (fun h => Or.inr (mem_optToken h)))

theorem recordTokens_head_no_directive (lv : LineVar) (r : Rec) (hknown : KnownCode r.rtype)
    (hown : ∀ ow, r.owner = some ow → ownerRefOk false ow = true)
    (hcls : ∀ c, r.cls = some c → c ∈ knownClasses) :
    ∃ t0 ts, recordTokens lv r = t0 :: ts ∧ t0.1 ≠ sORIGIN ∧ t0.1 ≠ sINCLUDE := by
  have hty := typeT_no_directive lv r.rtype hknown
  unfold recordTokens
  cases hp : preTokens lv r with
  | nil => exact ⟨_, _, rfl, hty.1, hty.2⟩
  | cons t0 ts =>
    refine ⟨t0, ts ++ typeT lv r.rtype :: r.rdata.map (fieldTok lv), rfl, ?_⟩
    have hmem : t0 ∈ preTokens lv r := by rw [hp]; simp
    rcases mem_preTokens hmem with ⟨ow, ho, rfl⟩ | ⟨x, -, rfl⟩ | ⟨c, hc, rfl⟩
    · have := ownerRefOk_chars (hown ow ho)
      rw [ownerT_fst]; exact ⟨this.ne_ORIGIN, this.ne_INCLUDE⟩
    · rw [ttlT_fst]
      constructor <;> intro h <;>
        (have := (showDec_digits x).2 '$' (by rw [h]; decide); revert this; decide)
    · by_cases hin : c = clsIN
      · subst hin
        rw [clsT_IN]; decide
      · have := clsT_foreign (hcls c hc) hin
        exact ⟨this.ne_ORIGIN, this.ne_INCLUDE⟩

theorem preTokens_noType (lv : LineVar) (r : Rec)
    (hown : ∀ ow, r.owner = some ow → ownerRefOk false ow = true)
    (hcls : ∀ c, r.cls = some c → c ∈ knownClasses) : NoType (preTokens lv r) := by
  intro t ht
  rcases mem_preTokens ht with ⟨ow, ho, rfl⟩ | ⟨x, -, rfl⟩ | ⟨c, hc, rfl⟩
  · exact (ownerRefOk_chars (hown ow ho)).noType
  · exact rtypeFromStr_none_of_allDigits (ttlT_allDigits x)
  · by_cases hin : c = clsIN
    · subst hin
      rw [clsT_IN]; decide
    · exact (clsT_foreign (hcls c hc) hin).noType

/-! ## the record line as `parse_rr` reads it -/

theorem directiveOk_rdata (lv : LineVar) {r : Rec} (hok : directiveOk false (.record r) = true) :
    SpecRdata r.rtype r.rdata ∧ RdataNamesOk r.rdata ∧ NoType (r.rdata.map (fieldTok lv)) := by
  obtain ⟨-, -, -, hfits, hfields⟩ := directiveOk_record hok
  refine ⟨specRdata_of_fits _ _ hfits, ?_, noType_rdata lv r.rdata hfields⟩
  intro f hf
  cases f with
  | name n => have := (hfields _ hf).1; simp only [fieldOk, Bool.and_eq_true] at this; exact this.1
  | _ => trivial

theorem preFields_preTokens (lv : LineVar) (r : Rec) (hcls : r.cls = none ∨ r.cls = some clsIN)
    (howner : ∀ ow, r.owner = some ow → allDigits (ownerChars ow) = false ∧ ownerChars ow ≠ sIN) :
    preFields (preTokens lv r) = { owner := r.owner.map ownerT, ttl := r.ttl.map ttlT } := by
  unfold preTokens
  have hIN : (clsT clsIN).1 = sIN := by rw [clsT_IN]; rfl
  cases ho : r.owner with
  | some ow =>
    obtain ⟨hdig, hdIN⟩ := howner ow ho
    rw [← ownerT_fst] at hdig hdIN
    cases r.ttl with
    | some t =>
      have h1 := ttlT_ne_sIN t
      rcases hcls with hc | hc <;> rw [hc]
      · simp only [optToken, List.cons_append, List.nil_append, List.append_nil, ite_self, preFields, h1, hdIN, if_false,
          Option.map_some]
      · cases lv.classFirst <;>
          simp only [optToken, Bool.false_eq_true, if_false, if_true, List.cons_append, List.nil_append, preFields, hIN, h1,
            Option.map_some]
    | none =>
      rcases hcls with hc | hc <;> rw [hc] <;>
        simp only [optToken, List.cons_append, List.nil_append, List.append_nil, ite_self, preFields, hIN, hdIN, hdig,
          Bool.false_eq_true, if_false, if_true, Option.map_some, Option.map_none]
  | none =>
    cases r.ttl with
    | some t =>
      have h1 := ttlT_ne_sIN t
      have h2 := ttlT_allDigits t
      rcases hcls with hc | hc <;> rw [hc]
      · simp only [optToken, List.nil_append, List.append_nil, ite_self, preFields, h1, h2, if_false,
          if_true, Option.map_some, Option.map_none]
      · cases lv.classFirst <;>
          simp only [optToken, Bool.false_eq_true, if_false, if_true, List.cons_append, List.nil_append, preFields, hIN, h1,
            h2, Option.map_some, Option.map_none]
    | none =>
      rcases hcls with hc | hc <;> rw [hc] <;>
        simp only [optToken, List.nil_append, List.append_nil, ite_self, preFields, hIN, if_true,
          Option.map_none]

/-- a class other than `IN`: wherever `parse_rr` expects a class the line has three tokens in front of the type none of
    which is `IN`, or the class token stands where a TTL is read — except when the owner is omitted and the class token
    stands first (finding C11-K1: it is then read as an owner). -/
theorem preFields_preTokens_class (lv : LineVar) {r : Rec} {c : List UInt8} (hc : r.cls = some c)
    (hk : c ∈ knownClasses) (hne : c ≠ clsIN)
    (howner : ∀ ow, r.owner = some ow → ownerChars ow ≠ sIN)
    (hk1 : ¬ (r.owner = none ∧ (r.ttl = none ∨ lv.classFirst = true))) :
    (preFields (preTokens lv r)).bad = true ∨
      ∃ t, (preFields (preTokens lv r)).ttl = some t ∧ parseU32E t.1 = .error .expectedU32 := by
  have f1 := (clsT_foreign hk hne).ne_IN
  have f2' : parseU32E (clsT c).1 = .error .expectedU32 := by simp only [parseU32E, (clsT_foreign hk hne).notNumber]
  unfold preTokens
  rw [hc]
  cases ho : r.owner with
  | some ow =>
    have hdIN : (ownerT ow).1 ≠ sIN := howner ow ho
    cases r.ttl with
    | some t =>
      have h1 := ttlT_ne_sIN t
      left
      cases lv.classFirst <;>
        simp only [optToken, Bool.false_eq_true, if_false, if_true, List.cons_append, List.nil_append, preFields, f1, h1]
    | none =>
      right
      simp only [optToken, List.cons_append, List.nil_append, List.append_nil, ite_self, preFields, f1, hdIN, if_false]
      exact ⟨_, rfl, f2'⟩
  | none =>
    cases ht : r.ttl with
    | none => exact absurd ⟨ho, Or.inl ht⟩ hk1
    | some t =>
      cases hcf : lv.classFirst with
      | true => exact absurd ⟨ho, Or.inr hcf⟩ hk1
      | false =>
        right
        simp only [optToken, Bool.false_eq_true, if_false, List.cons_append, List.nil_append, preFields, f1, ttlT_ne_sIN t]
        exact ⟨_, rfl, f2'⟩

theorem parseRr_recordTokens (o : Option Name) (pd : Option MaybeWildcard) (pt : Option Nat) (lv : LineVar)
    {r : Rec} (hok : directiveOk false (.record r) = true) :
    parseRr o pd pt (recordTokens lv r) =
      match tryParseRtypeWithData o (typeT lv r.rtype :: r.rdata.map (fieldTok lv)) with
      | some rdat => readPre o pd pt (preFields (preTokens lv r)) rdat
      | none => .error .missingType := by
  obtain ⟨hownOk, -, hclsOk, -, -⟩ := directiveOk_record hok
  have hnt := (directiveOk_rdata lv hok).2.2
  unfold recordTokens
  cases hty : tryParseRtypeWithData o (typeT lv r.rtype :: r.rdata.map (fieldTok lv)) with
  | none => exact parseRr_missingType o pd pt _ _ _ (preTokens_noType lv r hownOk hclsOk) hnt hty
  | some rdat => exact parseRr_pre o pd pt _ _ _ rdat (preTokens_length lv r) hty (hnt.firstType o _)

theorem loopStep_recordLine (st : DState) {r : Rec} (hok : directiveOk false (.record r) = true)
    (lv : LineVar) (eol : List Char) (heol : IsEol eol) (hc : CommentOk lv) (tailE rest : List Char)
    (hle : LineEnd eol tailE rest) :
    loopStep st (renderLine lv eol (.record r) ++ tailE ++ rest) =
      match parseRr st.origin st.previousDomain st.previousTtl (recordTokens lv r) with
      | .ok e => some (entryStep st e rest)
      | .error e => some (.stop (.error e)) := by
  obtain ⟨hownOk, -, hclsOk, -, -⟩ := directiveOk_record hok
  obtain ⟨t0, ts, htoks, hnO, hnI⟩ := recordTokens_head_no_directive lv r (directiveOk_rdata lv hok).1.known hownOk hclsOk
  have htok : tokeniseEntry (renderLine lv eol (.record r) ++ tailE ++ rest) = .ok (recordTokens lv r, rest) := by
    rw [tokenise_directive lv eol heol hc _ (fun c h => by cases h) tailE rest hle, recordTokens_eq]
  rw [htoks] at htok ⊢
  exact loopStep_rr st htok hnO hnI

theorem parseRr_recordTokens_error (o : Option Name) (pd : Option MaybeWildcard) (pt : Option Nat) (lv : LineVar)
    {r : Rec} (hok : directiveOk false (.record r) = true)
    (h : ∀ rdat, ∃ e, readPre o pd pt (preFields (preTokens lv r)) rdat = .error e) :
    ∃ e, parseRr o pd pt (recordTokens lv r) = .error e := by
  rw [parseRr_recordTokens o pd pt lv hok]
  cases tryParseRtypeWithData o (typeT lv r.rtype :: r.rdata.map (fieldTok lv)) with
  | none => exact ⟨_, rfl⟩
  | some rdat => exact h rdat

/-! ## the simulation relation -/

/-- a record the specification collected, as the `RR` (class `IN`) that `Zone::deserialise` collects. -/
def frRR (fr : FlatRecord) : RR :=
  { name := fr.owner, rtype := fr.rtype, fields := fr.fields, rclass := 1, ttl := fr.ttl }

/-- the local state of `Zone::deserialise` corresponds to the state of `denote`. -/
structure StRel (dst : DenoteState) (st : DState) : Prop where
  origin : st.origin = dst.origin
  originOk : ∀ on, dst.origin = some on → TextName on
  prevOwner : st.previousDomain = dst.prevOwner.map mwOf
  prevTtl : st.previousTtl = dst.prevTtl
  soa : st.apexAndSoa = dst.soa
  rrs : st.rrs.reverse = dst.records.map frRR
  wrrs : st.wildcardRrs.reverse = dst.wildcards.map frRR

theorem stRel_init : StRel {} {} :=
  ⟨rfl, (fun _ h => by cases h), rfl, rfl, rfl, rfl, rfl⟩

/-! ## the entry a record yields; what `denoteRecord` decides -/

/-- the owner of a record as `denoteRecord` determines it. -/
def specOwner (dst : DenoteState) (r : Rec) : Except SpecError (Bool × Name) :=
  match r.owner with
  | some o => resolveOwner dst.origin o
  | none => match dst.prevOwner with | some p => .ok p | none => .error .noOwner

/-- the TTL of a record other than SOA as `denoteRecord` determines it. -/
def specTtl (dst : DenoteState) (r : Rec) : Except SpecError Nat :=
  match r.ttl with
  | some t => .ok t
  | none => match dst.prevTtl with | some t => .ok t | none => .error .noTTL

/-- a SOA record carries its MINIMUM, whatever TTL is written or inherited. -/
theorem withTtl_soa (w : MaybeWildcard) (soa : SOA) (ttl pt : Option Nat) :
    withTtl pt ⟨6, soa.toFields⟩ ttl w = .ok (toRr w ⟨6, soa.toFields⟩ 0) := by
  unfold withTtl
  cases ttl with
  | some t => simp only; rw [toRr_soa, toRr_soa]
  | none =>
    cases pt with
    | none => exact withInheritedTtl_soa w _ rfl
    | some t => simp only [withInheritedTtl]; rw [toRr_soa, toRr_soa]

theorem withTtl_specTtl {dst : DenoteState} {st : DState} (hrel : StRel dst st) (r : Rec) (w : MaybeWildcard)
    (fields : List FieldVal) (h6 : r.rtype ≠ 6) :
    withTtl st.previousTtl ⟨r.rtype, fields⟩ r.ttl w =
      (match specTtl dst r with
       | .ok t => .ok (toRr w ⟨r.rtype, fields⟩ t)
       | .error _ => .error .missingTTL) := by
  unfold specTtl withTtl
  rw [hrel.prevTtl]
  cases r.ttl with
  | some t => rfl
  | none =>
    cases dst.prevTtl with
    | some t => rfl
    | none => exact withInheritedTtl_none _ _ (by simpa [RData.isSOA, RT_SOA] using h6)

/-- the error is the name error when the written owner does not resolve, `MissingDomainName` when the owner is omitted
    and there is no previous one: the two ways `specOwner` fails. -/
theorem readPre_spec {dst : DenoteState} {st : DState} (hrel : StRel dst st) {r : Rec}
    (hok : directiveOk false (.record r) = true) (lv : LineVar) (hcls : r.cls = none ∨ r.cls = some clsIN)
    (rdat : RData) :
    readPre st.origin st.previousDomain st.previousTtl (preFields (preTokens lv r)) rdat =
      match specOwner dst r with
      | .ok p => withTtl st.previousTtl rdat r.ttl (mwOf p)
      | .error e => .error (match r.owner with | some _ => nameErr e | none => .missingDomainName) := by
  obtain ⟨hownOk, httl, -, -, -⟩ := directiveOk_record hok
  have hch := fun ow ho => ownerRefOk_chars (hownOk ow ho)
  rw [preFields_preTokens lv r hcls fun ow ho => ⟨(hch ow ho).notDigits, (hch ow ho).ne_IN⟩]
  have hT : parseOpt parseU32E (r.ttl.map ttlT) = .ok r.ttl := by
    cases ht : r.ttl with
    | none => rfl
    | some t => simp only [Option.map_some, parseOpt, parseU32E, ttlT_fst, parseU32_showDec t (httl t ht)]
  unfold specOwner
  cases ho : r.owner with
  | some ow =>
    have hp : parseDomainOrWildcard st.origin (ownerT ow).1 = ownerResult (resolveOwner dst.origin ow) := by
      rw [hrel.origin, ownerT_fst, parseOwner_spec dst.origin hrel.originOk ow (hownOk ow ho)]
    cases hres : resolveOwner dst.origin ow with
    | ok p =>
      have hO : parseOpt (parseDomainOrWildcard st.origin) ((some ow).map ownerT) = .ok (some (mwOf p)) := by
        simp only [Option.map_some, parseOpt, hp, hres, ownerResult]
      rw [readPre_of_parsed hO rfl hT]
      simp only [hres]
      rfl
    | error e =>
      have hO : parseOpt (parseDomainOrWildcard st.origin) ((some ow).map ownerT) = .error (nameErr e) := by
        simp only [Option.map_some, parseOpt, hp, hres, ownerResult]
      rw [readPre_owner_error hO]
      simp only [hres]
  | none =>
    rw [readPre_of_parsed (w := none) rfl rfl hT, expectRr, hrel.prevOwner]
    cases dst.prevOwner <;> rfl

/-! the two `.ok` states written inside `denoteRecord`, named so that `RecordCase` can state them -/

def afterSoa (dst : DenoteState) (name : Name) (soa : SOA) : DenoteState :=
  { dst with prevOwner := some (false, name), prevTtl := some soa.minimum, soa := some (name, soa) }

def afterRecord (dst : DenoteState) (wild : Bool) (name : Name) (rtype : Nat) (fields : List FieldVal) (ttl : Nat) :
    DenoteState :=
  if wild then { dst with prevOwner := some (wild, name), prevTtl := some ttl,
                          wildcards := dst.wildcards ++ [⟨name, rtype, fields, ttl⟩] }
  else { dst with prevOwner := some (wild, name), prevTtl := some ttl,
                  records := dst.records ++ [⟨name, rtype, fields, ttl⟩] }

theorem soaOf_fields {fields : List FieldVal} {soa : SOA} (h : ZTSpec.soaOf fields = some soa) :
    fields = soa.toFields := by
  unfold ZTSpec.soaOf at h
  split at h
  · cases h; rfl
  · cases h

/-- the second `badRdata` of `denoteRecord` does not occur when the RDATA fits its layout. -/
theorem soaOf_of_fits {o : Option Name} {rd : List RField} {fields : List FieldVal} (hfit : rdataFits 6 rd = true)
    (hres : resolveFields o rd = .ok fields) : ∃ soa, soaOf fields = some soa := by
  cases specRdata_of_fits 6 rd hfit with
  | oneName c hc n => exact absurd hc (by unfold OneNameType; decide)
  | octets c hc bs => exact absurd hc (by unfold OctetsType; decide)
  | soa m r a b c d e =>
    simp only [resolveFields, resolveField] at hres
    cases hm : resolve o m with
    | error _ => rw [hm] at hres; cases hres
    | ok m' =>
      cases hr : resolve o r with
      | error _ => rw [hm, hr] at hres; cases hres
      | ok r' => rw [hm, hr] at hres; cases hres; exact ⟨_, rfl⟩

/-- the ways `denoteRecord` answers for a record whose RDATA fits its type, in the order of its decisions: the class;
    the owner; the names of the RDATA; then for a SOA that it is no wildcard and the first, for any other type the TTL.
    Each case holds the decisions taken before it. -/
inductive RecordCase (dst : DenoteState) (r : Rec) : Except SpecError DenoteState → Prop where
  | classNotIN (c : List UInt8) (hc : r.cls = some c) (hne : c ≠ clsIN) : RecordCase dst r (.error .classNotIN)
  | ownerError (hcls : r.cls = none ∨ r.cls = some clsIN) (e : SpecError) (ho : specOwner dst r = .error e) :
      RecordCase dst r (.error e)
  | rdataError (hcls : r.cls = none ∨ r.cls = some clsIN) (wild : Bool) (name : Name)
      (ho : specOwner dst r = .ok (wild, name)) (e : SpecError) (hr : resolveFields dst.origin r.rdata = .error e) :
      RecordCase dst r (.error e)
  | wildcardSoa (hcls : r.cls = none ∨ r.cls = some clsIN) (name : Name) (ho : specOwner dst r = .ok (true, name))
      (fields : List FieldVal) (hr : resolveFields dst.origin r.rdata = .ok fields) (h6 : r.rtype = 6) (soa : SOA)
      (hs : soaOf fields = some soa) : RecordCase dst r (.error .wildcardSOA)
  | secondSoa (hcls : r.cls = none ∨ r.cls = some clsIN) (name : Name) (ho : specOwner dst r = .ok (false, name))
      (fields : List FieldVal) (hr : resolveFields dst.origin r.rdata = .ok fields) (h6 : r.rtype = 6) (soa : SOA)
      (hs : soaOf fields = some soa) (hsoa : dst.soa.isSome = true) : RecordCase dst r (.error .multipleSOA)
  | firstSoa (hcls : r.cls = none ∨ r.cls = some clsIN) (name : Name) (ho : specOwner dst r = .ok (false, name))
      (fields : List FieldVal) (hr : resolveFields dst.origin r.rdata = .ok fields) (h6 : r.rtype = 6) (soa : SOA)
      (hs : soaOf fields = some soa) (hsoa : dst.soa = none) : RecordCase dst r (.ok (afterSoa dst name soa))
  | noTtl (hcls : r.cls = none ∨ r.cls = some clsIN) (wild : Bool) (name : Name)
      (ho : specOwner dst r = .ok (wild, name)) (fields : List FieldVal)
      (hr : resolveFields dst.origin r.rdata = .ok fields) (h6 : r.rtype ≠ 6) (e : SpecError)
      (ht : specTtl dst r = .error e) : RecordCase dst r (.error e)
  | record (hcls : r.cls = none ∨ r.cls = some clsIN) (wild : Bool) (name : Name)
      (ho : specOwner dst r = .ok (wild, name)) (fields : List FieldVal)
      (hr : resolveFields dst.origin r.rdata = .ok fields) (h6 : r.rtype ≠ 6) (ttl : Nat)
      (ht : specTtl dst r = .ok ttl) : RecordCase dst r (.ok (afterRecord dst wild name r.rtype fields ttl))

theorem denoteRecord_cases (dst : DenoteState) {r : Rec} (hfits : rdataFits r.rtype r.rdata = true) :
    RecordCase dst r (denoteRecord dst r) := by
  by_cases hclass : ∃ c, r.cls = some c ∧ c ≠ clsIN
  · obtain ⟨c, hcl, hne⟩ := hclass
    have : denoteRecord dst r = .error .classNotIN := by
      unfold denoteRecord
      rw [hcl]
      simp only [ne_eq, hne, not_false_eq_true, if_true]
    rw [this]
    exact .classNotIN c hcl hne
  · have hcls : r.cls = none ∨ r.cls = some clsIN := by
      cases hcl : r.cls with
      | none => exact Or.inl rfl
      | some c =>
        by_cases h : c = clsIN
        · subst h; exact Or.inr rfl
        · exact absurd ⟨c, hcl, h⟩ hclass
    have hIN : denoteRecord dst r = denoteRecord.denoteRecordIN dst r := by
      unfold denoteRecord
      rcases hcls with h | h <;> rw [h]
      simp [clsIN]
    rw [hIN]
    unfold denoteRecord.denoteRecordIN
    simp only [hfits, Bool.not_true, Bool.false_eq_true, if_false]
    split
    · rename_i eo howner
      exact .ownerError hcls eo howner
    · rename_i wild name howner
      split
      · rename_i ef hres
        exact .rdataError hcls wild name howner ef hres
      · rename_i fields hres
        split
        · rename_i h6
          split
          · rename_i hso
            obtain ⟨soa, hs⟩ := soaOf_of_fits (by rw [← h6]; exact hfits) hres
            rw [hs] at hso
            cases hso
          · rename_i soa hso
            split
            · rename_i hwild
              have hw : wild = true := by simpa using hwild
              subst hw
              exact .wildcardSoa hcls name howner fields hres h6 soa hso
            · rename_i hwild
              have hw : wild = false := by simpa using hwild
              subst hw
              split
              · rename_i hsoa
                exact .secondSoa hcls name howner fields hres h6 soa hso hsoa
              · rename_i hsoa
                refine .firstSoa hcls name howner fields hres h6 soa hso ?_
                cases h : dst.soa with
                | none => rfl
                | some _ => rw [h] at hsoa; simp at hsoa
        · rename_i h6
          split
          · rename_i et httlv
            exact .noTtl hcls wild name howner fields hres h6 et httlv
          · rename_i ttl httlv
            exact .record hcls wild name howner fields hres h6 ttl httlv

/-! ## one record line in the entry loop -/

/-- the case excepted in the error branch is finding C11-K1 (`preFields_preTokens_class`). -/
theorem record_line (dst : DenoteState) (st : DState) (hrel : StRel dst st) (r : Rec)
    (hok : directiveOk false (.record r) = true) (lv : LineVar) (eol : List Char) (heol : IsEol eol)
    (hc : CommentOk lv) (tailE rest : List Char) (hle : LineEnd eol tailE rest) :
    match denoteRecord dst r with
    | .ok dst' => ∃ st', loopStep st (renderLine lv eol (.record r) ++ tailE ++ rest) = some (.cont st' rest) ∧
        StRel dst' st'
    | .error e => ¬ (e = .classNotIN ∧ r.owner = none ∧ (r.ttl = none ∨ lv.classFirst = true)) →
        ∃ e', loopStep st (renderLine lv eol (.record r) ++ tailE ++ rest) = some (.stop (.error e')) := by
  obtain ⟨hownOk, -, hclsOk, hfits, -⟩ := directiveOk_record hok
  obtain ⟨hspec, hnames, -⟩ := directiveOk_rdata lv hok
  have hoOk : ∀ on, st.origin = some on → TextName on := fun on h => hrel.originOk on (by rw [← hrel.origin]; exact h)
  have hstep := loopStep_recordLine st hok lv eol heol hc tailE rest hle
  have herr : (∃ e, parseRr st.origin st.previousDomain st.previousTtl (recordTokens lv r) = .error e) →
      ∃ e, loopStep st (renderLine lv eol (.record r) ++ tailE ++ rest) = some (.stop (.error e)) :=
    fun ⟨e, he⟩ => ⟨e, by rw [hstep, he]⟩
  have hentry : ∀ entry, parseRr st.origin st.previousDomain st.previousTtl (recordTokens lv r) = .ok entry →
      loopStep st (renderLine lv eol (.record r) ++ tailE ++ rest) = some (entryStep st entry rest) :=
    fun entry he => by rw [hstep, he]
  have htry : tryParseRtypeWithData st.origin (typeT lv r.rtype :: r.rdata.map (fieldTok lv)) =
      (match resolveFields dst.origin r.rdata with
       | .ok fields => some ⟨r.rtype, fields⟩
       | .error _ => none) :=
    (tryParse_resolveFields st.origin hoOk lv _ _ hspec hnames).trans (by rw [hrel.origin]; rfl)
  -- the whole line when owner and RDATA resolve
  have hrr : ∀ (hcls : r.cls = none ∨ r.cls = some clsIN) {wild name fields},
      specOwner dst r = .ok (wild, name) → resolveFields dst.origin r.rdata = .ok fields →
      parseRr st.origin st.previousDomain st.previousTtl (recordTokens lv r) =
        withTtl st.previousTtl ⟨r.rtype, fields⟩ r.ttl (mwOf (wild, name)) := by
    intro hcls wild name fields ho hr
    rw [parseRr_recordTokens _ _ _ lv hok, htry, hr]
    simp only
    rw [readPre_spec hrel hok lv hcls, ho]
  have hcase := denoteRecord_cases dst hfits
  generalize denoteRecord dst r = res at hcase
  cases hcase with
  | classNotIN c hcl hne =>
    intro hk1
    exact herr (parseRr_recordTokens_error _ _ _ lv hok fun rdat => readPre_error _ _ _ rdat
      (preFields_preTokens_class lv hcl (hclsOk c hcl) hne (fun ow ho => (ownerRefOk_chars (hownOk ow ho)).ne_IN)
        (fun hh => hk1 ⟨rfl, hh⟩)))
  | ownerError hcls e ho =>
    intro _
    exact herr (parseRr_recordTokens_error _ _ _ lv hok fun rdat => ⟨_, by rw [readPre_spec hrel hok lv hcls, ho]⟩)
  | rdataError hcls wild name ho e hr =>
    intro _
    refine herr ⟨.missingType, ?_⟩
    rw [parseRr_recordTokens _ _ _ lv hok, htry, hr]
  | wildcardSoa hcls name ho fields hr h6 soa hs =>
    intro _
    refine ⟨.wildcardSOA, ?_⟩
    rw [hentry _ ((hrr hcls ho hr).trans (by rw [h6, soaOf_fields hs, withTtl_soa])), toRr_soa]
    simp only [mwOf, if_true]
    rw [entryStep_wildcard_soa st rest _ rfl]
  | secondSoa hcls name ho fields hr h6 soa hs hsoa =>
    intro _
    refine ⟨.multipleSOA, ?_⟩
    have : st.apexAndSoa.isSome = true := by rw [hrel.soa]; exact hsoa
    rw [hentry _ ((hrr hcls ho hr).trans (by rw [h6, soaOf_fields hs, withTtl_soa])), toRr_soa]
    simp only [mwOf, Bool.false_eq_true, if_false]
    rw [entryStep_second_soa st rest _ soa (soaOfRR_toFields _ _ _) this]
  | firstSoa hcls name ho fields hr h6 soa hs hsoa =>
    rw [hentry _ ((hrr hcls ho hr).trans (by rw [h6, soaOf_fields hs, withTtl_soa])), toRr_soa]
    simp only [mwOf, Bool.false_eq_true, if_false]
    rw [entryStep_first_soa st rest (soaOfRR_toFields _ _ _) (hrel.soa.trans hsoa)]
    exact ⟨_, rfl, hrel.origin, hrel.originOk, rfl, rfl, rfl, hrel.rrs, hrel.wrrs⟩
  | noTtl hcls wild name ho fields hr h6 e ht =>
    intro _
    exact herr ⟨.missingTTL, (hrr hcls ho hr).trans (by rw [withTtl_specTtl hrel r _ fields h6, ht])⟩
  | record hcls wild name ho fields hr h6 ttl ht =>
    rw [hentry _ ((hrr hcls ho hr).trans (by rw [withTtl_specTtl hrel r _ fields h6, ht])), toRr_not_soa _ _ _ h6]
    cases wild with
    | false =>
      simp only [mwOf, Bool.false_eq_true, if_false]
      rw [entryStep_rr st rest (soaOfRR_none_of_ne h6)]
      refine ⟨_, rfl, hrel.origin, hrel.originOk, rfl, rfl, hrel.soa, ?_, hrel.wrrs⟩
      simp [hrel.rrs, frRR, afterRecord, CLASS_IN]
    | true =>
      simp only [mwOf, if_true]
      rw [entryStep_wildcardRR st rest h6]
      refine ⟨_, rfl, hrel.origin, hrel.originOk, rfl, rfl, hrel.soa, hrel.rrs, ?_⟩
      simp [hrel.wrrs, frRR, afterRecord, CLASS_IN]

end Resolved.ZoneText
