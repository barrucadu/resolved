/-
  Number and address text of the zone format (Model/IpText.lean): `u32::from_str` / `u16::from_str`,
  `Ipv4Addr::from_str`, `Ipv6Addr::from_str` read back what `format!("{n}")` / `to_string` write; the
  addresses through the print/parse lemmas of the std model (`Resolved.Ip`, Proofs/IpLemmas.lean).  In the namespace
  `Resolved.IpText` of the functions it is about.
-/
import Resolved.Proofs.IpLemmas

namespace Resolved.IpText

theorem decAux_numeral (fuel : Nat) : ∀ (n : Nat) (acc : List Char), n < fuel →
    ∃ ds, Ip.Numeral 10 fuel ds n ∧ decAux fuel n acc = ds.map digitChar ++ acc := by
  induction fuel with
  | zero => intro n acc h; omega
  | succ f ih =>
    intro n acc h
    rw [decAux]
    split
    · rename_i hn
      exact ⟨[n], .single hn (Nat.succ_pos f), rfl⟩
    · obtain ⟨ds, hds, e⟩ := ih (n / 10) (digitChar (n % 10) :: acc) (by omega)
      exact ⟨ds ++ [n % 10], hds.snoc (by omega), by rw [e, List.map_append, List.append_assoc]; rfl⟩

theorem showDec_numeral (n : Nat) : ∃ ds, Ip.Numeral 10 (n + 1) ds n ∧ showDec n = ds.map digitChar := by
  obtain ⟨ds, hds, e⟩ := decAux_numeral (n + 1) n [] (Nat.lt_succ_self n)
  exact ⟨ds, hds, e.trans (List.append_nil _)⟩

theorem decLoop_digits (ds : List Nat) (h : ∀ d ∈ ds, d < 10) :
    ∀ acc, decLoop (ds.map digitChar) acc = some (ds.foldl (fun a d => a * 10 + d) acc) := by
  induction ds with
  | nil => intro acc; rfl
  | cons d ds ih =>
    intro acc
    simp only [List.map_cons, decLoop, toDigit10_digitChar d (h d (by simp)), List.foldl_cons]
    exact ih (fun x hx => h x (by simp [hx])) _

theorem digitChar_ne_sign (d : Nat) (h : d < 10) : digitChar d ≠ '+' ∧ digitChar d ≠ '-' := by
  have hn := digitChar_toNat h
  have ne : ∀ c : Char, c.toNat < 48 → digitChar d ≠ c := fun c hc e => by rw [e] at hn; omega
  exact ⟨ne '+' (by decide), ne '-' (by decide)⟩

theorem parseUnsigned_showDec (max n : Nat) (h : n ≤ max) : parseUnsigned max (showDec n) = some n := by
  obtain ⟨ds, hds, e⟩ := showDec_numeral n
  rw [e]
  have hdec := decLoop_digits ds hds.lt 0
  rw [hds.value] at hdec
  match ds, hds.length_pos with
  | [d], _ =>
    have hs := digitChar_ne_sign d (hds.lt d (List.mem_singleton_self d))
    simp only [List.map_cons, List.map_nil, parseUnsigned, hs.1, hs.2, or_self, if_false]
    simp only [List.map_cons, List.map_nil] at hdec
    rw [hdec]
    simp [h]
  | d :: e :: es, _ =>
    have hs := digitChar_ne_sign d (hds.lt d (List.mem_cons_self ..))
    simp only [List.map_cons, parseUnsigned, hs.1, if_false]
    simp only [List.map_cons] at hdec
    rw [hdec]
    simp [h]

theorem parseU32_showDec (n : Nat) (h : n < 4294967296) : parseU32 (showDec n) = some n :=
  parseUnsigned_showDec _ n (by omega)

theorem parseU16_showDec (n : Nat) (h : n < 65536) : parseU16 (showDec n) = some n :=
  parseUnsigned_showDec _ n (by omega)

theorem showDec_digits (n : Nat) : showDec n ≠ [] ∧ ∀ c ∈ showDec n, isAsciiDigit c = true := by
  obtain ⟨ds, hds, e⟩ := showDec_numeral n
  rw [e]
  refine ⟨fun h => ?_, fun c hc => ?_⟩
  · have := hds.length_pos
    rw [← List.length_map (f := digitChar), h] at this
    cases this
  · obtain ⟨d, hd, rfl⟩ := List.mem_map.mp hc
    have hd := hds.lt d hd
    simp only [isAsciiDigit, digitChar_toNat hd, Bool.and_eq_true, decide_eq_true_eq]
    omega

theorem showDec_ascii (n : Nat) : ∀ c ∈ showDec n, c.toNat < 128 := by
  intro c hc
  have := (showDec_digits n).2 c hc
  simp only [isAsciiDigit, Bool.and_eq_true, decide_eq_true_eq] at this
  omega

theorem addrBytes_ascii {bs : List UInt8} (h : ∀ b ∈ bs, Ip.isAddrByte b = true) :
    ∀ c ∈ bytesAsChars bs, c.toNat < 128 := by
  intro c hc
  obtain ⟨b, hb, rfl⟩ := List.mem_map.mp hc
  rw [toNat_ofNat_byte b]
  exact Ip.isAddrByte_lt (h b hb)

theorem ipv6FromStr_addrBytes {bs : List UInt8} (h : ∀ b ∈ bs, Ip.isAddrByte b = true) {gs : List Nat}
    (hr : Ip.readIpv6Addr bs = some (gs, [])) : ipv6FromStr (bytesAsChars bs) = some gs := by
  unfold ipv6FromStr
  rw [utf8Encode_bytesAsChars _ (fun b hb => Ip.isAddrByte_lt (h b hb)), hr]

theorem ipv4FromStr_showIpv4 (a : Nat) (ha : a < 4294967296) : ipv4FromStr (showIpv4 a) = some a := by
  unfold ipv4FromStr showIpv4
  simp only
  rw [utf8Encode_bytesAsChars _ (fun b hb => Ip.isAddrByte_lt ((showIpv4_bytes a).1 b hb))]
  rw [if_neg (Nat.not_lt.mpr (Ip.showIpv4_length_le a)), Ip.readIpv4Addr_showIpv4 ha]

theorem ipv6FromStr_showIpv6 (gs : List Nat) (hl : gs.length = 8) (hg : ∀ g ∈ gs, g < 65536) :
    ipv6FromStr (showIpv6 gs) = some gs :=
  ipv6FromStr_addrBytes (showIpv6_bytes gs hg hl).1 (Ip.readIpv6Addr_showIpv6 hl hg)

theorem parseUnsigned_le {max : Nat} {s : List Char} {v : Nat} (h : parseUnsigned max s = some v) :
    v ≤ max := by
  -- both non-empty shapes end in the same range check
  have hcheck : ∀ r : Option Nat, (match r with
      | some v => if v ≤ max then some v else none
      | none => none) = some v → v ≤ max := by
    intro r hr
    split at hr
    · exact of_ite_eq hr (fun hle hr => by cases hr; exact hle) (fun _ hr => by cases hr)
    · cases hr
  unfold parseUnsigned at h
  split at h
  · cases h
  · exact of_ite_eq h (fun _ h => by cases h) (fun _ h => hcheck _ h)
  · exact hcheck _ h

theorem parseU32_lt {s : List Char} {v : Nat} (h : parseU32 s = some v) : v < 4294967296 := by
  have := parseUnsigned_le h; omega

theorem parseU16_lt {s : List Char} {v : Nat} (h : parseU16 s = some v) : v < 65536 := by
  have := parseUnsigned_le h; omega

theorem ipv4FromStr_lt {s : List Char} {a : Nat} (h : ipv4FromStr s = some a) : a < 4294967296 := by
  unfold ipv4FromStr at h
  simp only at h
  split at h
  · cases h
  · split at h
    · rename_i a' hr
      cases h
      exact Ip.readIpv4Addr_lt hr
    · cases h

theorem ipv6FromStr_wf {s : List Char} {gs : List Nat} (h : ipv6FromStr s = some gs) :
    gs.length = 8 ∧ ∀ g ∈ gs, g < 65536 := by
  unfold ipv6FromStr at h
  split at h
  · rename_i gs' hr
    cases h
    exact Ip.readIpv6Addr_wf hr
  · cases h

end Resolved.IpText
