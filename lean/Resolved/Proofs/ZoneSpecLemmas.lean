/-
  Lemmas about the flat specification `ZSpec` (no tree involved): record and entry lists,
  `sameResult`, suffix lists, delegation point, consequences of hypothesis D1, closest encloser, and
  `lookup` with its `exact` branch under a name (`specExact`, `lookup_eq`).
-/
import Resolved.Spec.ZoneSpec

namespace Resolved

open ZSpec

theorem mem_ofType {zrs : List ZoneRecord} {k : Nat} {zr : ZoneRecord} :
    zr ∈ ofType zrs k ↔ zr ∈ zrs ∧ zr.rtype = k := by
  simp [ofType]

theorem ofType_filter_ne (zrs : List ZoneRecord) (k k' : Nat) :
    ofType (zrs.filter (fun z => z.rtype != k)) k' = if k' = k then [] else ofType zrs k' := by
  unfold ofType
  rw [List.filter_filter]
  split
  · rename_i h; subst h
    rw [List.filter_eq_nil_iff]
    intro a _; simp
  · rename_i h
    apply List.filter_congr
    intro a _
    by_cases ha : a.rtype = k' <;> simp [ha, h]

theorem recordsAt_nil (rel : List Label) (wild : Bool) : recordsAt [] rel wild = [] := rfl

theorem existsNode_append (es1 es2 : List Entry) (rel : List Label) :
    existsNode (es1 ++ es2) rel = (existsNode es1 rel || existsNode es2 rel) := by
  unfold existsNode
  cases rel <;> simp

theorem existsNode_snoc (es : List Entry) (e : Entry) (rel : List Label) :
    existsNode (es ++ [e]) rel = (existsNode es rel || isSuffix rel e.rel) := by
  rw [existsNode_append]
  cases rel with
  | nil => rfl
  | cons _ _ => simp only [existsNode, List.isEmpty_cons, Bool.false_or, List.any_cons, List.any_nil, Bool.or_false]

theorem mem_recordsAt {es : List Entry} {rel : List Label} {wild : Bool} {zr : ZoneRecord} :
    zr ∈ recordsAt es rel wild ↔ ∃ e ∈ es, e.rel = rel ∧ e.wild = wild ∧ e.zr = zr := by
  unfold recordsAt
  simp only [List.mem_eraseDups, List.mem_map, List.mem_filter, Bool.and_eq_true, beq_iff_eq]
  constructor
  · rintro ⟨e, ⟨he, h1, h2⟩, h3⟩; exact ⟨e, he, h1, h2, h3⟩
  · rintro ⟨e, he, h1, h2, h3⟩; exact ⟨e, ⟨he, h1, h2⟩, h3⟩

theorem existsNode_iff {es : List Entry} {rel : List Label} :
    existsNode es rel = true ↔ rel = [] ∨ ∃ e ∈ es, rel <:+ e.rel := by
  simp [existsNode, isSuffix]

theorem existsNode_of_entry {es : List Entry} {e : Entry} (he : e ∈ es) : existsNode es e.rel = true :=
  existsNode_iff.mpr (Or.inr ⟨e, he, List.suffix_refl _⟩)

theorem existsNode_of_ofType_ne_nil {es : List Entry} {rel : List Label} {wild : Bool} {k : Nat}
    (h : ofType (recordsAt es rel wild) k ≠ []) : existsNode es rel = true := by
  obtain ⟨zr, hzr⟩ := List.exists_mem_of_ne_nil _ h
  obtain ⟨e, he, herel, _⟩ := mem_recordsAt.mp (List.mem_filter.mp hzr).1
  exact herel ▸ existsNode_of_entry he

theorem existsNode_suffix {es : List Entry} (s d : List Label) (h : existsNode es (s ++ d) = true) :
    existsNode es d = true := by
  rw [existsNode_iff] at h ⊢
  rcases h with h | ⟨e, he, hs⟩
  · left; simp only [List.append_eq_nil_iff] at h; exact h.2
  · right; exact ⟨e, he, (List.suffix_append s d).trans hs⟩

theorem sameResult_refl (a : ZoneResult) : sameResult a a = true := by
  cases a <;> simp [sameResult]

theorem sameResult_of_eq {a b : ZoneResult} (h : a = b) : sameResult a b = true := by
  subst h; exact sameResult_refl a

theorem eq_of_sameResult {a b : ZoneResult} (h : sameResult a b = true) (hb : ∀ x, b ≠ .answer x) :
    a = b := by
  unfold sameResult at h
  split at h
  · exact absurd rfl (hb _)
  · exact eq_of_beq h

theorem sameResult_answer_of_perm {x y : List RR} (h : x.Perm y) :
    sameResult (.answer x) (.answer y) = true := by
  simp only [sameResult, Bool.and_eq_true, beq_iff_eq, List.all_eq_true, List.contains_iff_mem]
  exact ⟨⟨h.length_eq, fun a ha => h.mem_iff.mp ha⟩, fun a ha => h.mem_iff.mpr ha⟩

/-! From here on in `ZSpec`: facts about definitions used nowhere but in the specification.  The
lemmas above are in `Resolved`, as files that do not open `ZSpec` use them. -/

namespace ZSpec

theorem mem_properSuffixes (rel d : List Label) :
    d ∈ properSuffixes rel ↔ d ≠ [] ∧ d <:+ rel := by
  unfold properSuffixes
  simp only [List.mem_map, List.mem_range]
  constructor
  · rintro ⟨i, hi, rfl⟩
    refine ⟨?_, List.drop_suffix _ _⟩
    intro h
    have := congrArg List.length h
    simp only [List.length_drop, List.length_nil] at this
    omega
  · rintro ⟨hne, t, rfl⟩
    have hl : 0 < d.length := List.length_pos_iff.mpr hne
    refine ⟨d.length - 1, by simp only [List.length_append]; omega, ?_⟩
    have : (t ++ d).length - 1 - (d.length - 1) = t.length := by
      simp only [List.length_append]; omega
    rw [this]; simp

theorem delegationPoint_some {es : List Entry} {rel d : List Label}
    (h : delegationPoint es rel = some d) :
    d ≠ [] ∧ d <:+ rel ∧ ofType (recordsAt es d false) RT_NS ≠ [] := by
  unfold delegationPoint at h
  have hm := List.mem_of_find?_eq_some h
  have hp := List.find?_some h
  obtain ⟨h1, h2⟩ := (mem_properSuffixes rel d).mp hm
  refine ⟨h1, h2, ?_⟩
  simpa using hp

theorem delegationPoint_none {es : List Entry} {rel : List Label}
    (h : delegationPoint es rel = none) :
    ∀ d, d ≠ [] → d <:+ rel → ofType (recordsAt es d false) RT_NS = [] := by
  unfold delegationPoint at h
  rw [List.find?_eq_none] at h
  intro d h1 h2
  have := h d ((mem_properSuffixes rel d).mpr ⟨h1, h2⟩)
  simpa using this

theorem d1_no_ns_above {es : List Entry} (h : d1 es = true) (e : Entry) (he : e ∈ es) (d : List Label)
    (hne : d ≠ []) (hs : d <:+ e.rel) (hb : d.length < e.rel.length ∨ e.wild = true) :
    ofType (recordsAt es d false) RT_NS = [] := by
  unfold d1 at h
  rw [List.all_eq_true] at h
  have h1 := h e he
  rw [List.all_eq_true] at h1
  have h2 := h1 d ((mem_properSuffixes e.rel d).mpr ⟨hne, hs⟩)
  simp only [Bool.not_eq_true', Bool.and_eq_false_iff, Bool.or_eq_false_iff, decide_eq_false_iff_not,
    Bool.not_eq_false', List.isEmpty_iff] at h2
  rcases h2 with h2 | h2
  · exfalso
    rcases hb with hb | hb
    · exact h2.1 hb
    · rw [hb] at h2; exact absurd h2.2 (by simp)
  · exact h2

theorem d1_no_child {es : List Entry} (h : d1 es = true) (d : List Label) (hne : d ≠ [])
    (hns : ofType (recordsAt es d false) RT_NS ≠ []) (l : Label) :
    existsNode es (l :: d) = false := by
  rw [Bool.eq_false_iff]
  intro hex
  rw [existsNode_iff] at hex
  rcases hex with hex | ⟨e, he, hs⟩
  · cases hex
  · apply hns
    apply d1_no_ns_above h e he d hne ((List.suffix_cons l d).trans hs)
    left
    have := hs.length_le
    simp only [List.length_cons] at this
    omega

theorem d1_no_wild {es : List Entry} (h : d1 es = true) (d : List Label) (hne : d ≠ [])
    (hns : ofType (recordsAt es d false) RT_NS ≠ []) : recordsAt es d true = [] := by
  cases hw : recordsAt es d true with
  | nil => rfl
  | cons z zs =>
    exfalso
    obtain ⟨e, he, h1, h2, _⟩ := mem_recordsAt.mp (hw ▸ List.mem_cons_self : z ∈ recordsAt es d true)
    apply hns
    exact d1_no_ns_above h e he d hne (by rw [h1]; exact List.suffix_refl _) (Or.inr h2)

/-- the `let cands` of `closestEncloser` under a name, so that `closestEncloser_eq_find` holds by `rfl`. -/
def candsOf (rel : List Label) : List (List Label × Option Label) :=
  (List.range rel.length).map (fun i => (rel.drop (i + 1), rel[i]?))

theorem candsOf_cons (x : Label) (rel : List Label) :
    candsOf (x :: rel) = (rel, some x) :: candsOf rel := by
  unfold candsOf
  simp only [List.length_cons, List.range_succ_eq_map, List.map_cons, List.map_map]
  simp only [Nat.zero_add, List.drop_succ_cons, List.drop_zero, List.getElem?_cons_zero, List.cons.injEq,
    true_and]
  apply List.map_congr_left
  intro i _
  simp

theorem closestEncloser_eq_find (es : List Entry) (rel : List Label) :
    closestEncloser es rel =
      match (candsOf rel).find? (fun c => existsNode es c.1) with
      | some c => c
      | none => ([], rel.getLast?) := rfl

theorem closestEncloser_eq (es : List Entry) (pre : List Label) (l : Label) (c : List Label)
    (hc : existsNode es c = true) (hl : existsNode es (l :: c) = false) :
    closestEncloser es (pre ++ l :: c) = (c, some l) := by
  rw [closestEncloser_eq_find]
  have : (candsOf (pre ++ l :: c)).find? (fun c => existsNode es c.1) = some (c, some l) := by
    induction pre with
    | nil => simp [candsOf_cons, hc]
    | cons x pre' ih =>
      simp only [List.cons_append, candsOf_cons, List.find?_cons]
      have : existsNode es (pre' ++ l :: c) = false := by
        rw [Bool.eq_false_iff]; intro hh
        have := existsNode_suffix pre' (l :: c) hh
        rw [hl] at this; cases this
      simp only [this]
      exact ih
  rw [this]

/-- the `exact` branch of `lookup`, with the `canDelegate := false` both its calls pass. -/
def specExact (es : List Entry) (apex qname : Name) (rel : List Label) (qtype : Nat) : ZoneResult :=
  if existsNode es rel then
    classify (recordsAt es rel false) qname qtype (absName rel apex) false
  else
    let (c, next) := closestEncloser es rel
    let ws := recordsAt es c true
    if ws.isEmpty then .nameError
    else
      match next with
      | some l => classify ws qname qtype (absName (l :: c) apex) true
      | none => .panic

theorem lookup_eq (es : List Entry) (apex qname : Name) (rel : List Label) (qtype : Nat) :
    lookup es apex qname rel qtype =
      match delegationPoint es rel with
      | some d =>
        if d == rel && qtype == RT_NS then specExact es apex qname rel qtype
        else
          match absName d apex with
          | some o => .delegation ((ofType (recordsAt es d false) RT_NS).map (·.toRR o))
          | none => .panic
      | none => specExact es apex qname rel qtype := rfl

end ZSpec

end Resolved
