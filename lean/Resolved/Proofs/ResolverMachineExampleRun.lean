/-
  The run of the example universe against an upstream that answers, evaluated once for the examples of
  Props/C08 (result and clock, `.1`) and Props/C18 (log, `.2`).
-/
import Resolved.Proofs.ResolverMachineExample

namespace Resolved

open Gen

theorem exCfg_run : ((resolveRecursive exCfg exCtx exQ).2 = .ok (.nonAuthoritative [exAnswer] none) ∧
      (resolveRecursive exCfg exCtx exQ).1.run.elapsedMs = 20) ∧
    (resolveRecursive exCfg exCtx exQ).1.run.log =
      [{ addr := .a 16909060, port := 53, tcp := false, question := exQ, recursionDesired := false }] := by
  decide +kernel

end Resolved
