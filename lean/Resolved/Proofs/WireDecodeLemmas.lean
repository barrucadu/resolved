/-
  The wire decoder model (`Resolved/Model/Wire.lean`) against the declarative grammar (`Resolved/Spec/Wire.lean`):
  the name loop is sound, complete and the grammar deterministic; the buffer readers; every error carries the
  header ID; inversion of successful field, record, question, section and message decodes; the header octets of a
  decoded message; what is decoded is well formed (`WfMsg`).  Of the generated constants it uses
  `LABEL_MAX_LEN = 63`, `DOMAINNAME_MAX_LEN = 255` and that the two RDATA layout tables are one (`rdataLayouts_eq`).
-/
import Resolved.Spec.Wire
namespace Resolved
open Gen

/-! ## The name loop -/

theorem finishName_ok {id : Nat} {labels : List Label} {len pos : Nat} {n : Name} {e : Nat}
    (h : finishName id labels len pos = .ok (n, e)) :
    n = ⟨labels, len⟩ ∧ e = pos ∧ len ≤ 255 := by
  unfold finishName at h
  split at h
  · rename_i hle; rw [DOMAINNAME_MAX_LEN_eq] at hle; cases h; exact ⟨rfl, rfl, hle⟩
  · cases h

theorem finishName_err {id : Nat} {labels : List Label} {len pos : Nat} {e : DErr}
    (h : finishName id labels len pos = .error e) : e = .domainTooLong id ∧ 255 < len := by
  unfold finishName at h
  split at h
  · cases h
  · rename_i hle; rw [DOMAINNAME_MAX_LEN_eq] at hle; cases h; exact ⟨rfl, by omega⟩

theorem finishName_of_le {id : Nat} {labels : List Label} {len pos : Nat} (h : len ≤ 255) :
    finishName id labels len pos = .ok (⟨labels, len⟩, pos) := by
  unfold finishName; rw [DOMAINNAME_MAX_LEN_eq, if_pos h]

theorem decodeNameLoop_err_id (id : Nat) (buf : List UInt8) (start pos len : Nat) (labels : List Label) :
    ∀ e, decodeNameLoop id buf start pos len labels = .error e → e.id = some id := by
  fun_induction decodeNameLoop id buf start pos len labels <;> intro e h
  -- exits through `finishName`: root octet (1), over-long label (2), pointer (7); recursive calls: next label (3),
  -- failed pointer target (6); the rest are immediate errors
  case case1 => rw [(finishName_err h).1]; rfl
  case case2 => rw [(finishName_err h).1]; rfl
  case case7 => rw [(finishName_err h).1]; rfl
  case case3 ih => exact ih e h
  case case6 ih => cases h; exact ih _ (by assumption)
  all_goals (cases h; rfl)

theorem decodeName_err_id {id : Nat} {buf : List UInt8} {pos : Nat} {e : DErr}
    (h : decodeName id buf pos = .error e) : e.id = some id :=
  decodeNameLoop_err_id id buf pos pos 0 [] e h

theorem decodeNameLoop_sound (id : Nat) (buf : List UInt8) (start pos len : Nat) (labels : List Label) :
    ∀ n e, decodeNameLoop id buf start pos len labels = .ok (n, e) →
      ∃ ls l, WireName buf start pos ls l e ∧ n.labels = labels ++ ls ∧ n.len = len + l ∧ n.len ≤ 255 := by
  fun_induction decodeNameLoop id buf start pos len labels <;> intro n e h
  -- root octet (1), label taking the length over 255 (2, `finishName` fails), label (3), pointer (7); the rest are errors
  case case1 hlt size pos1 hsz len1 hz =>
    obtain ⟨rfl, rfl, hle⟩ := finishName_ok h
    refine ⟨[[]], 1, WireName.root ?_, rfl, rfl, hle⟩
    rw [List.getElem?_eq_getElem hlt]
    congr 1
    exact UInt8.toNat_inj.mp hz
  case case2 os len2 labels2 pos2 hgt =>
    exact absurd (finishName_ok h).2.2 (Nat.not_le_of_gt (DOMAINNAME_MAX_LEN_eq ▸ hgt))
  case case3 hlt size pos1 hsz len1 hnz hfit os len2 labels2 pos2 hle ih =>
    obtain ⟨ls, l, hw, hl, hn, hb⟩ := ih n e h
    refine ⟨_ :: ls, _, WireName.label (List.getElem?_eq_getElem hlt) (Nat.pos_of_ne_zero hnz) (LABEL_MAX_LEN_eq ▸ hsz) hfit hw,
      ?_, ?_, hb⟩
    · rw [hl]; simp only [labels2, os, size, pos1, List.append_assoc, List.cons_append, List.nil_append]
    · rw [hn]; omega
  case case7 hlt size pos1 hnsz hge hlt2 hi lo ptr hptr other snd hrec ih =>
    obtain ⟨ls, l, hw, hl, hn, hb⟩ := ih other snd hrec
    obtain ⟨rfl, rfl, hle⟩ := finishName_ok h
    refine ⟨ls, l, WireName.ptr (List.getElem?_eq_getElem hlt) hge (List.getElem?_eq_getElem hlt2)
      (Nat.lt_of_not_ge hptr) hw, ?_, ?_, hle⟩
    · rw [hl, List.nil_append]
    · rw [hn, Nat.zero_add]
  all_goals cases h

/-! ## The grammar `WireName`, and what `decodeName` returns -/

theorem WireName.bounds {buf : List UInt8} {s p : Nat} {ls : List Label} {l e : Nat}
    (h : WireName buf s p ls l e) : p < e ∧ e ≤ buf.length := by
  induction h with
  | root h0 =>
    have := (List.getElem?_eq_some_iff.mp h0).1
    omega
  | label hsz h1 h63 hfit _ ih => omega
  | ptr hb h192 hlo hlt _ _ =>
    have := (List.getElem?_eq_some_iff.mp hlo).1
    omega

theorem WireName.wf {buf : List UInt8} {s p : Nat} {ls : List Label} {l e : Nat}
    (h : WireName buf s p ls l e) :
    LabelsShape ls ∧ (∀ x ∈ ls, LabelOK x) ∧ l = ls.length + sumLen ls := by
  induction h with
  | root h0 => decide
  | @label start pos sz rest rlen e hsz h1 h63 hfit _ ih =>
    obtain ⟨hshape, hok, hlen⟩ := ih
    have hlenx : ((buf.drop (pos + 1)).take sz.toNat).length = sz.toNat := by
      rw [List.length_take, List.length_drop]; omega
    refine ⟨LabelsShape.cons ?_ hshape, ?_, ?_⟩
    · intro h0
      have := congrArg List.length h0
      rw [List.length_map, hlenx] at this
      exact absurd this (Nat.ne_of_gt h1)
    · intro x hx
      rcases List.mem_cons.mp hx with rfl | hx
      · exact labelOK_map_lowerByte (hlenx.symm ▸ h63)
      · exact hok x hx
    · rw [sumLen_cons, List.length_map, hlenx, List.length_cons, hlen]; omega
  | ptr _ _ _ _ _ ih => exact ih

theorem WireName.depth {buf : List UInt8} {s p : Nat} {ls : List Label} {l e : Nat}
    (h : WireName buf s p ls l e) : ∃ d, WireNameDepth buf s p d := by
  induction h with
  | root h0 => exact ⟨0, .root h0⟩
  | label hsz h1 h63 _ _ ih => obtain ⟨d, hd⟩ := ih; exact ⟨d, .label hsz h1 h63 hd⟩
  | ptr hb h192 hlo hlt _ ih => obtain ⟨d, hd⟩ := ih; exact ⟨d + 1, .ptr hb h192 hlo hlt hd⟩

theorem decodeName_sound {id : Nat} {buf : List UInt8} {pos : Nat} {n : Name} {e : Nat}
    (h : decodeName id buf pos = .ok (n, e)) :
    WireName buf pos pos n.labels n.len e ∧ n.len ≤ 255 := by
  obtain ⟨ls, l, hw, hl, hn, hb⟩ := decodeNameLoop_sound id buf pos pos 0 [] n e h
  rw [List.nil_append] at hl
  rw [Nat.zero_add] at hn
  rw [hl, hn]
  exact ⟨hw, hn ▸ hb⟩

theorem decodeName_wf {id : Nat} {buf : List UInt8} {pos : Nat} {n : Name} {e : Nat}
    (h : decodeName id buf pos = .ok (n, e)) : NameWF n := by
  obtain ⟨hw, hle⟩ := decodeName_sound h
  obtain ⟨h1, h2, h3⟩ := hw.wf
  exact ⟨h1, h2, h3, DOMAINNAME_MAX_LEN_eq ▸ hle⟩

theorem decodeName_bounds {id : Nat} {buf : List UInt8} {pos : Nat} {n : Name} {e : Nat}
    (h : decodeName id buf pos = .ok (n, e)) : pos < e ∧ e ≤ buf.length :=
  (decodeName_sound h).1.bounds

/-! ## Completeness of the name decoder and determinism of the grammar -/

/-! ### One step of the name loop; the hypotheses are those of the three `WireName` constructors -/

theorem decodeNameLoop_root (id : Nat) {buf : List UInt8} (start : Nat) {pos : Nat} (len : Nat)
    (labels : List Label) (h0 : buf[pos]? = some 0) :
    decodeNameLoop id buf start pos len labels = finishName id (labels ++ [[]]) (len + 1) (pos + 1) := by
  obtain ⟨hlt, hv⟩ := List.getElem?_eq_some_iff.mp h0
  have h00 : (0 : UInt8).toNat = 0 := rfl
  rw [decodeNameLoop, dif_pos hlt]
  simp only [hv]
  rw [if_pos (show (0 : UInt8).toNat ≤ LABEL_MAX_LEN from Nat.zero_le _), if_pos h00]

theorem decodeNameLoop_label (id : Nat) {buf : List UInt8} (start : Nat) {pos : Nat} (len : Nat)
    (labels : List Label) {sz : UInt8} (hsz : buf[pos]? = some sz) (h1 : 1 ≤ sz.toNat)
    (h63 : sz.toNat ≤ 63) (hfit : pos + 1 + sz.toNat ≤ buf.length) (hle : len + 1 + sz.toNat ≤ 255) :
    decodeNameLoop id buf start pos len labels =
      decodeNameLoop id buf start (pos + 1 + sz.toNat) (len + 1 + sz.toNat)
        (labels ++ [((buf.drop (pos + 1)).take sz.toNat).map lowerByte]) := by
  obtain ⟨hlt, hv⟩ := List.getElem?_eq_some_iff.mp hsz
  rw [decodeNameLoop, dif_pos hlt]
  simp only [hv]
  rw [if_pos (LABEL_MAX_LEN_eq ▸ h63), if_neg (Nat.ne_of_gt h1), if_pos hfit, if_neg (DOMAINNAME_MAX_LEN_eq ▸ Nat.not_lt.mpr hle)]

theorem decodeNameLoop_ptr (id : Nat) {buf : List UInt8} {start pos : Nat} (len : Nat)
    (labels : List Label) {b lo : UInt8} (hb : buf[pos]? = some b) (h192 : 192 ≤ b.toNat)
    (hlo : buf[pos + 1]? = some lo) (hlt : (b.toNat % 64) * 256 + lo.toNat < start) :
    decodeNameLoop id buf start pos len labels =
      match decodeNameLoop id buf ((b.toNat % 64) * 256 + lo.toNat) ((b.toNat % 64) * 256 + lo.toNat) 0 [] with
      | .error e => .error e
      | .ok (other, _) => finishName id (labels ++ other.labels) (len + other.len) (pos + 2) := by
  obtain ⟨hp, hv⟩ := List.getElem?_eq_some_iff.mp hb
  obtain ⟨hp2, hv2⟩ := List.getElem?_eq_some_iff.mp hlo
  rw [decodeNameLoop, dif_pos hp]
  simp only [hv]
  rw [if_neg (by rw [LABEL_MAX_LEN_eq]; omega), if_pos h192, dif_pos hp2]
  simp only [hv2]
  rw [dif_neg (Nat.not_le_of_gt hlt)]
  rfl

theorem decodeNameLoop_complete (id : Nat) {buf : List UInt8} {s p : Nat} {ls : List Label} {l e : Nat}
    (h : WireName buf s p ls l e) :
    ∀ len labels, len + l ≤ 255 →
      decodeNameLoop id buf s p len labels = .ok (⟨labels ++ ls, len + l⟩, e) := by
  induction h with
  | root h0 =>
    intro len labels hle
    rw [decodeNameLoop_root id _ len labels h0, finishName_of_le hle]
  | @label start pos sz rest rlen e hsz h1 h63 hfit _ ih =>
    intro len labels hle
    rw [decodeNameLoop_label id start len labels hsz h1 h63 hfit (by omega), ih _ _ (by omega),
      List.append_assoc, Nat.add_assoc len 1, Nat.add_assoc len]
    rfl
  | ptr hb h192 hlo hlt _ ih =>
    intro len labels hle
    rw [decodeNameLoop_ptr id len labels hb h192 hlo hlt, ih 0 [] (by omega)]
    simp only [List.nil_append, Nat.zero_add]
    exact finishName_of_le hle

theorem decodeNameLoop_of_wireName (id : Nat) {buf : List UInt8} {s p e : Nat} {n : Name}
    (h : WireName buf s p n.labels n.len e) (hle : n.len ≤ 255) :
    decodeNameLoop id buf s p 0 [] = .ok (n, e) := by
  have := decodeNameLoop_complete id h 0 [] (by omega)
  rwa [List.nil_append, Nat.zero_add] at this

theorem WireName.functional {buf : List UInt8} {s p : Nat} {ls : List Label} {l e : Nat}
    (h : WireName buf s p ls l e) :
    ∀ {ls' l' e'}, WireName buf s p ls' l' e' → ls = ls' ∧ l = l' ∧ e = e' := by
  induction h with
  | @root start pos h0 =>
    intro ls' l' e' h'
    cases h' with
    | root _ => exact ⟨rfl, rfl, rfl⟩
    | label hsz h1 _ _ _ =>
      rw [h0] at hsz; cases hsz
      exact absurd h1 (by decide)
    | ptr hb h192 _ _ _ =>
      rw [h0] at hb; cases hb
      exact absurd h192 (by decide)
  | @label start pos sz rest rlen e hsz h1 h63 hfit _ ih =>
    intro ls' l' e' h'
    cases h' with
    | root h0 =>
      rw [h0] at hsz; cases hsz
      exact absurd h1 (by decide)
    | label hsz' _ _ _ hrest =>
      rw [hsz] at hsz'; cases hsz'
      obtain ⟨rfl, rfl, rfl⟩ := ih hrest
      exact ⟨rfl, rfl, rfl⟩
    | ptr hb h192 _ _ _ =>
      rw [hsz] at hb; cases hb
      omega
  | @ptr start pos b lo rest rlen e hb h192 hlo hlt _ ih =>
    intro ls' l' e' h'
    cases h' with
    | root h0 =>
      rw [h0] at hb; cases hb
      exact absurd h192 (by decide)
    | label hsz' _ h63 _ _ =>
      rw [hsz'] at hb; cases hb
      omega
    | ptr hb' _ hlo' _ hrest =>
      rw [hb] at hb'; cases hb'
      rw [hlo] at hlo'; cases hlo'
      obtain ⟨rfl, rfl, _⟩ := ih hrest
      exact ⟨rfl, rfl, rfl⟩

/-! ## ConsumableBuffer readers, `orRRShort`, `Except.map` -/

theorem nextU8_some {buf : List UInt8} {pos v p' : Nat} (h : nextU8 buf pos = some (v, p')) :
    ∃ hlt : pos < buf.length, v = (buf[pos]'hlt).toNat ∧ p' = pos + 1 := by
  unfold nextU8 at h
  split at h
  · rename_i hlt; cases h; exact ⟨hlt, rfl, rfl⟩
  · cases h

theorem nextU16_some {buf : List UInt8} {pos v p' : Nat} (h : nextU16 buf pos = some (v, p')) :
    ∃ hlt : pos + 1 < buf.length,
      v = (buf[pos]'(by omega)).toNat * 256 + (buf[pos + 1]'hlt).toNat ∧ p' = pos + 2 := by
  unfold nextU16 at h
  split at h
  · rename_i hlt; cases h; exact ⟨hlt, rfl, rfl⟩
  · cases h

theorem nextU16_none {buf : List UInt8} {pos : Nat} (h : nextU16 buf pos = none) :
    buf.length ≤ pos + 1 := by
  unfold nextU16 at h
  split at h
  · cases h
  · omega

theorem nextU32_some {buf : List UInt8} {pos v p' : Nat} (h : nextU32 buf pos = some (v, p')) :
    pos + 4 ≤ buf.length ∧ p' = pos + 4 := by
  unfold nextU32 at h
  split at h
  · rename_i hlt; cases h; exact ⟨by omega, rfl⟩
  · cases h

theorem takeN_some {buf : List UInt8} {pos size : Nat} {bs : List UInt8} {p' : Nat}
    (h : takeN buf pos size = some (bs, p')) :
    pos + size ≤ buf.length ∧ p' = pos + size ∧ bs = (buf.drop pos).take size := by
  unfold takeN at h
  split at h
  · rename_i hle; cases h; exact ⟨hle, rfl, rfl⟩
  · cases h

theorem nextU8_lt {buf : List UInt8} {pos v p' : Nat} (h : nextU8 buf pos = some (v, p')) :
    v < 256 := by
  obtain ⟨_, rfl, _⟩ := nextU8_some h
  exact UInt8.toNat_lt _

theorem nextU16_lt {buf : List UInt8} {pos v p' : Nat} (h : nextU16 buf pos = some (v, p')) :
    v < 65536 := by
  obtain ⟨hl, rfl, _⟩ := nextU16_some h
  have h0 := (buf[pos]'(by omega)).toNat_lt
  have h1 := (buf[pos + 1]'hl).toNat_lt
  omega

theorem nextU32_lt {buf : List UInt8} {pos v p' : Nat} (h : nextU32 buf pos = some (v, p')) :
    v < 4294967296 := by
  unfold nextU32 at h
  split at h
  · rename_i hl
    cases h
    have h0 := (buf[pos]'(by omega)).toNat_lt
    have h1 := (buf[pos + 1]'(by omega)).toNat_lt
    have h2 := (buf[pos + 2]'(by omega)).toNat_lt
    have h3 := (buf[pos + 3]'hl).toNat_lt
    omega
  · cases h

theorem orRRShort_err {α : Type} {id : Nat} {o : Option α} {e : DErr}
    (h : orRRShort id o = .error e) : e = .resourceRecordTooShort id := by
  cases o with
  | none => cases h; rfl
  | some x => cases h

theorem orRRShort_ok {α : Type} {id : Nat} {o : Option α} {x : α}
    (h : orRRShort id o = .ok x) : o = some x := by
  cases o with
  | none => cases h
  | some y => cases h; rfl

theorem Except.map_error {ε α β : Type} {f : α → β} {x : Except ε α} {e : ε}
    (h : x.map f = .error e) : x = .error e := by
  cases x with
  | error e' => cases h; rfl
  | ok a => cases h

theorem Except.map_ok {ε α β : Type} {f : α → β} {x : Except ε α} {b : β}
    (h : x.map f = .ok b) : ∃ a, x = .ok a ∧ b = f a := by
  cases x with
  | error e' => cases h
  | ok a => cases h; exact ⟨a, rfl, rfl⟩

/-! ## Errors carry the header ID they were given -/

theorem decodeMany_err_id {α : Type} {id : Nat} {dec : Nat → Except DErr (α × Nat)}
    (hdec : ∀ pos e, dec pos = .error e → e.id = some id) (k : Nat) :
    ∀ {pos : Nat} {e : DErr}, decodeMany dec k pos = .error e → e.id = some id := by
  intro pos
  fun_induction decodeMany dec k pos with
  | case1 | case4 => exact fun h => nomatch h
  | case2 _ _ _ hd => exact fun h => by cases h; exact hdec _ _ hd
  | case3 _ _ _ _ _ _ hrec ih => exact fun h => by cases h; exact ih hrec

theorem decodeGroups_eq_decodeMany (id : Nat) (buf : List UInt8) (k : Nat) :
    ∀ pos, decodeGroups id buf k pos = decodeMany (fun p => orRRShort id (nextU16 buf p)) k pos := by
  induction k with
  | zero => exact fun _ => rfl
  | succ k ih =>
    intro pos
    rw [decodeGroups, decodeMany]
    cases nextU16 buf pos with
    | none => rfl
    | some r =>
      simp only [orRRShort, ih]
      -- the two `match`es on the rest of the loop are different matchers with the same arms
      cases decodeMany _ k r.2 <;> rfl

theorem decodeGroups_err_id {id : Nat} {buf : List UInt8} (k : Nat) {pos : Nat} {e : DErr}
    (h : decodeGroups id buf k pos = .error e) : e.id = some id :=
  decodeMany_err_id (fun _ _ he => orRRShort_err he ▸ rfl) k (decodeGroups_eq_decodeMany id buf k pos ▸ h)

theorem decodeField_err_id {id : Nat} {buf : List UInt8} {rdlength : Nat} {f : Field} {pos : Nat}
    {e : DErr} (h : decodeField id buf rdlength f pos = .error e) : e.id = some id := by
  cases f with
  | u16 => rw [orRRShort_err (Except.map_error h)]; rfl
  | u32 => rw [orRRShort_err (Except.map_error h)]; rfl
  | a => rw [orRRShort_err (Except.map_error h)]; rfl
  | aaaa => exact decodeGroups_err_id 8 (Except.map_error h)
  | «opaque» => rw [orRRShort_err (Except.map_error h)]; rfl
  | name c => exact decodeName_err_id (Except.map_error h)

theorem decodeFields_err_id {id : Nat} {buf : List UInt8} {rdlength : Nat} (fs : List Field) :
    ∀ {pos : Nat} {e : DErr}, decodeFields id buf rdlength fs pos = .error e → e.id = some id := by
  intro pos
  fun_induction decodeFields id buf rdlength fs pos with
  | case1 | case4 => exact fun h => nomatch h
  | case2 _ _ _ _ hf => exact fun h => by cases h; exact decodeField_err_id hf
  | case3 _ _ _ _ _ _ _ hrec ih => exact fun h => by cases h; exact ih hrec

theorem decodeRR_err_id {id : Nat} {buf : List UInt8} {pos : Nat} {e : DErr}
    (h : decodeRR id buf pos = .error e) : e.id = some id := by
  revert h
  fun_cases decodeRR id buf pos with
  | case1 _ hn => exact fun h => by cases h; exact decodeName_err_id hn
  | case6 _ _ _ _ _ _ _ _ _ _ _ _ _ _ _ _ hf => exact fun h => by cases h; exact decodeFields_err_id _ hf
  | case7 => exact fun h => nomatch h
  -- TYPE, CLASS, TTL, RDLENGTH missing: `ResourceRecordTooShort id`; RDLENGTH mismatch: `ResourceRecordInvalid id`
  | _ => exact fun h => by cases h; rfl

theorem decodeQuestion_err_id {id : Nat} {buf : List UInt8} {pos : Nat} {e : DErr}
    (h : decodeQuestion id buf pos = .error e) : e.id = some id := by
  revert h
  fun_cases decodeQuestion id buf pos with
  | case1 _ hn => exact fun h => by cases h; exact decodeName_err_id hn
  | case4 => exact fun h => nomatch h
  | _ => exact fun h => by cases h; rfl

theorem decodeMessage_err_id {buf : List UInt8} {id p1 : Nat} {e : DErr}
    (hid : nextU16 buf 0 = some (id, p1)) (h : decodeMessage buf = .error e) : e.id = some id := by
  have hq := @decodeMany_err_id _ id (decodeQuestion id buf) (fun _ _ => decodeQuestion_err_id)
  have hr := @decodeMany_err_id _ id (decodeRR id buf) (fun _ _ => decodeRR_err_id)
  unfold decodeMessage at h
  rw [hid] at h
  simp only at h
  -- the two flag octets and the four counts: `HeaderTooShort id`
  iterate 6
    split at h
    · cases h; rfl
  -- the four sections: the error of an item decoder
  split at h
  · rename_i hs; cases h; exact hq _ hs
  iterate 3
    split at h
    · rename_i hs; cases h; exact hr _ hs
  cases h

/-- The ID an error carries was read from two octets. -/
theorem decodeMessage_err_id_lt {buf : List UInt8} {e : DErr} {id : Nat}
    (hd : decodeMessage buf = .error e) (hid : e.id = some id) : id < 65536 := by
  cases h0 : nextU16 buf 0 with
  | none =>
    have : decodeMessage buf = .error .completelyBusted := by unfold decodeMessage; rw [h0]
    rw [this] at hd; cases hd; cases hid
  | some p =>
    have := decodeMessage_err_id (p1 := p.2) h0 hd
    rw [hid] at this; cases this
    exact nextU16_lt h0

/-! ## Positions, inversion of successful decodes, the RDLENGTH check -/

theorem decodeMany_succ_ok_iff {α : Type} {dec : Nat → Except DErr (α × Nat)} {k pos e : Nat}
    {ys : List α} :
    decodeMany dec (k + 1) pos = .ok (ys, e) ↔
      ∃ x p' xs, dec pos = .ok (x, p') ∧ decodeMany dec k p' = .ok (xs, e) ∧ ys = x :: xs := by
  constructor
  · intro h
    unfold decodeMany at h
    split at h
    · cases h
    rename_i x p' hd
    split at h
    · cases h
    rename_i xs e' hm
    cases h
    exact ⟨x, p', xs, hd, hm, rfl⟩
  · rintro ⟨x, p', xs, hd, hm, rfl⟩
    simp only [decodeMany, hd, hm]

theorem decodeMany_length {α : Type} {dec : Nat → Except DErr (α × Nat)} (k : Nat) :
    ∀ {pos : Nat} {xs : List α} {e : Nat}, decodeMany dec k pos = .ok (xs, e) → xs.length = k := by
  induction k with
  | zero => intro pos xs e h; cases h; rfl
  | succ k ih =>
    intro pos xs e h
    obtain ⟨x, p', xs', _, hm, rfl⟩ := decodeMany_succ_ok_iff.mp h
    rw [List.length_cons, ih hm]

/-- The end bound under a disjunction: for `k = 0` the end is `pos` itself, for `k > 0` the item decoder supplies the
    bound (`decodeGroups_end` uses the right arm, `C03_section_positions` the left). -/
theorem decodeMany_bounds {α : Type} {dec : Nat → Except DErr (α × Nat)} {N : Nat}
    (hdec : ∀ p x p', dec p = .ok (x, p') → p < p' ∧ p' ≤ N) (k : Nat) :
    ∀ {pos : Nat} {xs : List α} {e : Nat}, decodeMany dec k pos = .ok (xs, e) →
      pos + k ≤ e ∧ (pos ≤ N ∨ 0 < k → e ≤ N) := by
  induction k with
  | zero =>
    intro pos xs e h
    cases h
    exact ⟨Nat.le_refl _, fun hh => hh.elim id (fun h0 => absurd h0 (Nat.lt_irrefl 0))⟩
  | succ k ih =>
    intro pos xs e h
    obtain ⟨x, p', xs', hd, hm, _⟩ := decodeMany_succ_ok_iff.mp h
    have h1 := hdec _ _ _ hd
    have h2 := ih hm
    exact ⟨by omega, fun _ => h2.2 (.inl h1.2)⟩

theorem decodeMany_forall {α : Type} {dec : Nat → Except DErr (α × Nat)} {P : α → Prop}
    (hdec : ∀ p x p', dec p = .ok (x, p') → P x) (k : Nat) :
    ∀ {pos : Nat} {xs : List α} {e : Nat}, decodeMany dec k pos = .ok (xs, e) → ∀ x ∈ xs, P x := by
  induction k with
  | zero => intro pos xs e h; cases h; exact fun _ hx => nomatch hx
  | succ k ih =>
    intro pos xs e h
    obtain ⟨x, p', xs', hd, hm, rfl⟩ := decodeMany_succ_ok_iff.mp h
    exact List.forall_mem_cons.mpr ⟨hdec _ _ _ hd, ih hm⟩

theorem decodeGroups_end {id : Nat} {buf : List UInt8} (k : Nat) {pos : Nat} {gs : List Nat} {e : Nat}
    (h : decodeGroups id buf k pos = .ok (gs, e)) : pos ≤ e ∧ (0 < k → e ≤ buf.length) ∧ gs.length = k := by
  rw [decodeGroups_eq_decodeMany] at h
  have hb := decodeMany_bounds (N := buf.length) (fun p x p' hd => by
    obtain ⟨hlt, _, rfl⟩ := nextU16_some (orRRShort_ok hd); omega) k h
  exact ⟨by omega, fun hk => hb.2 (.inr hk), decodeMany_length k h⟩

theorem decodeField_inv {id : Nat} {buf : List UInt8} {rdlength : Nat} {f : Field} {pos : Nat}
    {v : FieldVal} {e : Nat} (h : decodeField id buf rdlength f pos = .ok (v, e)) :
    match f with
    | .u16 => ∃ n, nextU16 buf pos = some (n, e) ∧ v = .u16 n
    | .u32 => ∃ n, nextU32 buf pos = some (n, e) ∧ v = .u32 n
    | .a => ∃ n, nextU32 buf pos = some (n, e) ∧ v = .a n
    | .aaaa => ∃ gs, decodeGroups id buf 8 pos = .ok (gs, e) ∧ v = .aaaa gs
    | .opaque => ∃ bs, takeN buf pos rdlength = some (bs, e) ∧ v = .opaque bs
    | .name _ => ∃ n, decodeName id buf pos = .ok (n, e) ∧ v = .name n := by
  cases f
  all_goals obtain ⟨⟨x, p⟩, hx, hv⟩ := Except.map_ok h; cases hv
  case aaaa => exact ⟨x, hx, rfl⟩
  case name => exact ⟨x, hx, rfl⟩
  all_goals exact ⟨x, orRRShort_ok hx, rfl⟩

theorem decodeField_bounds {id : Nat} {buf : List UInt8} {rdlength : Nat} {f : Field} {pos : Nat}
    {v : FieldVal} {e : Nat} (h : decodeField id buf rdlength f pos = .ok (v, e)) :
    pos ≤ e ∧ e ≤ buf.length := by
  have hi := decodeField_inv h
  cases f
  case u16 =>
    obtain ⟨n, hx, _⟩ := hi
    obtain ⟨hlt, _, rfl⟩ := nextU16_some hx
    exact ⟨Nat.le_add_right _ _, hlt⟩
  case aaaa =>
    obtain ⟨gs, hx, _⟩ := hi
    obtain ⟨hpe, hle, _⟩ := decodeGroups_end 8 hx
    exact ⟨hpe, hle (by decide)⟩
  case «opaque» =>
    obtain ⟨bs, hx, _⟩ := hi
    obtain ⟨hle, rfl, _⟩ := takeN_some hx
    exact ⟨Nat.le_add_right _ _, hle⟩
  case name c =>
    obtain ⟨n, hx, _⟩ := hi
    have := decodeName_bounds hx
    exact ⟨Nat.le_of_lt this.1, this.2⟩
  -- `u32` and `a`
  all_goals
    obtain ⟨n, hx, _⟩ := hi
    obtain ⟨hlt, rfl⟩ := nextU32_some hx
    exact ⟨Nat.le_add_right _ _, hlt⟩

theorem decodeFields_bounds {id : Nat} {buf : List UInt8} {rdlength : Nat} (fs : List Field) :
    ∀ {pos : Nat} {vs : List FieldVal} {e : Nat}, decodeFields id buf rdlength fs pos = .ok (vs, e) →
      pos ≤ e ∧ (pos ≤ buf.length → e ≤ buf.length) ∧ vs.length = fs.length := by
  intro pos
  fun_induction decodeFields id buf rdlength fs pos with
  | case1 => exact fun h => by cases h; exact ⟨Nat.le_refl _, fun hh => hh, rfl⟩
  | case2 | case3 => exact fun h => nomatch h
  | case4 f fs pos v pos' hf vs' pos'' hrec ih =>
    intro vs e h
    cases h
    have h1 := decodeField_bounds hf
    obtain ⟨h2, h3, h4⟩ := ih hrec
    exact ⟨Nat.le_trans h1.1 h2, fun _ => h3 h1.2, by rw [List.length_cons, List.length_cons, h4]⟩

theorem decodeRR_ok_iff (id : Nat) (buf : List UInt8) (pos : Nat) (rr : RR) (e : Nat) :
    decodeRR id buf pos = .ok (rr, e) ↔
      ∃ p1 rdlength,
        decodeName id buf pos = .ok (rr.name, p1) ∧
        nextU16 buf p1 = some (rr.rtype, p1 + 2) ∧
        nextU16 buf (p1 + 2) = some (rr.rclass, p1 + 4) ∧
        nextU32 buf (p1 + 4) = some (rr.ttl, p1 + 8) ∧
        nextU16 buf (p1 + 8) = some (rdlength, p1 + 10) ∧
        decodeFields id buf rdlength (decodeLayoutOf rr.rtype) (p1 + 10) = .ok (rr.fields, e) ∧
        e = p1 + 10 + rdlength := by
  constructor
  · fun_cases decodeRR id buf pos with
    | case7 name p1 hn rtype p2 h2 rclass p3 h3 ttl p4 h4 rdlength p5 h5 fields hf =>
      intro h
      cases h
      obtain ⟨_, _, rfl⟩ := nextU16_some h2
      obtain ⟨_, _, rfl⟩ := nextU16_some h3
      obtain ⟨_, rfl⟩ := nextU32_some h4
      obtain ⟨_, _, rfl⟩ := nextU16_some h5
      exact ⟨p1, rdlength, hn, h2, h3, h4, h5, hf, rfl⟩
    | _ => exact fun h => nomatch h
  · rintro ⟨p1, rdlength, hn, h2, h3, h4, h5, hf, he⟩
    simp only [decodeRR, hn, h2, h3, h4, h5, hf, if_pos he]

theorem decodeRR_rdlength_mismatch {id : Nat} {buf : List UInt8} {pos p1 p2 p3 p4 p5 stop : Nat}
    {n : Name} {rtype rclass ttl rdlength : Nat} {fields : List FieldVal}
    (hn : decodeName id buf pos = .ok (n, p1)) (h2 : nextU16 buf p1 = some (rtype, p2))
    (h3 : nextU16 buf p2 = some (rclass, p3)) (h4 : nextU32 buf p3 = some (ttl, p4))
    (h5 : nextU16 buf p4 = some (rdlength, p5))
    (hf : decodeFields id buf rdlength (decodeLayoutOf rtype) p5 = .ok (fields, stop))
    (hne : stop ≠ p5 + rdlength) : decodeRR id buf pos = .error (.resourceRecordInvalid id) := by
  simp only [decodeRR, hn, h2, h3, h4, h5, hf, if_neg hne]

theorem decodeRR_bounds {id : Nat} {buf : List UInt8} {pos : Nat} {rr : RR} {e : Nat}
    (h : decodeRR id buf pos = .ok (rr, e)) : pos < e ∧ e ≤ buf.length := by
  obtain ⟨p1, rdlength, hn, _, _, _, h5, hf, he⟩ := (decodeRR_ok_iff _ _ _ _ _).mp h
  have h1 := decodeName_bounds hn
  obtain ⟨hlt, _, _⟩ := nextU16_some h5
  have h2 := (decodeFields_bounds _ hf).2.1 (by omega)
  omega

theorem decodeQuestion_ok_iff (id : Nat) (buf : List UInt8) (pos : Nat) (q : Question) (e : Nat) :
    decodeQuestion id buf pos = .ok (q, e) ↔
      ∃ p1, decodeName id buf pos = .ok (q.name, p1) ∧
        nextU16 buf p1 = some (q.qtype, p1 + 2) ∧
        nextU16 buf (p1 + 2) = some (q.qclass, p1 + 4) ∧ e = p1 + 4 := by
  constructor
  · fun_cases decodeQuestion id buf pos with
    | case4 name p1 hn qtype p2 h2 qclass p3 h3 =>
      intro h
      cases h
      obtain ⟨_, _, rfl⟩ := nextU16_some h2
      obtain ⟨_, _, rfl⟩ := nextU16_some h3
      exact ⟨p1, hn, h2, h3, rfl⟩
    | _ => exact fun h => nomatch h
  · rintro ⟨p1, hn, h2, h3, rfl⟩
    simp only [decodeQuestion, hn, h2, h3]

theorem decodeQuestion_bounds {id : Nat} {buf : List UInt8} {pos : Nat} {q : Question} {e : Nat}
    (h : decodeQuestion id buf pos = .ok (q, e)) : pos < e ∧ e ≤ buf.length := by
  obtain ⟨p1, hn, _, h3, rfl⟩ := (decodeQuestion_ok_iff _ _ _ _ _).mp h
  have h1 := decodeName_bounds hn
  obtain ⟨hlt, _, _⟩ := nextU16_some h3
  omega

theorem decodeMessage_ok_iff (buf : List UInt8) (m : Message) :
    decodeMessage buf = .ok m ↔
      ∃ id f1 f2 qd an ns ar p8 p9 p10 p11,
        nextU16 buf 0 = some (id, 2) ∧ nextU8 buf 2 = some (f1, 3) ∧ nextU8 buf 3 = some (f2, 4) ∧
        nextU16 buf 4 = some (qd, 6) ∧ nextU16 buf 6 = some (an, 8) ∧
        nextU16 buf 8 = some (ns, 10) ∧ nextU16 buf 10 = some (ar, 12) ∧
        m.header = decodeFlags id f1 f2 ∧
        decodeMany (decodeQuestion id buf) qd 12 = .ok (m.questions, p8) ∧
        decodeMany (decodeRR id buf) an p8 = .ok (m.answers, p9) ∧
        decodeMany (decodeRR id buf) ns p9 = .ok (m.authority, p10) ∧
        decodeMany (decodeRR id buf) ar p10 = .ok (m.additional, p11) := by
  constructor
  · fun_cases decodeMessage buf with
    | case12 id p1 h1 f1 p2 h2 f2 p3 h3 header qd p4 h4 an p5 h5 ns p6 h6 ar p7 h7 qs p8 h8 as p9 h9
        au p10 h10 ad p11 h11 =>
      intro h
      cases h
      -- each read advances by its width, which fixes the seven header offsets
      obtain ⟨_, _, rfl⟩ := nextU16_some h1
      obtain ⟨_, _, rfl⟩ := nextU8_some h2
      obtain ⟨_, _, rfl⟩ := nextU8_some h3
      obtain ⟨_, _, rfl⟩ := nextU16_some h4
      obtain ⟨_, _, rfl⟩ := nextU16_some h5
      obtain ⟨_, _, rfl⟩ := nextU16_some h6
      obtain ⟨_, _, rfl⟩ := nextU16_some h7
      exact ⟨id, f1, f2, qd, an, ns, ar, p8, p9, p10, p11, h1, h2, h3, h4, h5, h6, h7, rfl, h8, h9, h10, h11⟩
    | _ => exact fun h => nomatch h
  · rintro ⟨id, f1, f2, qd, an, ns, ar, p8, p9, p10, p11, h1, h2, h3, h4, h5, h6, h7, hh, h8, h9, h10, h11⟩
    simp only [decodeMessage, h1, h2, h3, h4, h5, h6, h7, h8, h9, h10, h11, ← hh]

/-! ## The header of a decoded message -/

theorem decodeMessage_header {buf : List UInt8} {m : Message} (h : decodeMessage buf = .ok m) :
    12 ≤ buf.length ∧ nextU16 buf 0 = some (m.header.id, 2) ∧
    (∃ f1 f2 : UInt8, buf[2]? = some f1 ∧ buf[3]? = some f2 ∧
      m.header = decodeFlags m.header.id f1.toNat f2.toNat) ∧
    nextU16 buf 4 = some (m.questions.length, 6) ∧ nextU16 buf 6 = some (m.answers.length, 8) ∧
    nextU16 buf 8 = some (m.authority.length, 10) ∧ nextU16 buf 10 = some (m.additional.length, 12) := by
  obtain ⟨id, f1, f2, qd, an, ns, ar, p8, p9, p10, p11, h1, h2, h3, h4, h5, h6, h7, hh, h8, h9, h10, h11⟩ :=
    (decodeMessage_ok_iff buf m).mp h
  obtain ⟨l2, rfl, _⟩ := nextU8_some h2
  obtain ⟨l3, rfl, _⟩ := nextU8_some h3
  obtain ⟨l7, _, _⟩ := nextU16_some h7
  have hid : m.header.id = id := by rw [hh]; rfl
  rw [decodeMany_length _ h8, decodeMany_length _ h9, decodeMany_length _ h10, decodeMany_length _ h11, hid]
  exact ⟨by omega, h1, ⟨_, _, List.getElem?_eq_getElem l2, List.getElem?_eq_getElem l3, hh⟩, h4, h5, h6, h7⟩

theorem decodeMessage_tc {buf : List UInt8} {m : Message} (h : decodeMessage buf = .ok m) :
    ∃ b, buf[2]? = some b ∧ testBit b.toNat HEADER_MASK_TC = m.header.isTruncated := by
  obtain ⟨_, _, ⟨f1, f2, h2, _, hh⟩, _⟩ := decodeMessage_header h
  exact ⟨f1, h2, by rw [hh]; rfl⟩

theorem decodeMessage_counts {buf : List UInt8} {m : Message} (h : decodeMessage buf = .ok m) :
    m.questions.length < 65536 ∧ m.answers.length < 65536 ∧ m.authority.length < 65536 ∧
    m.additional.length < 65536 :=
  let ⟨_, _, _, h4, h5, h6, h7⟩ := decodeMessage_header h
  ⟨nextU16_lt h4, nextU16_lt h5, nextU16_lt h6, nextU16_lt h7⟩

/-! ## What a successful decode returns is well formed (`WfMsg` and its parts, Spec/Wire.lean) -/

theorem rdataLayouts_eq : Gen.rdataDecodeLayout = Gen.rdataEncodeLayout := rfl

theorem decodeLayoutOf_eq (code : Nat) : decodeLayoutOf code = encodeLayoutOf code := by
  unfold decodeLayoutOf encodeLayoutOf; rw [rdataLayouts_eq]

theorem decodeGroups_lt {id : Nat} {buf : List UInt8} (k : Nat) {pos : Nat} {gs : List Nat} {e : Nat}
    (h : decodeGroups id buf k pos = .ok (gs, e)) : ∀ g ∈ gs, g < 65536 :=
  decodeMany_forall (fun _ _ _ hd => nextU16_lt (orRRShort_ok hd)) k (decodeGroups_eq_decodeMany id buf k pos ▸ h)

theorem decodeFlags_wf (id f1 f2 : Nat) (hid : id < 65536) : HeaderWF (decodeFlags id f1 f2) := by
  refine ⟨hid, ?_, ?_⟩
  · have : opcodeFromU8 ((f1 &&& HEADER_MASK_OPCODE) >>> HEADER_OFFSET_OPCODE) ≤ 15 :=
      Nat.and_le_right
    exact Nat.lt_succ_of_le this
  · have : rcodeFromU8 ((f2 &&& HEADER_MASK_RCODE) >>> HEADER_OFFSET_RCODE) ≤ 15 :=
      Nat.and_le_right
    exact Nat.lt_succ_of_le this

theorem decodeField_wf {id : Nat} {buf : List UInt8} {rdlength : Nat} {f : Field} {pos : Nat}
    {v : FieldVal} {e : Nat} (hrdl : rdlength < 65536)
    (h : decodeField id buf rdlength f pos = .ok (v, e)) : FieldValWF f v := by
  have hi := decodeField_inv h
  cases f
  all_goals obtain ⟨n, hx, rfl⟩ := hi
  case u16 => exact nextU16_lt hx
  case u32 => exact nextU32_lt hx
  case a => exact nextU32_lt hx
  case aaaa => exact ⟨(decodeGroups_end 8 hx).2.2, decodeGroups_lt 8 hx⟩
  case «opaque» =>
    obtain ⟨hle, _, rfl⟩ := takeN_some hx
    show ((buf.drop pos).take rdlength).length < 65536
    rw [List.length_take, List.length_drop]
    omega
  case name c => exact decodeName_wf hx

theorem decodeFields_wf {id : Nat} {buf : List UInt8} {rdlength : Nat} (hrdl : rdlength < 65536)
    (fs : List Field) :
    ∀ {pos : Nat} {vs : List FieldVal} {e : Nat},
      decodeFields id buf rdlength fs pos = .ok (vs, e) → FieldsWF fs vs := by
  intro pos
  fun_induction decodeFields id buf rdlength fs pos with
  | case1 => exact fun h => by cases h; exact True.intro
  | case2 | case3 => exact fun h => nomatch h
  | case4 f fs pos v pos' hf vs' pos'' hrec ih =>
    intro vs e h
    cases h
    exact ⟨decodeField_wf hrdl hf, ih hrec⟩

theorem decodeRR_wf {id : Nat} {buf : List UInt8} {pos : Nat} {rr : RR} {e : Nat}
    (h : decodeRR id buf pos = .ok (rr, e)) : RRWF rr := by
  obtain ⟨p1, rdlength, hn, h2, h3, h4, h5, hf, _⟩ := (decodeRR_ok_iff _ _ _ _ _).mp h
  rw [decodeLayoutOf_eq] at hf
  exact ⟨decodeName_wf hn, nextU16_lt h2, nextU16_lt h3, nextU32_lt h4,
    decodeFields_wf (nextU16_lt h5) _ hf⟩

theorem decodeQuestion_wf {id : Nat} {buf : List UInt8} {pos : Nat} {q : Question} {e : Nat}
    (h : decodeQuestion id buf pos = .ok (q, e)) : QuestionWF q := by
  obtain ⟨p1, hn, h2, h3, _⟩ := (decodeQuestion_ok_iff _ _ _ _ _).mp h
  exact ⟨decodeName_wf hn, nextU16_lt h2, nextU16_lt h3⟩

/-- In particular the field values match the *encoder's* layout of the record type (`decodeLayoutOf_eq`). -/
theorem decodeMessage_wf {buf : List UInt8} {m : Message} (h : decodeMessage buf = .ok m) : WfMsg m := by
  obtain ⟨id, f1, f2, qd, an, ns, ar, p8, p9, p10, p11, h1, _, _, _, _, _, _, hh, h8, h9, h10, h11⟩ :=
    (decodeMessage_ok_iff _ _).mp h
  have hrr : ∀ {k p rs e}, decodeMany (decodeRR id buf) k p = .ok (rs, e) → ∀ r ∈ rs, RRWF r :=
    fun {k _ _ _} => decodeMany_forall (fun _ _ _ => decodeRR_wf) k
  exact ⟨hh ▸ decodeFlags_wf id f1 f2 (nextU16_lt h1), decodeMany_forall (fun _ _ _ => decodeQuestion_wf) _ h8,
    hrr h9, hrr h10, hrr h11⟩

end Resolved
