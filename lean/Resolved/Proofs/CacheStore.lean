/-
  The store view of the cache: what is stored — `storedExpiry`, the tuples under a (name, type) key (`tuplesAt`);
  `upsert` on them as an equation that needs no invariant (`tuplesAt_upsert`); `Stored P`, a property of every stored
  tuple, kept by insertions and lookups; what a lookup returns, as one equation over the tuples it reads (`hits`,
  `cacheGet_snd`), with its TTL facts; what lookups keep — one lookup (`Touched`, defined in CacheOps), any number
  (`PCache.Touches`: what local resolution does to the cache); lookups return no duplicates.
-/
import Resolved.Proofs.CacheOps

namespace Resolved

open PCache

/-! ## Stored tuples and stored expiry -/

def lookupTuple (ts : Tuples) (v : CRec) : Option Nat :=
  (ts.find? (fun t => decide (t.1 = v))).map (·.2)

/-- the expiry stored for the key `(name, rtype, fields)`, in the model's own getters -/
def storedExpiry (c : PCache) (name : Name) (rtype : Nat) (fields : List FieldVal) : Option Nat :=
  match PCache.getPartition c.partitions name with
  | none => none
  | some p =>
    match PCache.getTuples p.records rtype with
    | none => none
    | some ts => lookupTuple ts ⟨rtype, fields⟩

def recsAt (c : PCache) (k : Name) : List (Nat × Tuples) :=
  ((AL.get c.partitions k).map (·.records)).getD []

def tuplesAt (c : PCache) (k : Name) (rk : Nat) : Tuples := (AL.get (recsAt c k) rk).getD []

theorem storedExpiry_eq (c : PCache) (name : Name) (rtype : Nat) (fields : List FieldVal) :
    storedExpiry c name rtype fields = AL.get (tuplesAt c name rtype) ⟨rtype, fields⟩ := by
  unfold storedExpiry tuplesAt recsAt
  simp only [getPartition_eq, getTuples_eq]
  cases AL.get c.partitions name with
  | none => rfl
  | some p =>
    simp only [Option.map_some, Option.getD_some]
    cases AL.get p.records rtype with
    | none => rfl
    | some ts => exact AL.find?_eq_get ts _

theorem tuplesAt_of_get {c : PCache} {k : Name} {p : Partition} (hp : AL.get c.partitions k = some p)
    (rk : Nat) : tuplesAt c k rk = (AL.get p.records rk).getD [] := by
  simp [tuplesAt, recsAt, hp]

theorem tuplesAt_of_none {c : PCache} {k : Name} (hp : AL.get c.partitions k = none)
    (rk : Nat) : tuplesAt c k rk = [] := by
  simp [tuplesAt, recsAt, hp]

theorem recsAt_of_get {c : PCache} {k : Name} {p : Partition} (hp : AL.get c.partitions k = some p) :
    recsAt c k = p.records := by
  simp [recsAt, hp]

theorem Inv.recsAt_nodup {c : PCache} (h : Inv c) (k : Name) : (AL.keys (recsAt c k)).Nodup := by
  cases hp : AL.get c.partitions k with
  | none => simp [recsAt, hp]
  | some p => rw [recsAt_of_get hp]; exact (h.pinv_of_get hp).keysNodup

theorem tuplesAt_mem_recs {c : PCache} {k : Name} {rk : Nat} {t : CRec × Nat}
    (ht : t ∈ tuplesAt c k rk) : (rk, tuplesAt c k rk) ∈ recsAt c k := by
  unfold tuplesAt at ht ⊢
  cases hg : AL.get (recsAt c k) rk with
  | none => rw [hg] at ht; cases ht
  | some ts => exact AL.mem_of_get hg

theorem Inv.tuplesAt_eq_of_mem {c : PCache} (h : Inv c) {k : Name} {kv : Nat × Tuples}
    (hkv : kv ∈ recsAt c k) : tuplesAt c k kv.1 = kv.2 := by
  unfold tuplesAt
  rw [AL.get_of_mem (h.recsAt_nodup k) (show (kv.1, kv.2) ∈ recsAt c k from hkv)]
  rfl

theorem Inv.tuplesAt_nodup {c : PCache} (h : Inv c) (k : Name) (rk : Nat) :
    ((tuplesAt c k rk).map (·.1)).Nodup := by
  cases hp : AL.get c.partitions k with
  | none => rw [tuplesAt_of_none hp]; exact List.nodup_nil
  | some p => rw [tuplesAt_of_get hp]; exact (h.pinv_of_get hp).getD_nodup rk

/-- the values filed under a key are distinct, so a list that holds them all is at least as long -/
theorem Inv.tuplesAt_length_le {c : PCache} (h : Inv c) {k : Name} {rk : Nat} {U : List CRec}
    (hU : ∀ t ∈ tuplesAt c k rk, t.1 ∈ U) : (tuplesAt c k rk).length ≤ U.length := by
  rw [← List.length_map (·.1)]
  exact (h.tuplesAt_nodup k rk).length_le_of_subset fun _ hv =>
    let ⟨t, ht, e⟩ := List.mem_map.mp hv
    e ▸ hU t ht

theorem Inv.tuplesAt_rtype {c : PCache} (h : Inv c) (k : Name) (rk : Nat) :
    ∀ t ∈ tuplesAt c k rk, t.1.rtype = rk := by
  cases hp : AL.get c.partitions k with
  | none => rw [tuplesAt_of_none hp]; intro t ht; cases ht
  | some p => rw [tuplesAt_of_get hp]; exact (h.pinv_of_get hp).getD_rtype rk

theorem Inv.storedExpiry_of_mem {c : PCache} (h : Inv c) {k : Name} {rk : Nat} {t : CRec × Nat}
    (ht : t ∈ tuplesAt c k rk) : t.1.rtype = rk ∧ storedExpiry c k t.1.rtype t.1.fields = some t.2 := by
  have hrk := h.tuplesAt_rtype k rk t ht
  have ht' : t ∈ tuplesAt c k t.1.rtype := by rw [hrk]; exact ht
  rw [storedExpiry_eq]
  exact ⟨hrk, AL.get_of_mem (h.tuplesAt_nodup k _) ht'⟩

/-! ## `upsert` on the stored tuples -/

/-- what `upsert` keeps of the list it files `v` under: the `swap_remove` of the duplicate, if there is one -/
def dropDup (ts : Tuples) (v : CRec) : Tuples :=
  match findDup ts v with
  | none => ts
  | some (i, _) => swapRemove ts i

theorem dropDup_cases (ts : Tuples) (v : CRec) :
    (v ∉ ts.map (·.1) ∧ dropDup ts v = ts) ∨ ∃ d, ts.Perm ((v, d) :: dropDup ts v) := by
  unfold dropDup
  cases hd : findDup ts v with
  | none => exact Or.inl ⟨findDup_none.mp hd, rfl⟩
  | some id => exact Or.inr ⟨id.2, swapRemove_perm (findDup_some hd)⟩

theorem mem_of_mem_dropDup {ts : Tuples} {v : CRec} {t : CRec × Nat} (h : t ∈ dropDup ts v) : t ∈ ts := by
  rcases dropDup_cases ts v with ⟨_, he⟩ | ⟨d, hp⟩
  · rwa [he] at h
  · exact hp.mem_iff.mpr (List.mem_cons_of_mem _ h)

theorem dropDup_of_notin {ts : Tuples} {v : CRec} (h : v ∉ ts.map (·.1)) : dropDup ts v = ts := by
  rcases dropDup_cases ts v with ⟨_, he⟩ | ⟨d, hp⟩
  · exact he
  · exact absurd (List.mem_map.mpr ⟨(v, d), hp.mem_iff.mpr List.mem_cons_self, rfl⟩) h

theorem mem_dropDup {ts : Tuples} {v : CRec} (hn : (ts.map (·.1)).Nodup) (w : CRec) (e : Nat) :
    (w, e) ∈ dropDup ts v ↔ w ≠ v ∧ (w, e) ∈ ts := by
  rcases dropDup_cases ts v with ⟨hv, he⟩ | ⟨d, hp⟩
  · rw [he]
    exact ⟨fun h => ⟨fun hw => hv (List.mem_map.mpr ⟨_, h, hw⟩), h⟩, fun h => h.2⟩
  · have hnd := (hp.map (·.1)).nodup_iff.mp hn
    rw [List.map_cons, List.nodup_cons] at hnd
    rw [hp.mem_iff, List.mem_cons, Prod.mk.injEq]
    exact ⟨fun h => ⟨fun hw => hnd.1 (List.mem_map.mpr ⟨_, h, hw⟩), Or.inr h⟩,
      fun h => h.2.resolve_left fun h2 => h.1 h2.1⟩

theorem get_dropDup_concat {ts : Tuples} {v : CRec} (hn : (ts.map (·.1)).Nodup) (e : Nat) (w : CRec) :
    AL.get (dropDup ts v ++ [(v, e)]) w = if w = v then some e else AL.get ts w := by
  have hmem : ∀ x, (w, x) ∈ dropDup ts v ↔ w ≠ v ∧ (w, x) ∈ ts := mem_dropDup hn w
  have hnd : (AL.keys (dropDup ts v)).Nodup := by
    rcases dropDup_cases ts v with ⟨_, he⟩ | ⟨d, hp⟩
    · rw [he]; exact hn
    · exact (List.nodup_cons.mp ((hp.map (·.1)).nodup_iff.mp hn)).2
  rw [AL.get_append, AL.get_cons, AL.get_nil]
  by_cases hw : w = v
  · rw [if_pos hw, if_pos hw.symm, AL.get_eq_none_iff.mpr, Option.none_or]
    intro hk
    obtain ⟨x, hx, rfl⟩ := List.mem_map.mp hk
    exact ((hmem x.2).mp hx).1 hw
  · rw [if_neg hw, if_neg (Ne.symm hw), Option.or_none]
    exact AL.get_eq_of_mem_iff hnd hn fun x => by rw [hmem x]; exact and_iff_right hw

/-- `upsert` without the case split of `upsert_new/_fresh/_dup` -/
theorem upsert_store (c : PCache) (k : Name) (rk : Nat) (v : CRec) (ttl now : Nat) :
    ∃ p', (c.upsert k rk v ttl now).partitions = AL.set c.partitions k p' ∧
      p'.records = AL.set (recsAt c k) rk (dropDup (tuplesAt c k rk) v ++ [(v, now + ttl)]) ∧
      (c.upsert k rk v ttl now).accessPriority =
        (if (AL.get c.partitions k).isSome then AL.change c.accessPriority k now
         else AL.set c.accessPriority k now) := by
  cases hp : AL.get c.partitions k with
  | none =>
    rw [upsert_new rk v ttl now hp, tuplesAt_of_none hp]
    exact ⟨_, rfl, by simp [recsAt, hp, AL.set, dropDup, findDup, findDup.go], rfl⟩
  | some p =>
    rw [tuplesAt_of_get hp, recsAt_of_get hp]
    unfold dropDup
    cases hd : findDup ((AL.get p.records rk).getD []) v with
    | none => rw [upsert_fresh rk v ttl now hp hd]; exact ⟨_, rfl, rfl, rfl⟩
    | some id =>
      obtain ⟨ts, hg, hd'⟩ := findDup_getD_some hd
      rw [upsert_dup rk v ttl now hp hg hd', hg]
      exact ⟨_, rfl, rfl, rfl⟩

theorem recsAt_upsert (c : PCache) (k : Name) (rk : Nat) (v : CRec) (ttl now : Nat) (k' : Name) :
    recsAt (c.upsert k rk v ttl now) k' =
      if k' = k then AL.set (recsAt c k) rk (dropDup (tuplesAt c k rk) v ++ [(v, now + ttl)]) else recsAt c k' := by
  obtain ⟨p', hps, hrecs, _⟩ := upsert_store c k rk v ttl now
  unfold recsAt
  rw [hps, AL.get_set]
  split
  · exact hrecs
  · rfl

theorem tuplesAt_upsert (c : PCache) (k : Name) (rk : Nat) (v : CRec) (ttl now : Nat) (k' : Name) (rk' : Nat) :
    tuplesAt (c.upsert k rk v ttl now) k' rk' =
      if k' = k ∧ rk' = rk then dropDup (tuplesAt c k rk) v ++ [(v, now + ttl)] else tuplesAt c k' rk' := by
  show (AL.get (recsAt (c.upsert k rk v ttl now) k') rk').getD [] = _
  rw [recsAt_upsert]
  by_cases hk : k' = k
  · subst hk
    by_cases hr : rk' = rk
    · subst hr; simp [AL.get_set]
    · simp [AL.get_set, hr]; rfl
  · simp [hk]; rfl

theorem mem_tuplesAt_upsert {c : PCache} (h : Inv c) (k : Name) {rk : Nat} {v : CRec} (ttl now : Nat)
    (w : CRec) (e : Nat) :
    (w, e) ∈ tuplesAt (c.upsert k rk v ttl now) k rk ↔
      (w = v ∧ e = now + ttl) ∨ (w ≠ v ∧ (w, e) ∈ tuplesAt c k rk) := by
  rw [tuplesAt_upsert, if_pos ⟨rfl, rfl⟩, List.mem_append, List.mem_singleton, Prod.mk.injEq,
    mem_dropDup (h.tuplesAt_nodup k rk), or_comm]

theorem storedExpiry_upsert {c : PCache} (h : Inv c) (k : Name) {rk : Nat} {v : CRec} (ttl now : Nat)
    (hrt : v.rtype = rk) (k' : Name) (rt : Nat) (fs : List FieldVal) :
    storedExpiry (c.upsert k rk v ttl now) k' rt fs =
      if k' = k ∧ (⟨rt, fs⟩ : CRec) = v then some (now + ttl) else storedExpiry c k' rt fs := by
  rw [storedExpiry_eq, storedExpiry_eq, tuplesAt_upsert]
  by_cases hk : k' = k ∧ rt = rk
  · obtain ⟨rfl, rfl⟩ := hk
    rw [if_pos ⟨rfl, rfl⟩, get_dropDup_concat (h.tuplesAt_nodup k' rt)]
    simp only [true_and]
  · rw [if_neg hk, if_neg fun h2 => hk ⟨h2.1, by rw [← hrt, ← h2.2]⟩]

/-- `Cache::insert`: the record's key expires `ttl` seconds after this insertion, every other key as before -/
theorem storedExpiry_cacheInsert {c : PCache} (h : Inv c) (rr : RR) (now : Nat) (k' : Name) (rt : Nat)
    (fs : List FieldVal) :
    storedExpiry (cacheInsert c rr now) k' rt fs =
      if k' = rr.name ∧ rt = rr.rtype ∧ fs = rr.fields then some (now + rr.ttl * NANOS)
      else storedExpiry c k' rt fs := by
  unfold cacheInsert
  rw [storedExpiry_upsert h rr.name (rk := rr.rtype) (v := ⟨rr.rtype, rr.fields⟩) (rr.ttl * NANOS) now rfl]
  simp only [CRec.mk.injEq]

/-! ## A property of every stored tuple -/

/-- what `Cache::insert` files for `rr` at `now` -/
def storedTuple (now : Nat) (rr : RR) : CRec × Nat := (⟨rr.rtype, rr.fields⟩, now + rr.ttl * NANOS)

/-- The invariants other components keep of the cache (`CacheTyped`, `fb_CacheOK`, `uni2_Sound`) have this shape. -/
def Stored (P : Name → Nat → CRec × Nat → Prop) (c : PCache) : Prop :=
  ∀ k rk, ∀ t ∈ tuplesAt c k rk, P k rk t

theorem Stored.new (P : Name → Nat → CRec × Nat → Prop) (d : Nat) : Stored P (PCache.new d) :=
  fun _ _ _ ht => nomatch ht

theorem Stored.upsert {P : Name → Nat → CRec × Nat → Prop} {c : PCache} (h : Stored P c) {k : Name} {rk : Nat}
    {v : CRec} {ttl now : Nat} (hv : P k rk (v, now + ttl)) : Stored P (c.upsert k rk v ttl now) := by
  intro k' rk' t ht
  rw [tuplesAt_upsert] at ht
  split at ht
  · rename_i hk
    obtain ⟨rfl, rfl⟩ := hk
    rcases List.mem_append.mp ht with ht | ht
    · exact h _ _ t (mem_of_mem_dropDup ht)
    · rw [List.mem_singleton.mp ht]; exact hv
  · exact h k' rk' t ht

theorem Stored.sharedInsert {P : Name → Nat → CRec × Nat → Prop} {c : PCache} (h : Stored P c) {rr : RR} {now : Nat}
    (hrr : rr.ttl > 0 → P rr.name rr.rtype (storedTuple now rr)) : Stored P (sharedInsert c rr now) :=
  sharedInsert_cases c rr now (fun hp => h.upsert (hrr hp)) fun _ => h

theorem Stored.sharedInsertAll {P : Name → Nat → CRec × Nat → Prop} {rrs : List RR} {now : Nat} {c : PCache}
    (h : Stored P c) (hall : ∀ rr ∈ rrs, rr.ttl > 0 → P rr.name rr.rtype (storedTuple now rr)) :
    Stored P (sharedInsertAll c rrs now) :=
  sharedInsertAll_induct (fun _ rr hr h => h.sharedInsert (hall rr hr)) h

theorem tuplesAt_sharedInsert_ne_nil (c : PCache) (rr : RR) (now : Nat) (k : Name) (rk : Nat)
    (h : tuplesAt c k rk ≠ [] ∨ (rr.ttl > 0 ∧ k = rr.name ∧ rk = rr.rtype)) :
    tuplesAt (sharedInsert c rr now) k rk ≠ [] := by
  refine sharedInsert_cases (P := fun c' => tuplesAt c' k rk ≠ []) c rr now (fun _ => ?_)
    fun h0 => h.resolve_right fun h2 => absurd h0 (Nat.ne_of_gt h2.1)
  rw [tuplesAt_upsert]
  split
  · exact List.append_ne_nil_of_right_ne_nil _ (List.cons_ne_nil _ _)
  · rename_i hk; exact h.resolve_right fun h2 => hk h2.2

theorem tuplesAt_sharedInsertAll_ne_nil (rrs : List RR) (now : Nat) (k : Name) (rk : Nat) : ∀ {c : PCache},
    (tuplesAt c k rk ≠ [] ∨ ∃ rr ∈ rrs, rr.ttl > 0 ∧ k = rr.name ∧ rk = rr.rtype) →
    tuplesAt (sharedInsertAll c rrs now) k rk ≠ [] := by
  unfold Resolved.sharedInsertAll
  induction rrs with
  | nil => exact fun h => h.resolve_right fun ⟨_, hr, _⟩ => nomatch hr
  | cons r rrs ih =>
    intro c h
    apply ih
    rcases h with h | ⟨rr, hr, h3⟩
    · exact Or.inl (tuplesAt_sharedInsert_ne_nil c r now k rk (Or.inl h))
    · rcases List.mem_cons.mp hr with rfl | hr
      · exact Or.inl (tuplesAt_sharedInsert_ne_nil c rr now k rk (Or.inr h3))
      · exact Or.inr ⟨rr, hr, h3⟩

theorem tuplesAt_sharedInsertAll_fresh (name : Name) (rk now : Nat) (rrs : List RR) : ∀ (c : PCache),
    (∀ rr ∈ rrs, rr.name = name ∧ rr.rtype = rk ∧ 0 < rr.ttl) → (rrs.map (·.fields)).Nodup →
    (∀ rr ∈ rrs, (⟨rk, rr.fields⟩ : CRec) ∉ (tuplesAt c name rk).map (·.1)) →
    tuplesAt (sharedInsertAll c rrs now) name rk = tuplesAt c name rk ++ rrs.map (storedTuple now) := by
  unfold Resolved.sharedInsertAll
  induction rrs with
  | nil => intro c _ _ _; simp
  | cons r rrs ih =>
    intro c hall hnd hfresh
    obtain ⟨h1, h2, h3⟩ := hall r List.mem_cons_self
    rw [List.map_cons, List.nodup_cons] at hnd
    have hstep : tuplesAt (sharedInsert c r now) name rk = tuplesAt c name rk ++ [storedTuple now r] := by
      rw [sharedInsert_pos c now h3, h1, h2, tuplesAt_upsert, if_pos ⟨rfl, rfl⟩, dropDup_of_notin (hfresh r List.mem_cons_self)]
      simp [storedTuple, h2]
    rw [List.foldl_cons, ih _ (fun rr hr => hall rr (List.mem_cons_of_mem _ hr)) hnd.2, hstep]
    · simp
    · intro rr hr
      rw [hstep, List.map_append, List.mem_append, not_or]
      refine ⟨hfresh rr (List.mem_cons_of_mem _ hr), fun he => hnd.1 (List.mem_map.mpr ⟨rr, hr, ?_⟩)⟩
      simpa [storedTuple, h2] using he

/-! ## Lookups -/

/-- the record `to_rrs` makes of one tuple -/
def mkRR (name : Name) (now : Nat) (t : CRec × Nat) : RR :=
  { name, rtype := t.1.rtype, fields := t.1.fields, rclass := 1, ttl := min ((t.2 - now) / NANOS) U32_MAX }

theorem toRRs_eq_map (name : Name) (now : Nat) (ts : Tuples) : toRRs name now ts = ts.map (mkRR name now) := rfl

theorem mkRR_ttl_le (name : Name) (now : Nat) (t : CRec × Nat) : (mkRR name now t).ttl * NANOS ≤ t.2 - now :=
  Nat.le_trans (Nat.mul_le_mul_right _ (Nat.min_le_left _ _)) (Nat.div_mul_le_self _ _)

theorem mkRR_ttl_pos_iff (name : Name) (now : Nat) (t : CRec × Nat) :
    (mkRR name now t).ttl > 0 ↔ now + NANOS ≤ t.2 := by
  have hn : NANOS = 1000000000 := rfl
  show 0 < min ((t.2 - now) / NANOS) U32_MAX ↔ _
  rw [Nat.lt_min, Nat.div_pos_iff]
  constructor
  · intro h; omega
  · intro h; exact ⟨⟨by omega, by omega⟩, by decide⟩

theorem full_second_of_ttl {ttl e now : Nat} (hpos : 1 ≤ ttl) (hle : ttl * NANOS ≤ e - now) : now + NANOS ≤ e := by
  have h1 : NANOS ≤ e - now := Nat.le_trans (Nat.le_mul_of_pos_left NANOS hpos) hle
  have h2 : 0 < NANOS := by decide
  omega

theorem lt_of_full_second {e now : Nat} (h : now + NANOS ≤ e) : now < e :=
  Nat.lt_of_lt_of_le (Nat.lt_add_of_pos_right (by decide)) h

theorem toRRs_ttl_le (name : Name) (now : Nat) (ts : Tuples) :
    ∀ rr ∈ toRRs name now ts, ∃ t ∈ ts, rr.rtype = t.1.rtype ∧ rr.fields = t.1.fields ∧ rr.name = name ∧
      rr.ttl * NANOS ≤ t.2 - now := by
  intro rr h
  obtain ⟨t, ht, rfl⟩ := List.mem_map.mp ((toRRs_eq_map name now ts) ▸ h)
  exact ⟨t, ht, rfl, rfl, rfl, mkRR_ttl_le name now t⟩

theorem toRRs_expired_ttl_zero (name : Name) (now : Nat) (ts : Tuples) (h : ∀ t ∈ ts, t.2 ≤ now) :
    ∀ rr ∈ toRRs name now ts, rr.ttl = 0 := by
  intro rr hrr
  obtain ⟨t, ht, _, _, _, hle⟩ := toRRs_ttl_le name now ts rr hrr
  refine Nat.eq_zero_of_not_pos fun hpos => ?_
  have := lt_of_full_second (full_second_of_ttl hpos hle)
  have := h t ht
  omega

/-- the stored tuples a lookup of `(name, qtype)` goes through: one list for a record type, all of the name's for `*`,
    none for the other query types -/
def hits (c : PCache) (name : Name) (qtype : Nat) : Tuples :=
  match lookupNat Gen.queryTypeFromU16 qtype with
  | some "Wildcard" => tuplesOf (recsAt c name)
  | some _ => []
  | none => tuplesAt c name qtype

theorem hits_typed {c : PCache} {name : Name} {qtype : Nat} (hq : lookupNat Gen.queryTypeFromU16 qtype = none) :
    hits c name qtype = tuplesAt c name qtype := by
  unfold hits; rw [hq]

theorem hits_wild {c : PCache} {name : Name} {qtype : Nat}
    (hq : lookupNat Gen.queryTypeFromU16 qtype = some "Wildcard") : hits c name qtype = tuplesOf (recsAt c name) := by
  unfold hits; rw [hq]; rfl

theorem hits_other {c : PCache} {name : Name} {qtype : Nat} {s : String}
    (hq : lookupNat Gen.queryTypeFromU16 qtype = some s) (hs : s ≠ "Wildcard") : hits c name qtype = [] := by
  unfold hits
  rw [hq]
  split
  · rename_i heq; cases heq; exact absurd rfl hs
  · rfl
  · rename_i heq; cases heq

theorem cacheGetUnchecked_snd (c : PCache) (name : Name) (qtype now : Nat) :
    (cacheGetUnchecked c name qtype now).2 = (hits c name qtype).map (mkRR name now) := by
  rcases qtype_cases qtype with ⟨hq, _⟩ | ⟨hq, _⟩ | ⟨s, hq, hs, _⟩
  · rw [cacheGetUnchecked_typed now hq, (getTouch_spec c name qtype now).2, hits_typed hq]
    unfold tuplesAt recsAt
    cases AL.get c.partitions name <;> rfl
  · rw [cacheGetUnchecked_wild now hq, (getPartitionTouch_spec c name now).2, hits_wild hq]
    show (recsAt c name).flatMap (fun r => r.2.map (mkRR name now)) = _
    simp only [tuplesOf, List.map_flatMap]
  · rw [cacheGetUnchecked_other now hq hs, hits_other hq hs]; rfl

/-- For `*` the order across record types is the model's list order; the Rust iterates a `HashMap`, which has
    none. -/
theorem cacheGet_snd (c : PCache) (name : Name) (qtype now : Nat) :
    (cacheGet c name qtype now).2 =
      ((hits c name qtype).filter (fun t => decide (now + NANOS ≤ t.2))).map (mkRR name now) := by
  show (cacheGetUnchecked c name qtype now).2.filter _ = _
  rw [cacheGetUnchecked_snd, List.filter_map]
  congr 1
  apply List.filter_congr
  intro t _
  simp only [Function.comp_apply, decide_eq_decide]
  exact mkRR_ttl_pos_iff name now t

theorem mem_cacheGet {c : PCache} {name : Name} {qtype now : Nat} {rr : RR} :
    rr ∈ (cacheGet c name qtype now).2 ↔ ∃ t ∈ hits c name qtype, now + NANOS ≤ t.2 ∧ rr = mkRR name now t := by
  rw [cacheGet_snd, List.mem_map]
  constructor
  · rintro ⟨t, ht, rfl⟩
    exact ⟨t, (List.mem_filter.mp ht).1, of_decide_eq_true (List.mem_filter.mp ht).2, rfl⟩
  · rintro ⟨t, ht, hl, rfl⟩
    exact ⟨t, List.mem_filter.mpr ⟨ht, decide_eq_true hl⟩, rfl⟩

theorem mem_cacheGet_live {c : PCache} {name : Name} {qtype now : Nat} {rr : RR}
    (h : rr ∈ (cacheGet c name qtype now).2) :
    ∃ t ∈ hits c name qtype, rr = mkRR name now t ∧ now < t.2 ∧ 1 ≤ rr.ttl ∧ rr.ttl * NANOS ≤ t.2 - now := by
  obtain ⟨t, ht, hl, rfl⟩ := mem_cacheGet.mp h
  exact ⟨t, ht, rfl, lt_of_full_second hl, (mkRR_ttl_pos_iff name now t).mpr hl, mkRR_ttl_le name now t⟩

theorem cacheGet_owner (c : PCache) (name : Name) (qtype now : Nat) :
    ∀ rr ∈ (cacheGet c name qtype now).2, rr.name = name := by
  intro rr hrr
  obtain ⟨t, _, _, rfl⟩ := mem_cacheGet.mp hrr
  rfl

theorem mem_recsAt_of_mem_hits {c : PCache} {name : Name} {qtype : Nat} {t : CRec × Nat} (h : t ∈ hits c name qtype) :
    ∃ kv ∈ recsAt c name, rtypeMatches kv.1 qtype = true ∧ t ∈ kv.2 := by
  rcases qtype_cases qtype with ⟨hq, hm⟩ | ⟨hq, hm⟩ | ⟨s, hq, hs, _⟩
  · rw [hits_typed hq] at h
    exact ⟨(qtype, tuplesAt c name qtype), tuplesAt_mem_recs h, by rw [hm]; exact beq_self_eq_true _, h⟩
  · rw [hits_wild hq] at h
    obtain ⟨kv, hkv, ht⟩ := mem_tuplesOf.mp h
    exact ⟨kv, hkv, hm _, ht⟩
  · rw [hits_other hq hs] at h; cases h

/-- this half of `Inv.mem_hits_iff` needs no invariant -/
theorem mem_hits_of {c : PCache} {name : Name} {qtype rk : Nat} {t : CRec × Nat}
    (hm : rtypeMatches rk qtype = true) (ht : t ∈ tuplesAt c name rk) : t ∈ hits c name qtype := by
  rcases qtype_cases qtype with ⟨hq, hm'⟩ | ⟨hq, _⟩ | ⟨s, _, _, hm'⟩
  · rw [hits_typed hq]
    rw [hm', beq_iff_eq] at hm
    subst hm; exact ht
  · rw [hits_wild hq]; exact mem_tuplesOf.mpr ⟨_, tuplesAt_mem_recs ht, ht⟩
  · rw [hm'] at hm; cases hm

theorem Inv.mem_hits_iff {c : PCache} (h : Inv c) {name : Name} {qtype : Nat} {t : CRec × Nat} :
    t ∈ hits c name qtype ↔ ∃ rk, rtypeMatches rk qtype = true ∧ t ∈ tuplesAt c name rk := by
  constructor
  · intro ht
    obtain ⟨kv, hkv, hm, hk⟩ := mem_recsAt_of_mem_hits ht
    exact ⟨kv.1, hm, by rw [h.tuplesAt_eq_of_mem hkv]; exact hk⟩
  · rintro ⟨rk, hm, ht⟩
    exact mem_hits_of hm ht

theorem Inv.storedExpiry_of_mem_hits {c : PCache} (h : Inv c) {name : Name} {qtype : Nat} {t : CRec × Nat}
    (ht : t ∈ hits c name qtype) :
    rtypeMatches t.1.rtype qtype = true ∧ storedExpiry c name t.1.rtype t.1.fields = some t.2 := by
  obtain ⟨rk, hm, ht⟩ := h.mem_hits_iff.mp ht
  obtain ⟨hrk, hst⟩ := h.storedExpiry_of_mem ht
  exact ⟨hrk ▸ hm, hst⟩

theorem mem_cacheGet_recsAt (c : PCache) (name : Name) (qtype now : Nat) :
    ∀ rr ∈ (cacheGet c name qtype now).2,
      ∃ kv ∈ recsAt c rr.name, ∃ t ∈ kv.2, t.1.rtype = rr.rtype ∧ t.1.fields = rr.fields ∧ now < t.2 ∧
        1 ≤ rr.ttl ∧ rr.ttl * NANOS ≤ t.2 - now := by
  intro rr hrr
  obtain ⟨t, ht, rfl, hlt, hpos, hle⟩ := mem_cacheGet_live hrr
  obtain ⟨kv, hkv, _, htk⟩ := mem_recsAt_of_mem_hits ht
  exact ⟨kv, hkv, t, htk, rfl, rfl, hlt, hpos, hle⟩

theorem cacheGet_of_unchecked {c c' : PCache} {name : Name} {qtype now : Nat} {rrs : List RR}
    (h : cacheGetUnchecked c name qtype now = (c', rrs)) :
    cacheGet c name qtype now = (c', rrs.filter (fun rr => rr.ttl > 0)) := by
  unfold cacheGet; rw [h]

theorem cacheGet_fst (c : PCache) (name : Name) (qtype now : Nat) :
    (cacheGet c name qtype now).1 = (cacheGetUnchecked c name qtype now).1 := rfl

theorem cacheGet_snd_of_live (c : PCache) (name : Name) (rk now : Nat) (hq : lookupNat Gen.queryTypeFromU16 rk = none)
    (hlive : ∀ t ∈ tuplesAt c name rk, now + NANOS ≤ t.2) :
    (cacheGet c name rk now).2 = (tuplesAt c name rk).map (mkRR name now) := by
  rw [cacheGet_snd, hits_typed hq, List.filter_eq_self.mpr fun t ht => decide_eq_true (hlive t ht)]

open Gen in
theorem cu_cacheGet_rec_stale {c : PCache} {name : Name} {qtype now : Nat}
    (hq : lookupNat queryTypeFromU16 qtype = none)
    (hst : ∀ t ∈ tuplesAt c name qtype, t.2 < now + NANOS) : (cacheGet c name qtype now).2 = [] := by
  rw [cacheGet_snd, hits_typed hq, List.filter_eq_nil_iff.mpr fun t ht => by have := hst t ht; simp; omega]
  rfl

theorem cacheGet_snd_of_nil {c : PCache} {name : Name} {rk now : Nat} (hq : lookupNat Gen.queryTypeFromU16 rk = none)
    (h : tuplesAt c name rk = []) : (cacheGet c name rk now).2 = [] :=
  cu_cacheGet_rec_stale hq (by rw [h]; nofun)

/-! ## Lookups do not change what is stored -/

theorem Touched.recsAt {c c' : PCache} {k : Name} {now : Nat} (h : Touched c c' k now) (k' : Name) :
    recsAt c' k' = recsAt c k' := by
  rcases h with rfl | ⟨p, hp, rfl⟩
  · rfl
  · unfold Resolved.recsAt
    simp only [PCache.touch, AL.get_set]
    by_cases hk : k' = k
    · subst hk; simp [hp]
    · simp [hk]

theorem Touched.expiry_and_size {c c' : PCache} {k : Name} {now : Nat} (h : Touched c c' k now) :
    c'.expiryPriority = c.expiryPriority ∧ c'.currentSize = c.currentSize := by
  rcases h with rfl | ⟨p, hp, rfl⟩
  · exact ⟨rfl, rfl⟩
  · exact ⟨rfl, rfl⟩

/-- any number of `Touched` steps, each at its own name and time: what local resolution does to the cache -/
inductive PCache.Touches : PCache → PCache → Prop
  | refl (c : PCache) : Touches c c
  | step {c c' c'' : PCache} {k : Name} {now : Nat} : Touched c c' k now → Touches c' c'' → Touches c c''

theorem PCache.Touches.trans {a b c : PCache} (h1 : a.Touches b) (h2 : b.Touches c) : a.Touches c := by
  induction h1 with
  | refl => exact h2
  | step ht _ ih => exact .step ht (ih h2)

theorem cacheGetUnchecked_touches (c : PCache) (name : Name) (qtype now : Nat) :
    c.Touches (cacheGetUnchecked c name qtype now).1 :=
  .step (cacheGetUnchecked_touched_step c name qtype now) (.refl _)

theorem PCache.Touches.inv {a b : PCache} (h : a.Touches b) (hi : Inv a) : Inv b := by
  induction h with
  | refl => exact hi
  | step ht _ ih => exact ih (ht.inv hi)

theorem PCache.Touches.recsAt {a b : PCache} (h : a.Touches b) (k : Name) :
    Resolved.recsAt b k = Resolved.recsAt a k := by
  induction h with
  | refl => rfl
  | step ht _ ih => exact ih.trans (ht.recsAt k)

theorem PCache.Touches.tuplesAt {a b : PCache} (h : a.Touches b) (k : Name) (rk : Nat) :
    Resolved.tuplesAt b k rk = Resolved.tuplesAt a k rk := by
  unfold Resolved.tuplesAt; rw [h.recsAt]

theorem PCache.Touches.cacheGet_snd {a b : PCache} (h : a.Touches b) (name : Name) (qtype now : Nat) :
    (Resolved.cacheGet b name qtype now).2 = (Resolved.cacheGet a name qtype now).2 := by
  rw [Resolved.cacheGet_snd, Resolved.cacheGet_snd, hits, hits, Resolved.tuplesAt, Resolved.tuplesAt, h.recsAt]

theorem PCache.Touches.storedExpiry {a b : PCache} (h : a.Touches b) (k : Name) (rt : Nat) (fs : List FieldVal) :
    Resolved.storedExpiry b k rt fs = Resolved.storedExpiry a k rt fs := by
  rw [storedExpiry_eq, storedExpiry_eq, h.tuplesAt]

theorem Stored.touches {P : Name → Nat → CRec × Nat → Prop} {c c' : PCache} (h : Stored P c) (ht : c.Touches c') :
    Stored P c' :=
  fun k rk t hm => h k rk t (ht.tuplesAt k rk ▸ hm)

theorem Stored.mem_cacheGet {P : Name → Nat → CRec × Nat → Prop} {c : PCache} (h : Stored P c) (hi : Inv c)
    {name : Name} {qtype now : Nat} {rr : RR} (hrr : rr ∈ (Resolved.cacheGet c name qtype now).2) :
    ∃ rk t, rtypeMatches rk qtype = true ∧ t ∈ tuplesAt c name rk ∧ P name rk t ∧ now + NANOS ≤ t.2 ∧
      rr = mkRR name now t := by
  obtain ⟨t, ht, hl, he⟩ := Resolved.mem_cacheGet.mp hrr
  obtain ⟨rk, hm, ht⟩ := hi.mem_hits_iff.mp ht
  exact ⟨rk, t, hm, ht, h name rk t ht, hl, he⟩

/-! ## Lookups return no duplicates -/

/-- the values of a partition's tuples are distinct: within a list by I5, across lists because tuples are filed
    under their types (I6) and the type keys are distinct (I1) -/
theorem nodup_tuplesOf {rs : List (Nat × Tuples)}
    (hk : (AL.keys rs).Nodup) (hnd : ∀ r ∈ rs, (r.2.map (·.1)).Nodup)
    (hrt : ∀ r ∈ rs, ∀ t ∈ r.2, t.1.rtype = r.1) : ((tuplesOf rs).map (·.1)).Nodup := by
  induction rs with
  | nil => exact List.nodup_nil
  | cons r rs ih =>
    simp only [AL.keys_cons, List.nodup_cons] at hk
    rw [tuplesOf_cons, List.map_append, List.nodup_append]
    refine ⟨hnd r (by simp),
      ih hk.2 (fun r' hr' => hnd r' (List.mem_cons_of_mem _ hr')) (fun r' hr' => hrt r' (List.mem_cons_of_mem _ hr')), ?_⟩
    intro a ha b hb hab
    subst hab
    obtain ⟨t, ht, rfl⟩ := List.mem_map.mp ha
    obtain ⟨t', ht', he⟩ := List.mem_map.mp hb
    obtain ⟨r', hr', ht''⟩ := mem_tuplesOf.mp ht'
    have : r'.1 = r.1 := by rw [← hrt r (by simp) t ht, ← hrt r' (List.mem_cons_of_mem _ hr') t' ht'', he]
    exact hk.1 (this ▸ List.mem_map.mpr ⟨r', hr', rfl⟩)

theorem Inv.hits_nodup {c : PCache} (h : Inv c) (name : Name) (qtype : Nat) :
    ((hits c name qtype).map (·.1)).Nodup := by
  rcases qtype_cases qtype with ⟨hq, _⟩ | ⟨hq, _⟩ | ⟨s, hq, hs, _⟩
  · rw [hits_typed hq]; exact h.tuplesAt_nodup name qtype
  · rw [hits_wild hq]
    cases hp : AL.get c.partitions name with
    | none => simp [recsAt, hp]
    | some p =>
      rw [recsAt_of_get hp]
      have hpi := h.pinv_of_get hp
      exact nodup_tuplesOf hpi.keysNodup hpi.noDup hpi.rtype_eq
  · rw [hits_other hq hs]; exact List.nodup_nil

theorem Inv.cacheGetUnchecked_nodup {c : PCache} (h : Inv c) (name : Name) (qtype now : Nat) :
    ((Resolved.cacheGetUnchecked c name qtype now).2.map (fun rr => (rr.rtype, rr.fields))).Nodup := by
  have : (Resolved.cacheGetUnchecked c name qtype now).2.map (fun rr => (rr.rtype, rr.fields)) =
      ((hits c name qtype).map (·.1)).map (fun v : CRec => (v.rtype, v.fields)) := by
    rw [cacheGetUnchecked_snd, List.map_map, List.map_map]; rfl
  rw [this]
  refine List.Pairwise.map _ (fun a b hne hab => hne ?_) (h.hits_nodup name qtype)
  obtain ⟨a1, a2⟩ := a; obtain ⟨b1, b2⟩ := b
  simp only [Prod.mk.injEq] at hab
  obtain ⟨rfl, rfl⟩ := hab; rfl

end Resolved
