/-
  Fuel.  `tryTypes` treats every error of a nested `resolveRec` alike, so an exhaustion deep in the
  call tree can be masked (`deadEnd`, not `outOfFuel`): "no `outOfFuel` ⇒ more fuel gives the same
  result" is FALSE for the model (counterexample in `Props/C08`).  The ghost functions `okRec` … mirror
  the call tree and say "no call of this tree was made with fuel 0"; under it the fuel is unobservable.
-/
import Resolved.Proofs.ResolverMachineSteps

namespace Resolved

open Gen

/- The bodies are written out in full: the named pieces of the ghost (`okUpstream`, `okAfterTry`, `okAfterQuery`,
   below) mention `okLoop` and `okComb`, so the mutual definition cannot mention them; `okRec_succ` and
   `okLoop_succ` say (by `rfl`) that the two spellings agree. -/
mutual

/-- no call in the call tree of `resolveRec cfg fuel st q` runs out of fuel. -/
def okRec (cfg : RecCfg) : Nat → St → Question → Bool
  | 0, _, _ => false
  | fuel + 1, st, q =>
    if st.run.timedOut then true
    else if st.ctx.atRecursionLimit then true
    else if st.ctx.isDuplicate q then true
    else
      match (resolveLocal (RECURSION_LIMIT + 1) st.ctx q).2 with
      | .ok (.done _) => true
      | .ok (.cname rrs cq) => okComb cfg fuel ⟨(resolveLocal (RECURSION_LIMIT + 1) st.ctx q).1.push q, st.run⟩ rrs cq
      | other =>
        match (initialCandidates ⟨(resolveLocal (RECURSION_LIMIT + 1) st.ctx q).1.push q, st.run⟩ q other).2 with
        | none => true
        | some c =>
          okLoop cfg fuel (initialCandidates ⟨(resolveLocal (RECURSION_LIMIT + 1) st.ctx q).1.push q, st.run⟩ q other).1
            q (initialCombined other) c.matchCount c.hostnames [] true

def okLoop (cfg : RecCfg) : Nat → St → Question → List RR → Nat → List Name → List Name → Bool → Bool
  | 0, _, _, _, _, _, _, _ => false
  | fuel + 1, st, q, combined, mc, cands, next, locally =>
    if st.run.timedOut then true
    else
      match cands.getLast? with
      | none => true
      | some candidate =>
        okTry cfg fuel st locally candidate (rtypesFor cfg.mode) &&
        (if (tryTypes cfg fuel st locally candidate (rtypesFor cfg.mode)).1.run.timedOut then true
         else
           match (tryTypes cfg fuel st locally candidate (rtypesFor cfg.mode)).2 with
           | some addr =>
             if (queryNameserver cfg.oracle (tryTypes cfg fuel st locally candidate (rtypesFor cfg.mode)).1.run
                  addr cfg.port q false).1.timedOut then true
             else
               match (queryNameserver cfg.oracle (tryTypes cfg fuel st locally candidate (rtypesFor cfg.mode)).1.run
                  addr cfg.port q false).2.bind (fun res => validateNameserverResponse q res mc) with
               | some (.answer _ _) => true
               | some (.delegation rrs hostnames name) =>
                 match glueFor q rrs with
                 | some _ => true
                 | none =>
                   okLoop cfg fuel
                     ⟨(tryTypes cfg fuel st locally candidate (rtypesFor cfg.mode)).1.ctx.cacheInsertAll rrs,
                      (queryNameserver cfg.oracle (tryTypes cfg fuel st locally candidate (rtypesFor cfg.mode)).1.run
                        addr cfg.port q false).1⟩
                     q combined name.labels.length (cfg.hostOrder hostnames) [] true
               | some (.cname rrs cname) =>
                 okComb cfg fuel
                   ⟨(tryTypes cfg fuel st locally candidate (rtypesFor cfg.mode)).1.ctx.cacheInsertAll rrs,
                    (queryNameserver cfg.oracle (tryTypes cfg fuel st locally candidate (rtypesFor cfg.mode)).1.run
                      addr cfg.port q false).1⟩
                   (prioritisingMerge combined rrs) { name := cname, qclass := q.qclass, qtype := q.qtype }
               | none => true
           | none =>
             if locally then
               if cands.dropLast.isEmpty then
                 okLoop cfg fuel (tryTypes cfg fuel st locally candidate (rtypesFor cfg.mode)).1 q combined mc
                   (next ++ [candidate]) [] false
               else
                 okLoop cfg fuel (tryTypes cfg fuel st locally candidate (rtypesFor cfg.mode)).1 q combined mc
                   cands.dropLast (next ++ [candidate]) true
             else
               okLoop cfg fuel (tryTypes cfg fuel st locally candidate (rtypesFor cfg.mode)).1 q combined mc
                 cands.dropLast next false)

def okComb (cfg : RecCfg) : Nat → St → List RR → Question → Bool
  | 0, _, _, _ => false
  | fuel + 1, st, _, q => okRec cfg fuel st q

def okTry (cfg : RecCfg) : Nat → St → Bool → Name → List Nat → Bool
  | 0, _, _, _, _ => false
  | _ + 1, _, _, _, [] => true
  | fuel + 1, st, locally, hostname, rtype :: more =>
    if st.run.timedOut then true
    else
      (locally || okRec cfg fuel st { name := hostname, qclass := CLASS_IN, qtype := rtype }) &&
      (match (lookupStep cfg fuel st locally hostname rtype).2 with
       | some _ => true
       | none => okTry cfg fuel (lookupStep cfg fuel st locally hostname rtype).1 locally hostname more)

end

def okUpstream (cfg : RecCfg) (fuel : Nat) (st2 : St) (q : Question)
    (other : Except ResolutionError LocalResult) : Bool :=
  match (initialCandidates st2 q other).2 with
  | none => true
  | some c =>
    okLoop cfg fuel (initialCandidates st2 q other).1 q (initialCombined other) c.matchCount c.hostnames [] true

theorem okRec_succ (cfg : RecCfg) (fuel : Nat) (st : St) (q : Question) :
    okRec cfg (fuel + 1) st q =
      if st.run.timedOut then true
      else if st.ctx.atRecursionLimit then true
      else if st.ctx.isDuplicate q then true
      else
        match (resolveLocal (RECURSION_LIMIT + 1) st.ctx q).2 with
        | .ok (.done _) => true
        | .ok (.cname rrs cq) =>
          okComb cfg fuel ⟨(resolveLocal (RECURSION_LIMIT + 1) st.ctx q).1.push q, st.run⟩ rrs cq
        | other => okUpstream cfg fuel ⟨(resolveLocal (RECURSION_LIMIT + 1) st.ctx q).1.push q, st.run⟩ q other := by
  rw [okRec]
  rfl

/-- the ghost of `loopQuery` / `loopAfterReply`; takes what `queryNameserver` returned, so that a goal
    holds that call once. -/
def okAfterQuery (cfg : RecCfg) (fuel : Nat) (q : Question) (combined : List RR) (mc : Nat) (ctx : Ctx)
    (qn : Run × Option Message) : Bool :=
  if qn.1.timedOut then true
  else
    match qn.2.bind (fun res => validateNameserverResponse q res mc) with
    | some (.answer _ _) => true
    | some (.delegation rrs hostnames name) =>
      match glueFor q rrs with
      | some _ => true
      | none =>
        okLoop cfg fuel ⟨ctx.cacheInsertAll rrs, qn.1⟩ q combined name.labels.length (cfg.hostOrder hostnames) [] true
    | some (.cname rrs cname) =>
      okComb cfg fuel ⟨ctx.cacheInsertAll rrs, qn.1⟩ (prioritisingMerge combined rrs)
        { name := cname, qclass := q.qclass, qtype := q.qtype }
    | none => true

/-- the ghost of the loop body after the address lookup; takes what `tryTypes` returned. -/
def okAfterTry (cfg : RecCfg) (fuel : Nat) (q : Question) (combined : List RR) (mc : Nat) (candidate : Name)
    (rest next : List Name) (locally : Bool) (p : St × Option FieldVal) : Bool :=
  if p.1.run.timedOut then true
  else
    match p.2 with
    | some addr =>
      okAfterQuery cfg fuel q combined mc p.1.ctx (queryNameserver cfg.oracle p.1.run addr cfg.port q false)
    | none =>
      if locally then
        if rest.isEmpty then okLoop cfg fuel p.1 q combined mc (next ++ [candidate]) [] false
        else okLoop cfg fuel p.1 q combined mc rest (next ++ [candidate]) true
      else okLoop cfg fuel p.1 q combined mc rest next false

theorem okLoop_succ (cfg : RecCfg) (fuel : Nat) (st : St) (q : Question) (combined : List RR)
    (mc : Nat) (cands next : List Name) (locally : Bool) :
    okLoop cfg (fuel + 1) st q combined mc cands next locally =
      if st.run.timedOut then true
      else
        match cands.getLast? with
        | none => true
        | some candidate =>
          okTry cfg fuel st locally candidate (rtypesFor cfg.mode) &&
          okAfterTry cfg fuel q combined mc candidate cands.dropLast next locally
            (tryTypes cfg fuel st locally candidate (rtypesFor cfg.mode)) := by
  rw [okLoop]
  rfl

/-- once the ghost says fuel `n` sufficed, one unit more changes neither the value nor the ghost's verdict
    (for each of the four functions). -/
def FuelStable (cfg : RecCfg) (n : Nat) : Prop :=
  (∀ st q, okRec cfg n st q = true →
    resolveRec cfg (n + 1) st q = resolveRec cfg n st q ∧ okRec cfg (n + 1) st q = true) ∧
  (∀ st q combined mc cands next locally, okLoop cfg n st q combined mc cands next locally = true →
    candidateLoop cfg (n + 1) st q combined mc cands next locally =
      candidateLoop cfg n st q combined mc cands next locally ∧
    okLoop cfg (n + 1) st q combined mc cands next locally = true) ∧
  (∀ st rrs q, okComb cfg n st rrs q = true →
    resolveCombined cfg (n + 1) st rrs q = resolveCombined cfg n st rrs q ∧ okComb cfg (n + 1) st rrs q = true) ∧
  (∀ st locally host types, okTry cfg n st locally host types = true →
    tryTypes cfg (n + 1) st locally host types = tryTypes cfg n st locally host types ∧
    okTry cfg (n + 1) st locally host types = true)

/-- `FuelStable`, and the results at fuel `n` are not `outOfFuel`. -/
def FuelSettled (cfg : RecCfg) (n : Nat) : Prop :=
  (∀ st q, okRec cfg n st q = true →
    resolveRec cfg (n + 1) st q = resolveRec cfg n st q ∧ okRec cfg (n + 1) st q = true ∧
    (resolveRec cfg n st q).2 ≠ .error .outOfFuel) ∧
  (∀ st q combined mc cands next locally, okLoop cfg n st q combined mc cands next locally = true →
    candidateLoop cfg (n + 1) st q combined mc cands next locally =
      candidateLoop cfg n st q combined mc cands next locally ∧
    okLoop cfg (n + 1) st q combined mc cands next locally = true ∧
    (candidateLoop cfg n st q combined mc cands next locally).2 ≠ .error .outOfFuel) ∧
  (∀ st rrs q, okComb cfg n st rrs q = true →
    resolveCombined cfg (n + 1) st rrs q = resolveCombined cfg n st rrs q ∧ okComb cfg (n + 1) st rrs q = true ∧
    (resolveCombined cfg n st rrs q).2 ≠ .error .outOfFuel) ∧
  (∀ st locally host types, okTry cfg n st locally host types = true →
    tryTypes cfg (n + 1) st locally host types = tryTypes cfg n st locally host types ∧
    okTry cfg (n + 1) st locally host types = true)

abbrev NoOOF (p : St × Except ResolutionError ResolvedRecord) : Prop := p.2 ≠ .error .outOfFuel

/-- after the step equations the goal of `fuel_settled` is a conjunction of three `if`s on one condition (value at
    `n + 1` against value at `n`, ghost at `n + 1`, `NoOOF`); `refine settled_if …` matches it as a whole. -/
theorem settled_if {c : Prop} [Decidable c] {a a' b b' : St × Except ResolutionError ResolvedRecord}
    {oa ob oa' ob' : Bool} (h : (if c then oa else ob) = true) (ha : c → oa = true → a' = a ∧ oa' = true ∧ NoOOF a)
    (hb : ¬c → ob = true → b' = b ∧ ob' = true ∧ NoOOF b) :
    (if c then a' else b') = (if c then a else b) ∧ (if c then oa' else ob') = true ∧
      NoOOF (if c then a else b) := by
  by_cases hc : c
  · rw [if_pos hc] at h
    rw [if_pos hc, if_pos hc, if_pos hc]; exact ha hc h
  · rw [if_neg hc] at h
    rw [if_neg hc, if_neg hc, if_neg hc]; exact hb hc h

/-- … when the `if` is an early exit with an error that is the same at every fuel. -/
theorem settled_exit {c : Prop} [Decidable c] {st : St} {e : ResolutionError}
    {b b' : St × Except ResolutionError ResolvedRecord} {ob ob' : Bool} (he : e ≠ .outOfFuel)
    (h : (if c then true else ob) = true) (hb : ¬c → ob = true → b' = b ∧ ob' = true ∧ NoOOF b) :
    (if c then (st, .error e) else b') = (if c then (st, .error e) else b) ∧ (if c then true else ob') = true ∧
      NoOOF (if c then (st, .error e) else b) :=
  settled_if h (fun _ _ => ⟨rfl, rfl, fun h => he (Except.error.inj h)⟩) hb

/-- every leaf is the same value at both fuels and not `outOfFuel`; every inner call is settled by the
    induction hypothesis. -/
theorem fuel_settled (cfg : RecCfg) : ∀ n, FuelSettled cfg n := by
  intro n
  induction n with
  | zero =>
    refine ⟨?_, ?_, ?_, ?_⟩
    · intro st q h; rw [okRec] at h; cases h
    · intro st q combined mc cands next locally h; rw [okLoop] at h; cases h
    · intro st rrs q h; rw [okComb] at h; cases h
    · intro st locally host types h; rw [okTry] at h; cases h
  | succ n ih =>
    obtain ⟨ihR, ihL, ihC, ihT⟩ := ih
    refine ⟨?_, ?_, ?_, ?_⟩
    · intro st q h
      rw [okRec_succ] at h
      rw [resolveRec_succ cfg (n + 1), resolveRec_succ cfg n, okRec_succ]
      unfold machineEntry
      refine settled_exit nofun h fun _ h =>
        settled_exit nofun h fun _ h =>
        settled_exit nofun h fun _ h => ?_
      generalize (resolveLocal (RECURSION_LIMIT + 1) st.ctx q).2 = loc at h ⊢
      generalize (resolveLocal (RECURSION_LIMIT + 1) st.ctx q).1 = ctx1 at h ⊢
      have hup : ∀ other, okUpstream cfg n ⟨ctx1.push q, st.run⟩ q other = true →
          recUpstream cfg (n + 1) ⟨ctx1.push q, st.run⟩ q other = recUpstream cfg n ⟨ctx1.push q, st.run⟩ q other ∧
          okUpstream cfg (n + 1) ⟨ctx1.push q, st.run⟩ q other = true ∧
          (recUpstream cfg n ⟨ctx1.push q, st.run⟩ q other).2 ≠ .error .outOfFuel := by
        intro other h
        unfold okUpstream at h ⊢
        unfold recUpstream
        generalize initialCandidates ⟨ctx1.push q, st.run⟩ q other = ic at h ⊢
        obtain ⟨st3, cand⟩ := ic
        cases cand with
        | none => exact ⟨rfl, rfl, nofun⟩
        | some c =>
          obtain ⟨e, o, no⟩ := ihL _ _ _ _ _ _ _ h
          simp only [e]
          exact ⟨trivial, o, no⟩
      cases loc with
      | error e => exact hup _ h
      | ok lr =>
        cases lr with
        | done r => exact ⟨rfl, rfl, nofun⟩
        | cname rrs cq =>
          obtain ⟨e, o, no⟩ := ihC _ _ _ h
          simp only [e]
          exact ⟨trivial, o, no⟩
        | partialAnswer rrs => exact hup _ h
        | delegation rrs soa d => exact hup _ h
    · intro st q combined mc cands next locally h
      rw [okLoop_succ] at h
      rw [candidateLoop_succ cfg (n + 1), candidateLoop_succ cfg n, okLoop_succ]
      refine settled_exit nofun h fun _ h => ?_
      generalize cands.getLast? = last at h ⊢
      cases last with
      | none => exact ⟨rfl, rfl, nofun⟩
      | some candidate =>
        rw [Bool.and_eq_true] at h
        obtain ⟨hT, hrest⟩ := h
        obtain ⟨eT, oT⟩ := ihT _ _ _ _ hT
        simp only [eT, oT, Bool.true_and]
        generalize tryTypes cfg n st locally candidate (rtypesFor cfg.mode) = p at hrest ⊢
        obtain ⟨st1, ip⟩ := p
        simp only [okAfterTry] at hrest ⊢
        refine settled_exit nofun hrest fun _ hrest => ?_
        cases ip with
        | none =>
          simp only [loopNoAddr] at hrest ⊢
          exact settled_if hrest
            (fun _ h => settled_if h (fun _ => ihL _ _ _ _ _ _ _) (fun _ => ihL _ _ _ _ _ _ _))
            (fun _ => ihL _ _ _ _ _ _ _)
        | some addr =>
          simp only [loopQuery, okAfterQuery] at hrest ⊢
          generalize queryNameserver cfg.oracle st1.run addr cfg.port q false = qn at hrest ⊢
          obtain ⟨run2, reply⟩ := qn
          refine settled_exit nofun hrest fun _ hrest => ?_
          generalize (reply.bind fun res => validateNameserverResponse q res mc) = validated at hrest ⊢
          cases validated with
          | none => exact ⟨rfl, rfl, nofun⟩
          | some resp =>
            cases resp with
            | answer rrs soa => exact ⟨rfl, rfl, nofun⟩
            | cname rrs c => exact ihC _ _ _ hrest
            | delegation rrs hs zone =>
              simp only [loopAfterReply] at hrest ⊢
              generalize glueFor q rrs = glue at hrest ⊢
              cases glue with
              | some rr => exact ⟨rfl, rfl, nofun⟩
              | none => exact ihL _ _ _ _ _ _ _ hrest
    · -- resolveCombined: `outOfFuel` of the nested `resolveRec` is the only way to `outOfFuel`
      intro st rrs q h
      rw [okComb] at h
      rw [resolveCombined_succ cfg (n + 1), resolveCombined_succ cfg n, okComb]
      obtain ⟨e, o, no⟩ := ihR _ _ h
      rw [e]
      exact ⟨rfl, o, fun h => no (combinedResult_outOfFuel h)⟩
    · intro st locally host types h
      cases types with
      | nil => rw [tryTypes_nil, tryTypes_nil, okTry]; exact ⟨rfl, rfl⟩
      | cons t more =>
        rw [okTry] at h
        rw [tryTypes_cons cfg (n + 1), tryTypes_cons cfg n, okTry]
        by_cases ht : st.run.timedOut = true
        · simp only [if_pos ht, and_self]
        simp only [if_neg ht, Bool.and_eq_true, Bool.or_eq_true] at h ⊢
        obtain ⟨h1, h2⟩ := h
        have hstep : lookupStep cfg (n + 1) st locally host t = lookupStep cfg n st locally host t ∧
            (locally = true ∨ okRec cfg (n + 1) st { name := host, qclass := CLASS_IN, qtype := t } = true) := by
          rcases h1 with h1 | h1
          · exact ⟨lookupStep_fuel (Or.inl h1), Or.inl h1⟩
          · obtain ⟨e, o, _⟩ := ihR _ _ h1
            exact ⟨lookupStep_fuel (Or.inr e), Or.inr o⟩
        rw [hstep.1]
        cases hs : (lookupStep cfg n st locally host t).2 with
        | some a => exact ⟨rfl, hstep.2, rfl⟩
        | none =>
          rw [hs] at h2
          obtain ⟨e, o⟩ := ihT _ _ _ _ h2
          exact ⟨e, hstep.2, o⟩

theorem fuel_stable (cfg : RecCfg) (n : Nat) : FuelStable cfg n := by
  obtain ⟨hR, hL, hC, hT⟩ := fuel_settled cfg n
  exact ⟨fun st q h => ⟨(hR st q h).1, (hR st q h).2.1⟩,
    fun st q combined mc cands next locally h =>
      ⟨(hL st q combined mc cands next locally h).1, (hL st q combined mc cands next locally h).2.1⟩,
    fun st rrs q h => ⟨(hC st rrs q h).1, (hC st rrs q h).2.1⟩, hT⟩

theorem fuel_stable_le (cfg : RecCfg) (n m : Nat) (hm : n ≤ m) (st : St) (q : Question)
    (h : okRec cfg n st q = true) :
    resolveRec cfg m st q = resolveRec cfg n st q ∧ okRec cfg m st q = true := by
  induction hm with
  | refl => exact ⟨rfl, h⟩
  | step _ ih =>
    obtain ⟨e, o⟩ := ih
    obtain ⟨e', o'⟩ := (fuel_stable cfg _).1 st q o
    exact ⟨e'.trans e, o'⟩

theorem okRec_not_outOfFuel (cfg : RecCfg) (n : Nat) (st : St) (q : Question) (h : okRec cfg n st q = true) :
    (resolveRec cfg n st q).2 ≠ .error .outOfFuel :=
  ((fuel_settled cfg n).1 st q h).2.2

end Resolved
