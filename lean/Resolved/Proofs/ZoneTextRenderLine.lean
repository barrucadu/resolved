/-
  C11: the tokeniser inverts the renderings of the specification (Spec/ZoneTextSpec.lean).  Tokens: bare, `\X`,
  `\DDD` per octet in any mixture, quoted or not (`tokText_renderToken`).  Lines: separators, parenthesised
  multi-line layout, comments, both line ends (`tokenise_lineBody_lineEnd`, `tokenise_directive`), with the structural
  atoms of the renderings.
-/
import Resolved.Spec.ZoneTextSpec
import Resolved.Proofs.ZoneTextGaps

namespace Resolved.ZoneText

open Resolved Resolved.IpText ZTSpec

/-! ## single octets -/

/-- `q` is the renderer's view of the state, `i` the octet's position in the token. -/
theorem bareOk_plainIn {q : Bool} {i : Nat} {b : UInt8} {st : TState} (h : bareOk q i b = true)
    (hq : q = true ↔ st = .quotedString) (hst : st ≠ .skipToEndOfComment) (h0 : st = .initial → i = 0) :
    plainIn st (octetAsChar b) = true := by
  simp only [bareOk, isWs, Bool.and_eq_true, decide_eq_true_eq, bne_iff_ne, ne_eq, ← UInt8.toNat_inj] at h
  obtain ⟨⟨h128, h92⟩, h⟩ := h
  have h92 : b.toNat ≠ 92 := h92
  cases q with
  | true =>
    obtain rfl := hq.mp rfl
    have h34 : b.toNat ≠ 34 := by simpa [← UInt8.toNat_inj] using h
    exact plainIn_octet hst h128 h92 (fun _ => h34) (fun hn => absurd rfl hn) nofun
  | false =>
    have hnq : st ≠ .quotedString := fun hs => Bool.false_ne_true (hq.mpr hs)
    simp only [Bool.false_eq_true, if_false, Bool.and_eq_true, Bool.not_eq_true', Bool.or_eq_false_iff,
      Bool.and_eq_false_iff, decide_eq_false_iff_not, beq_eq_false_iff_ne, bne_iff_ne, ne_eq, Bool.or_eq_true,
      ← UInt8.toNat_inj] at h
    obtain ⟨⟨⟨hws, h32⟩, h59⟩, hpos⟩ := h
    have hpos' : st = .initial → b.toNat ≠ 40 ∧ b.toNat ≠ 41 ∧ b.toNat ≠ 34 := fun hs =>
      hpos.elim (fun hi => absurd (h0 hs) hi) (fun ⟨⟨a, b⟩, c⟩ => ⟨a, b, c⟩)
    exact plainIn_octet hst h128 h92 (fun hs => absurd hs hnq) (fun _ => ⟨by omega, h32, h59⟩) hpos'

theorem structural_plainIn {st : TState} (hst : st ≠ .skipToEndOfComment) (b : UInt8)
    (h : b.toNat = 46 ∨ b.toNat = 64 ∨ b.toNat = 42) : plainIn st (octetAsChar b) = true :=
  plainIn_octet hst (by omega) (by omega) (fun _ => by omega) (fun _ => by omega) (fun _ => by omega)

theorem decimalEscape_eq (b : UInt8) :
    decimalEscape b = ['\\', Char.ofNat (b.toNat / 100 % 10 + 48), Char.ofNat (b.toNat / 10 % 10 + 48),
      Char.ofNat (b.toNat % 10 + 48)] := by
  have hb := b.toNat_lt
  unfold decimalEscape
  have e1 : 48 + b.toNat / 100 = b.toNat / 100 % 10 + 48 := by omega
  have e2 : 48 + b.toNat / 10 % 10 = b.toNat / 10 % 10 + 48 := by omega
  have e3 : 48 + b.toNat % 10 = b.toNat % 10 + 48 := by omega
  rw [e1, e2, e3]

/-! ## one atom -/

/-- an atom marked structural is written bare whatever it is, so it must be one of the octets the renderings mark so,
    `.`, `@`, `*`, which are plain in every state. -/
def StructuralOk (a : Atom) : Prop := a.2 = .structural → (a.1.toNat = 46 ∨ a.1.toNat = 64 ∨ a.1.toNat = 42)

theorem renderOctet_cases (quoted : Bool) (f : OForm) (i : Nat) (a : Atom) (ha : StructuralOk a) :
    (renderOctet quoted f i a = [octetAsChar a.1] ∧
      ((a.1.toNat = 46 ∨ a.1.toNat = 64 ∨ a.1.toNat = 42) ∨ bareOk quoted i a.1 = true)) ∨
    (renderOctet quoted f i a = ['\\', octetAsChar a.1] ∧ a.1.toNat < 128 ∧ ¬ (48 ≤ a.1.toNat ∧ a.1.toNat ≤ 57)) ∨
    renderOctet quoted f i a = decimalEscape a.1 := by
  obtain ⟨b, k⟩ := a
  have hbs : (if b.toNat < 128 && !isDigitOctet b then ['\\', Char.ofNat b.toNat] else decimalEscape b)
        = ['\\', octetAsChar b] ∧ b.toNat < 128 ∧ ¬ (48 ≤ b.toNat ∧ b.toNat ≤ 57) ∨
      (if b.toNat < 128 && !isDigitOctet b then ['\\', Char.ofNat b.toNat] else decimalEscape b)
        = decimalEscape b := by
    split
    · rename_i hb
      simp only [Bool.and_eq_true, decide_eq_true_eq, Bool.not_eq_true', isDigitOctet, Bool.and_eq_false_iff,
        decide_eq_false_iff_not] at hb
      exact Or.inl ⟨rfl, hb.1, fun h => hb.2.elim (fun h' => h' h.1) (fun h' => h' h.2)⟩
    · exact Or.inr rfl
  unfold renderOctet
  cases k with
  | structural => exact Or.inl ⟨rfl, Or.inl (ha rfl)⟩
  | plain =>
    cases f with
    | bare =>
      simp only
      split
      · rename_i hb
        simp only [beq_self_eq_true, Bool.true_and] at hb
        exact Or.inl ⟨rfl, Or.inr hb⟩
      · exact Or.inr (Or.inr rfl)
    | backslash => exact Or.inr hbs
    | decimal => exact Or.inr (Or.inr rfl)
  | literal =>
    cases f with
    | bare => exact Or.inr (Or.inr rfl)
    | backslash => exact Or.inr hbs
    | decimal => exact Or.inr (Or.inr rfl)

theorem tokLoop_renderOctet {q : Bool} {st : TState} (hst : st ≠ .skipToEndOfComment)
    (hq : q = true ↔ st = .quotedString) (f : OForm) (i : Nat) (h0 : st = .initial → i = 0) (a : Atom)
    (ha : StructuralOk a) (rest : List Char) (rtoks : List Token) (rstr : List Char) (roct : List UInt8) (lc : Bool) :
    tokLoop 0 (renderOctet q f i a ++ rest) rtoks rstr roct st lc
      = tokLoop 0 rest rtoks (octetAsChar a.1 :: rstr) (a.1 :: roct) (inToken st) lc := by
  rcases renderOctet_cases q f i a ha with ⟨h, hp⟩ | ⟨h, h1, h2⟩ | h <;> rw [h]
  · have : plainIn st (octetAsChar a.1) = true :=
      hp.elim (structural_plainIn hst _) (fun hb => bareOk_plainIn hb hq hst h0)
    rw [List.singleton_append, tokLoop_plain this, charAsU8_octetAsChar]
  · exact tokLoop_backslash_octet hst a.1 h1 h2 rest rtoks rstr roct lc
  · rw [decimalEscape_eq]
    exact tokLoop_decimal_octet hst a.1 rest rtoks rstr roct lc

/-! ## whole tokens -/

theorem tokLoop_renderOctetsFrom {q : Bool} {st : TState} (hst : st ≠ .skipToEndOfComment)
    (hq : q = true ↔ st = .quotedString) (hin : inToken st = st) (pattern : List OForm) (atoms : List Atom) :
    ∀ (i : Nat) (rest : List Char) (rtoks : List Token) (rstr : List Char) (roct : List UInt8) (lc : Bool),
    (∀ a ∈ atoms, StructuralOk a) →
    tokLoop 0 (renderOctetsFrom q pattern i atoms ++ rest) rtoks rstr roct st lc
      = tokLoop 0 rest rtoks (((atomOctets atoms).map octetAsChar).reverse ++ rstr)
          ((atomOctets atoms).reverse ++ roct) st lc := by
  have hni : st ≠ .initial := fun h => by subst h; cases hin
  induction atoms with
  | nil => intros; rfl
  | cons a as ih =>
    intro i rest rtoks rstr roct lc hs
    simp only [renderOctetsFrom, List.append_assoc]
    rw [tokLoop_renderOctet hst hq _ _ (fun h => absurd h hni) _ (hs a (by simp)), hin,
      ih _ _ _ _ _ _ (fun x hx => hs x (by simp [hx]))]
    simp [atomOctets]

theorem tokLoop_renderToken_quoted (tv : TokVar) (atoms : List Atom) (hq : tv.quoted = true ∨ atoms = [])
    (hs : ∀ a ∈ atoms, StructuralOk a) (rest : List Char) (rtoks : List Token) (lc : Bool) :
    tokLoop 0 (renderToken tv atoms ++ rest) rtoks [] [] .initial lc
      = tokLoop 0 rest (((atomOctets atoms).map octetAsChar, atomOctets atoms) :: rtoks) [] [] .initial lc := by
  have hq' : (tv.quoted || atoms.isEmpty) = true := by
    rcases hq with h | h
    · simp [h]
    · subst h; simp
  unfold renderToken
  simp only [hq', if_true, List.append_assoc, List.cons_append, List.nil_append]
  rw [tokLoop_quote_open, tokLoop_renderOctetsFrom (st := .quotedString) (by decide) (by simp) rfl _ _ _ _ _ _ _ _ hs,
    tokLoop_quote_close]
  simp

theorem tokLoop_renderToken_unquoted (tv : TokVar) (atoms : List Atom) (hq : tv.quoted = false)
    (hne : atoms ≠ []) (hs : ∀ a ∈ atoms, StructuralOk a) (rest : List Char) (rtoks : List Token) (lc : Bool) :
    tokLoop 0 (renderToken tv atoms ++ rest) rtoks [] [] .initial lc
      = tokLoop 0 rest rtoks ((atomOctets atoms).map octetAsChar).reverse (atomOctets atoms).reverse
          .unquotedString lc := by
  cases atoms with
  | nil => exact absurd rfl hne
  | cons a as =>
    unfold renderToken
    simp only [hq, List.isEmpty_cons, Bool.or_false, Bool.false_eq_true, if_false, List.nil_append,
      List.append_nil, renderOctetsFrom, List.append_assoc]
    rw [tokLoop_renderOctet (st := .initial) (by decide) (by simp) _ _ (fun _ => rfl) _ (hs a (by simp))]
    show tokLoop 0 _ _ _ _ .unquotedString lc = _
    rw [tokLoop_renderOctetsFrom (st := .unquotedString) (by decide) (by simp) rfl _ _ _ _ _ _ _ _
      (fun x hx => hs x (by simp [hx]))]
    simp [atomOctets]

/-- the token the tokeniser hands over for these atoms: their octets as chars, and their octets. -/
def tokenOf (atoms : List Atom) : Token := ((atomOctets atoms).map octetAsChar, atomOctets atoms)

/-- a `closed` text when written in quotes (the empty token always is), otherwise an `opened` one. -/
theorem tokText_renderToken (tv : TokVar) (atoms : List Atom) (hs : ∀ a ∈ atoms, StructuralOk a) :
    TokText (renderToken tv atoms) (tokenOf atoms) := by
  by_cases hq : tv.quoted = true ∨ atoms = []
  · exact .closed fun lc rest rtoks => tokLoop_renderToken_quoted tv atoms hq hs rest rtoks lc
  · have hq1 : tv.quoted = false := by
      cases h : tv.quoted with
      | false => rfl
      | true => exact absurd (Or.inl h) hq
    have hne : atoms ≠ [] := fun h => hq (Or.inr h)
    exact .opened (by simpa [tokenOf, atomOctets] using hne)
      fun lc rest rtoks => tokLoop_renderToken_unquoted tv atoms hq1 hne hs rest rtoks lc

/-! ## the gaps of a rendered line -/

theorem sepText_blank (k : Nat) : sepText k ≠ [] ∧ ∀ c ∈ sepText k, isBlank c := by
  unfold sepText
  split <;> simp [isBlank]

theorem gap_sep (k : Nat) (lc : Bool) : Gap (sepText k) lc lc :=
  gap_blanks _ (sepText_blank k).1 (sepText_blank k).2 lc

theorem skip_sep (k : Nat) (lc : Bool) : Skip (sepText k) lc lc := (gap_sep k lc).init

section line
variable (lv : LineVar) (eol : List Char) (n : Nat)

/-- are the parentheses of the variant in use on a line of `n` tokens?  (`ZTSpec.gapText` and
    `ZTSpec.renderLine` each test this and clip the closing index, `closeIdx` below, in their own words.) -/
def parenOn : Prop := ¬ (lv.openAt = 0 ∨ lv.openAt ≥ n)

instance : Decidable (parenOn lv n) := by unfold parenOn; infer_instance

def closeIdx : Nat := min (max lv.closeAt lv.openAt) (n - 1)

/-- the parenthesis flag of the tokeniser after token `k - 1` (before the gap that precedes token `k`). -/
def lcBefore (k : Nat) : Bool := decide (parenOn lv n ∧ lv.openAt < k ∧ k ≤ closeIdx lv n + 1)

theorem lcBefore_off (hp : lv.openAt = 0 ∨ lv.openAt ≥ n) (k : Nat) : lcBefore lv n k = false :=
  decide_eq_false (fun h => h.1 hp)

theorem lcBefore_on (hp : parenOn lv n) (k : Nat) :
    lcBefore lv n k = decide (lv.openAt < k ∧ k ≤ closeIdx lv n + 1) := by
  simp only [lcBefore, hp, true_and]

theorem lcBefore_one : lcBefore lv n 1 = false := by
  unfold lcBefore parenOn
  apply decide_eq_false
  intro ⟨h1, h2, _⟩
  have : lv.openAt ≠ 0 := fun h => h1 (Or.inl h)
  omega

/-- the flag before and after the gap in front of token `k`, by where `k` lies between opening index `a` and closing index `c`. -/
theorem paren_flag (a c k : Nat) (hac : a ≤ c) :
    (k = a → ¬ (a < k ∧ k ≤ c + 1) ∧ (a < k + 1 ∧ k + 1 ≤ c + 1)) ∧
    (a < k ∧ k ≤ c → (a < k ∧ k ≤ c + 1) ∧ (a < k + 1 ∧ k + 1 ≤ c + 1)) ∧
    (k = c + 1 → (a < k ∧ k ≤ c + 1) ∧ ¬ (a < k + 1 ∧ k + 1 ≤ c + 1)) ∧
    (k ≠ a → ¬ (a < k ∧ k ≤ c) → k ≠ c + 1 →
      ¬ (a < k ∧ k ≤ c + 1) ∧ ¬ (a < k + 1 ∧ k + 1 ≤ c + 1)) := by
  omega

theorem gapText_gap (heol : IsEol eol) (k : Nat) :
    Gap (gapText lv eol n k) (lcBefore lv n k) (lcBefore lv n (k + 1)) := by
  unfold gapText
  simp only
  by_cases hp : lv.openAt = 0 ∨ lv.openAt ≥ n
  · rw [if_pos hp, lcBefore_off lv n hp, lcBefore_off lv n hp]
    exact gap_sep _ _
  · rw [if_neg hp, lcBefore_on lv n hp, lcBefore_on lv n hp]
    have ho0 : lv.openAt ≠ 0 := fun h => hp (Or.inl h)
    have hclose : (if lv.openAt = 0 then 0 else min (max lv.closeAt lv.openAt) (n - 1)) = closeIdx lv n := by
      rw [if_neg ho0]; rfl
    rw [hclose]
    have hoc : lv.openAt ≤ closeIdx lv n := by
      have : ¬ lv.openAt ≥ n := fun h => hp (Or.inr h)
      unfold closeIdx
      omega
    obtain ⟨f1, f2, f3, f4⟩ := paren_flag lv.openAt (closeIdx lv n) k hoc
    by_cases hk : k = lv.openAt
    · rw [if_pos hk, decide_eq_false (f1 hk).1, decide_eq_true (f1 hk).2]
      exact ((gap_sep _ false).append_skip skip_open).append_skip (skip_sep _ true)
    · rw [if_neg hk]
      by_cases hin : lv.openAt < k ∧ k ≤ closeIdx lv n
      · rw [if_pos hin, decide_eq_true (f2 hin).1, decide_eq_true (f2 hin).2]
        split
        · split
          · have hc : '\n' ∉ [' ', '(', 'c', ' ', '"'] := by decide
            have := ((gap_blank (c := ' ') (Or.inl rfl) true).append_skip
              (gap_comment_eol_inside heol _ hc).init).append_skip (skip_sep (cyc lv.seps k) true)
            simpa [commentText, List.append_assoc] using this
          · simpa using (gap_eol_inside heol).append_skip (skip_sep (cyc lv.seps k) true)
        · exact gap_sep _ _
      · rw [if_neg hin]
        by_cases hc : k = closeIdx lv n + 1
        · rw [if_pos hc, decide_eq_true (f3 hc).1, decide_eq_false (f3 hc).2]
          exact ((gap_sep _ true).append_skip skip_close).append_skip (skip_sep _ false)
        · rw [if_neg hc, decide_eq_false (f4 hk hin hc).1, decide_eq_false (f4 hk hin hc).2]
          exact gap_sep _ _

/-- token `k` is read under `lcBefore lv n (k + 1)`, the flag behind it as well as before it: no parenthesis stands
    inside a token. -/
theorem tokTexts_line (heol : IsEol eol) :
    ∀ (ts : List (List Atom)) (t : List Atom) (k : Nat),
      k + 1 + ts.length = n → (∀ a ∈ t, StructuralOk a) → (∀ x ∈ ts, ∀ a ∈ x, StructuralOk a) →
      TokTexts (lcBefore lv n (k + 1)) (renderToken (cyc lv.toks k) t ++ renderTokensFrom lv eol n (k + 1) ts)
        ((t :: ts).map tokenOf) (lcBefore lv n n) := by
  intro ts
  induction ts with
  | nil =>
    intro t k hn ht _
    have hk : k + 1 = n := by simpa using hn
    rw [renderTokensFrom, List.append_nil, hk]
    exact (tokText_renderToken _ _ ht).one _
  | cons t' ts ih =>
    intro t k hn ht hts
    have := TokTexts.cons (tokText_renderToken (cyc lv.toks k) t ht) (gapText_gap lv eol n heol (k + 1))
      (ih t' (k + 1) (by simp at hn ⊢; omega) (hts t' (by simp)) (fun x hx => hts x (by simp [hx])))
    simpa only [renderTokensFrom, Nat.succ_ne_zero, if_false, List.append_assoc, List.map_cons] using this

end line

/-! ## whole lines -/

/-- the body of `renderLine` with the token list as a parameter (`renderLine_eq`): the tokeniser lemma below is about
    any token list, not only `directiveTokens`. -/
def lineBody (lv : LineVar) (eol : List Char) (omitted : Bool) (toks : List (List Atom)) : List Char :=
  let n := toks.length
  let close := if lv.openAt = 0 ∨ lv.openAt ≥ n then 0 else min (max lv.closeAt lv.openAt) (n - 1)
  (if omitted then sepText (cyc lv.seps 0) else [])
    ++ renderTokensFrom lv eol n 0 toks
    ++ (if lv.openAt ≠ 0 ∧ lv.openAt < n ∧ close = n - 1 then [' ', ')'] else [])
    ++ (match lv.comment with | some c => [' '] ++ commentText c | none => [])

theorem renderLine_eq (lv : LineVar) (eol : List Char) (d : Directive) (h : ∀ c, d ≠ .blank c) :
    renderLine lv eol d = lineBody lv eol (ownerOmitted d) (directiveTokens lv d) := by
  cases d with
  | blank c => exact absurd rfl (h c)
  | origin n => rfl
  | «include» p o => rfl
  | record r => rfl

def CommentOk (lv : LineVar) : Prop := ∀ c, lv.comment = some c → '\n' ∉ c

/-- what stands behind a rendered line: `tailE` is the line end as written, or nothing when the line is the last of
    the input and is not terminated; `rest` is the input after it. -/
def LineEnd (eol tailE rest : List Char) : Prop := tailE = eol ∨ (tailE = [] ∧ rest = [])

theorem comment_ends_line {eol tailE rest : List Char} (heol : IsEol eol) (c : List Char) (hc : '\n' ∉ c)
    (hle : LineEnd eol tailE rest) (rtoks : List Token) :
    tokLoop 0 (';' :: c ++ tailE ++ rest) rtoks [] [] .initial false = .ok (rtoks.reverse, rest) := by
  rcases hle with rfl | ⟨rfl, rfl⟩
  · exact (enderAt_comment_eol heol c hc rest).init rtoks
  · simpa using (enderAt_comment_input c hc).init rtoks

theorem enderAt_lineEnd {eol tailE rest : List Char} (heol : IsEol eol) (c : Option (List Char))
    (hc : ∀ x, c = some x → '\n' ∉ x) (hle : LineEnd eol tailE rest) :
    EnderAt ((match (generalizing := false) c with | some c => [' '] ++ commentText c | none => []) ++ tailE) false rest := by
  cases c with
  | none =>
    rcases hle with rfl | ⟨rfl, rfl⟩
    · exact enderAt_eol heol rest
    · exact enderAt_eof
  | some x =>
    have := EnderAt.of_gap (gap_blank (c := ' ') (Or.inl rfl) false) (comment_ends_line heol x (hc x rfl) hle)
    simpa only [commentText, List.append_assoc, List.singleton_append, List.cons_append, List.nil_append] using this

theorem tokenise_lineBody_lineEnd (lv : LineVar) (eol : List Char) (heol : IsEol eol) (hc : CommentOk lv)
    (omitted : Bool) (t : List Atom) (ts : List (List Atom))
    (hs : ∀ x ∈ t :: ts, ∀ a ∈ x, StructuralOk a) (tailE rest : List Char) (hle : LineEnd eol tailE rest) :
    tokeniseEntry (lineBody lv eol omitted (t :: ts) ++ tailE ++ rest) = .ok ((t :: ts).map tokenOf, rest) := by
  have hcm := enderAt_lineEnd heol lv.comment hc hle
  -- the length as a variable, so that `lcBefore lv n` and the `if`s of `lineBody` speak of one `n`
  obtain ⟨n, hn⟩ : ∃ n, (t :: ts).length = n := ⟨_, rfl⟩
  -- the end of the entry: closing parenthesis (if still open), trailing comment, line end
  have hend : EnderAt ((if lv.openAt ≠ 0 ∧ lv.openAt < n ∧ (if lv.openAt = 0 ∨ lv.openAt ≥ n then 0
        else min (max lv.closeAt lv.openAt) (n - 1)) = n - 1 then [' ', ')'] else [])
      ++ (match lv.comment with | some c => [' '] ++ commentText c | none => []) ++ tailE) (lcBefore lv n n) rest := by
    by_cases hp : lv.openAt = 0 ∨ lv.openAt ≥ n
    · rw [lcBefore_off lv n hp, if_neg (by omega)]
      simpa using hcm
    · rw [lcBefore_on lv n hp, if_neg hp]
      by_cases hcl : min (max lv.closeAt lv.openAt) (n - 1) = n - 1
      · rw [decide_eq_true (by unfold closeIdx; omega : lv.openAt < n ∧ n ≤ closeIdx lv n + 1),
          if_pos (by omega)]
        have hg : Gap [' ', ')'] true false := (gap_blank (c := ' ') (Or.inl rfl) true).append_skip skip_close
        simpa [List.append_assoc] using EnderAt.of_gap hg hcm.init
      · rw [decide_eq_false (by unfold closeIdx; omega : ¬ (lv.openAt < n ∧ n ≤ closeIdx lv n + 1)),
          if_neg (fun h => hcl h.2.2)]
        simpa using hcm
  have htoks := tokTexts_line lv eol n heol ts t 0 (by rw [← hn, List.length_cons]; omega) (hs t (by simp))
    (fun x hx => hs x (by simp [hx]))
  rw [lcBefore_one] at htoks
  have hline : TokTexts false ((if omitted then sepText (cyc lv.seps 0) else []) ++ renderTokensFrom lv eol n 0 (t :: ts))
      ((t :: ts).map tokenOf) (lcBefore lv n n) := by
    cases omitted with
    | true => exact htoks.skip (skip_sep (cyc lv.seps 0) false)
    | false => exact htoks
  subst hn
  have := hline.tokeniseEntry hend
  simpa only [lineBody, List.append_assoc] using this

theorem tokenise_blank_line_lineEnd (lv : LineVar) (eol : List Char) (heol : IsEol eol) (c : Option (List Char))
    (hc : ∀ x, c = some x → '\n' ∉ x) (tailE rest : List Char) (hle : LineEnd eol tailE rest) :
    tokeniseEntry (renderLine lv eol (.blank c) ++ tailE ++ rest) = .ok ([], rest) := by
  unfold tokeniseEntry
  cases c with
  | none => simpa [renderLine] using (enderAt_lineEnd heol none nofun hle).init []
  | some x => simpa [renderLine, commentText] using comment_ends_line heol x (hc x rfl) hle []

/-! ## the atoms the specification renders; a directive line tokenised -/

theorem dottedLabels_structural (ls : List Label) : ∀ a ∈ ZTSpec.dottedLabels ls, StructuralOk a := by
  have hlab : ∀ l : Label, ∀ a ∈ ZTSpec.labelAtoms l, StructuralOk a := by
    intro l a ha hk
    simp only [ZTSpec.labelAtoms, List.mem_map] at ha
    obtain ⟨b, _, rfl⟩ := ha
    simp only at hk
    split at hk <;> cases hk
  induction ls with
  | nil => intro a ha; simp [ZTSpec.dottedLabels] at ha
  | cons l ls ih =>
    intro a ha
    cases ls with
    | nil => exact hlab l a (by simpa [ZTSpec.dottedLabels] using ha)
    | cons m ms =>
      simp only [ZTSpec.dottedLabels, List.mem_append, List.mem_cons, List.not_mem_nil, or_false] at ha
      rcases ha with (ha | ha) | ha
      · exact hlab l a ha
      · subst ha; exact fun _ => Or.inl rfl
      · exact ih a ha

theorem nameAtoms_structural (n : ZTSpec.NameRef) : ∀ a ∈ ZTSpec.nameAtoms n, StructuralOk a := by
  have hdot : StructuralOk ZTSpec.dot := fun _ => Or.inl rfl
  intro a ha
  unfold ZTSpec.nameAtoms at ha
  split at ha
  · simp at ha; subst ha; exact hdot
  · simp only [List.mem_append, List.mem_cons, List.not_mem_nil, or_false] at ha
    rcases ha with ha | ha
    · exact dottedLabels_structural _ a ha
    · subst ha; exact hdot
  · simp at ha; subst ha; intro hk; cases hk
  · exact dottedLabels_structural _ a ha
  · simp at ha; subst ha; exact fun _ => Or.inr (Or.inl rfl)

theorem ownerAtoms_structural (o : ZTSpec.OwnerRef) : ∀ a ∈ ZTSpec.ownerAtoms o, StructuralOk a := by
  intro a ha
  cases o with
  | name n => exact nameAtoms_structural n a ha
  | wild n =>
    simp only [ZTSpec.ownerAtoms, List.cons_append, List.nil_append, List.mem_cons] at ha
    rcases ha with ha | ha | ha
    · subst ha; exact fun _ => Or.inr (Or.inr rfl)
    · subst ha; exact fun _ => Or.inl rfl
    · exact nameAtoms_structural n a ha
  | star =>
    simp only [ZTSpec.ownerAtoms, List.mem_cons, List.not_mem_nil, or_false] at ha
    subst ha; exact fun _ => Or.inr (Or.inr rfl)

theorem plainAtoms_structural (bs : List UInt8) : ∀ a ∈ plainAtoms bs, StructuralOk a := by
  intro a ha hk
  simp only [plainAtoms, List.mem_map] at ha
  obtain ⟨b, _, rfl⟩ := ha
  cases hk

theorem fieldAtoms_structural (lv : LineVar) (f : RField) : ∀ a ∈ fieldAtoms lv f, StructuralOk a := by
  cases f with
  | name n => exact nameAtoms_structural n
  | u16 n => exact plainAtoms_structural _
  | u32 n => exact plainAtoms_structural _
  | a x => exact plainAtoms_structural _
  | aaaa gs => exact plainAtoms_structural _
  | octets bs => exact plainAtoms_structural _

theorem directiveTokens_structural (lv : LineVar) (d : Directive) :
    ∀ x ∈ directiveTokens lv d, ∀ a ∈ x, StructuralOk a := by
  intro x hx
  cases d with
  | blank c => simp [directiveTokens] at hx
  | origin n =>
    simp only [directiveTokens, List.mem_cons, List.not_mem_nil, or_false] at hx
    rcases hx with rfl | rfl
    · exact plainAtoms_structural _
    · exact nameAtoms_structural n
  | «include» p o =>
    simp only [directiveTokens, List.mem_append, List.mem_cons, List.not_mem_nil, or_false] at hx
    rcases hx with (rfl | rfl) | hx
    · exact plainAtoms_structural _
    · exact plainAtoms_structural _
    · cases o with
      | none => simp at hx
      | some n => simp at hx; subst hx; exact nameAtoms_structural n
  | record r =>
    obtain ⟨owner, ttl, cls, rtype, rdata⟩ := r
    have hmid : ∀ y ∈ (match ttl with | some t => [asciiAtoms (showDec t)] | none => ([] : List (List Atom)))
        ++ (match cls with | some c => [plainAtoms c] | none => []), ∀ a ∈ y, StructuralOk a := by
      intro y hy
      cases ttl <;> cases cls <;> simp at hy
      · subst hy; exact plainAtoms_structural _
      · subst hy; exact plainAtoms_structural _
      · rcases hy with rfl | rfl <;> exact plainAtoms_structural _
    have hmid' : ∀ y ∈ (match cls with | some c => [plainAtoms c] | none => ([] : List (List Atom)))
        ++ (match ttl with | some t => [asciiAtoms (showDec t)] | none => []), ∀ a ∈ y, StructuralOk a := by
      intro y hy
      exact hmid y (by simp only [List.mem_append] at hy ⊢; exact hy.symm)
    have howner : ∀ y ∈ (match owner with | some o => [ownerAtoms o] | none => ([] : List (List Atom))),
        ∀ a ∈ y, StructuralOk a := by
      intro y hy
      cases owner with
      | none => simp at hy
      | some ow => simp at hy; subst hy; exact ownerAtoms_structural ow
    simp only [directiveTokens, List.mem_append, List.mem_cons, List.not_mem_nil, or_false, List.mem_map] at hx
    rcases hx with ((hx | hx) | rfl) | ⟨f, _, rfl⟩
    · exact howner x hx
    · split at hx
      · exact hmid' x hx
      · exact hmid x hx
    · exact plainAtoms_structural _
    · exact fieldAtoms_structural lv f

theorem tokenise_directive (lv : LineVar) (eol : List Char) (heol : IsEol eol) (hc : CommentOk lv)
    (d : Directive) (hd : ∀ c, d ≠ .blank c) (tailE rest : List Char) (hle : LineEnd eol tailE rest) :
    tokeniseEntry (renderLine lv eol d ++ tailE ++ rest) = .ok ((directiveTokens lv d).map tokenOf, rest) := by
  rw [renderLine_eq lv eol d hd]
  have hs := directiveTokens_structural lv d
  cases h : directiveTokens lv d with
  | nil => cases d <;> first | exact absurd rfl (hd _) | simp [directiveTokens] at h
  | cons t ts =>
    rw [h] at hs
    exact tokenise_lineBody_lineEnd lv eol heol hc _ t ts hs tailE rest hle

end Resolved.ZoneText
