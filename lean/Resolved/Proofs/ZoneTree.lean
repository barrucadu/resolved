/-
  The zone tree as a tree (C02 / C12): distinct child labels throughout (`KeysNodup`); the two
  listings through `descend` (`listing w`, `mem_listing_iff`); what `ZNode.insert` does to `descend`,
  seen through the record maps of a node (`view`, `baseView`, `updView`, `insertBase`,
  `insertRev_descend_view`); the node-name invariant `NamesOK` and "insert never panics";
  `ZNode.merge` / `mergeChildren` node by node; last `Zone::insert` by cases (`Zone.insert_cases`).
-/
import Resolved.Proofs.NameLemmas
import Resolved.Proofs.ZoneBasics

namespace Resolved

namespace ZNode

/-- every node of the tree has pairwise distinct child labels (what a `HashMap` guarantees). -/
def KeysNodup (node : ZNode) : Prop :=
  ∀ p n, node.descend p = some n → (childKeys n.children).Nodup

theorem KeysNodup.child {node c : ZNode} {l : Label} (h : KeysNodup node)
    (hc : childGet node.children l = some c) : KeysNodup c := by
  intro p n hp
  apply h (l :: p) n
  simp [descend_cons, hc, hp]

theorem KeysNodup.here {node : ZNode} (h : KeysNodup node) : (childKeys node.children).Nodup :=
  h [] node rfl

theorem keysNodup_new (nsd : Name) : KeysNodup (ZNode.new nsd) := by
  intro p n hp
  cases p with
  | nil => simp at hp; subst hp; simp [ZNode.new, ZNode.children, childKeys]
  | cons l rest => simp [descend_cons, ZNode.new, ZNode.children, childGet] at hp

theorem keysNodup_of (node : ZNode) (h0 : (childKeys node.children).Nodup)
    (h1 : ∀ l c, childGet node.children l = some c → KeysNodup c) : KeysNodup node := by
  intro p n hp
  cases p with
  | nil => simp at hp; subst hp; exact h0
  | cons l rest =>
    simp only [descend_cons] at hp
    cases hc : childGet node.children l with
    | none => simp [hc] at hp
    | some c =>
      simp only [hc, Option.bind_some] at hp
      exact h1 l c hc rest n hp

/-- The induction principle for the tree: `ZNode` is a nested inductive (its children are a
    `List (Label × ZNode)`), so the `induction` tactic has no principle of its own for it; this one,
    with the hypothesis for every child, is made from `ZNode.rec` and its three motives. -/
theorem induction {P : ZNode → Prop}
    (mk : ∀ nsd this w ch, (∀ p ∈ ch, P p.2) → P (.mk nsd this w ch)) (node : ZNode) : P node :=
  ZNode.rec (motive_1 := P) (motive_2 := fun ch => ∀ p ∈ ch, P p.2) (motive_3 := fun p => P p.2)
    mk (fun _ hp => nomatch hp)
    (fun _ _ hh ht p hp => (List.mem_cons.mp hp).elim (fun e => e ▸ hh) (ht p))
    (fun _ _ h => h) node

theorem keysNodup_mk (nsd : Name) (this : RecMap) (w : Option RecMap) (ch : List (Label × ZNode)) :
    KeysNodup (.mk nsd this w ch) ↔ (childKeys ch).Nodup ∧ ∀ p ∈ ch, KeysNodup p.2 :=
  ⟨fun h => ⟨h.here, fun p hp => h.child (l := p.1) (childGet_of_mem h.here hp)⟩,
   fun h => keysNodup_of _ h.1 (fun l c hc => h.2 (l, c) (mem_of_childGet hc))⟩

/-- `all_records` and `all_wildcard_records` are one traversal: a node contributes `here`, then its
    children contribute in turn (`F` on nodes, `G` on child lists). -/
theorem mem_traversal {α : Type} {F : ZNode → List α} {G : List (Label × ZNode) → List α}
    {here : ZNode → List α}
    (hF : ∀ nsd this w ch, F (.mk nsd this w ch) = here (.mk nsd this w ch) ++ G ch)
    (hnil : G [] = []) (hcons : ∀ l c rest, G ((l, c) :: rest) = F c ++ G rest) (x : α) :
    ∀ node : ZNode, KeysNodup node → (x ∈ F node ↔ ∃ p n, node.descend p = some n ∧ x ∈ here n) := by
  have hG : ∀ ch : List (Label × ZNode), x ∈ G ch ↔ ∃ l c, (l, c) ∈ ch ∧ x ∈ F c := by
    intro ch
    induction ch with
    | nil => rw [hnil]; exact ⟨fun h => (nomatch h), fun ⟨_, _, h, _⟩ => (nomatch h)⟩
    | cons kv rest ih =>
      obtain ⟨k, v⟩ := kv
      rw [hcons, List.mem_append, ih]
      constructor
      · rintro (h | ⟨l, c, hm, hx⟩)
        · exact ⟨k, v, List.mem_cons_self, h⟩
        · exact ⟨l, c, List.mem_cons_of_mem _ hm, hx⟩
      · rintro ⟨l, c, hm, hx⟩
        rcases List.mem_cons.mp hm with heq | hm
        · cases heq; exact Or.inl hx
        · exact Or.inr ⟨l, c, hm, hx⟩
  intro node
  induction node using ZNode.induction with
  | mk nsd this w ch ih =>
    intro hk
    obtain ⟨hkeys, hch⟩ := (keysNodup_mk nsd this w ch).mp hk
    rw [hF, List.mem_append, hG]
    constructor
    · rintro (hx | ⟨l, c, hm, hx⟩)
      · exact ⟨[], _, rfl, hx⟩
      · obtain ⟨p, n, hd, hx'⟩ := (ih (l, c) hm (hch _ hm)).mp hx
        exact ⟨l :: p, n, by rw [descend_cons, children_mk, childGet_of_mem hkeys hm]; exact hd, hx'⟩
    · rintro ⟨p, n, hd, hx⟩
      cases p with
      | nil => cases hd; exact Or.inl hx
      | cons l rest =>
        rw [descend_cons, children_mk] at hd
        cases hc : childGet ch l with
        | none => rw [hc] at hd; cases hd
        | some c =>
          rw [hc] at hd
          have hm := mem_of_childGet hc
          exact Or.inr ⟨l, c, hm, (ih (l, c) hm (hch _ hm)).mpr ⟨rest, n, hd, hx⟩⟩

/-- what a node contributes to `all_records` itself (named, not a `fun`: the unifier is slow on the
    instantiated `if`). -/
def ownListing (n : ZNode) : List (Name × List ZoneRecord) :=
  if (n.this.flatMap (·.2)).isEmpty then [] else [(n.nsdname, n.this.flatMap (·.2))]

/-- what a node contributes to `all_wildcard_records` itself. -/
def ownWildListing (n : ZNode) : List (Name × List ZoneRecord) :=
  match n.wildcards with
  | some ws => if (ws.flatMap (·.2)).isEmpty then [] else [(n.nsdname, ws.flatMap (·.2))]
  | none => []

theorem mem_listing_entry {nsd : Name} {zrs : List ZoneRecord} {x : Name × List ZoneRecord} :
    x ∈ (if zrs.isEmpty then [] else [(nsd, zrs)]) ↔ x = (nsd, zrs) ∧ zrs ≠ [] := by
  cases zrs with
  | nil => exact ⟨fun h => (nomatch h), fun h => absurd rfl h.2⟩
  | cons z zs =>
    exact ⟨fun h => ⟨List.mem_singleton.mp h, List.cons_ne_nil _ _⟩, fun h => List.mem_singleton.mpr h.1⟩

/-- the two listings of the Rust under one name: `all_wildcard_records` for `w = true`, `all_records`
    for `w = false`. -/
def listing (w : Bool) (node : ZNode) : List (Name × List ZoneRecord) :=
  bif w then node.allWildcardRecords else node.allRecords

/-- what the node `nd` itself contributes to `listing w`. -/
def ownOf (w : Bool) (nd : ZNode) : List (Name × List ZoneRecord) :=
  bif w then ownWildListing nd else ownListing nd

theorem mem_listing_iff {node : ZNode} (hk : KeysNodup node) (w : Bool) (x : Name × List ZoneRecord) :
    x ∈ listing w node ↔ ∃ p nd, node.descend p = some nd ∧ x ∈ ownOf w nd := by
  cases w
  · exact mem_traversal (F := ZNode.allRecords) (G := allRecordsChildren) (here := ownListing)
      (fun _ _ _ _ => rfl) rfl (fun _ _ _ => rfl) x node hk
  · exact mem_traversal (F := ZNode.allWildcardRecords) (G := allWildcardChildren) (here := ownWildListing)
      (fun _ _ _ _ => rfl) rfl (fun _ _ _ => rfl) x node hk

theorem mem_allRecords_iff {node : ZNode} (hk : KeysNodup node) (x : Name × List ZoneRecord) :
    x ∈ node.allRecords ↔
      ∃ p n, node.descend p = some n ∧ x = (n.nsdname, n.this.flatMap (·.2)) ∧
        n.this.flatMap (·.2) ≠ [] :=
  (mem_listing_iff hk false x).trans
    ⟨fun ⟨p, n, hd, hx⟩ => ⟨p, n, hd, mem_listing_entry.mp hx⟩,
     fun ⟨p, n, hd, hx⟩ => ⟨p, n, hd, mem_listing_entry.mpr hx⟩⟩

theorem mem_allWildcardRecords_iff {node : ZNode} (hk : KeysNodup node) (x : Name × List ZoneRecord) :
    x ∈ node.allWildcardRecords ↔
      ∃ p n ws, node.descend p = some n ∧ n.wildcards = some ws ∧ x = (n.nsdname, ws.flatMap (·.2))
        ∧ ws.flatMap (·.2) ≠ [] := by
  refine (mem_listing_iff hk true x).trans ?_
  show (∃ p n, node.descend p = some n ∧ x ∈ ownWildListing n) ↔ _
  unfold ownWildListing
  constructor
  · rintro ⟨p, n, hd, hx⟩
    split at hx
    · rename_i ws hw
      exact ⟨p, n, ws, hd, hw, mem_listing_entry.mp hx⟩
    · cases hx
  · rintro ⟨p, n, ws, hd, hw, hx⟩
    refine ⟨p, n, hd, ?_⟩
    rw [hw]
    exact mem_listing_entry.mpr hx

/-- the two record maps of a node, the only fields `insert` changes besides the children. -/
def view (n : ZNode) : RecMap × Option RecMap := (n.this, n.wildcards)

/-- the record sets at reversed path `p`; an absent node counts as empty, which is what an insertion
    finds there: so one equation (`insertRev_baseView`) covers existing and fresh nodes. -/
def baseView (node : ZNode) (p : List Label) : RecMap × Option RecMap :=
  match node.descend p with
  | some n => view n
  | none => ([], none)

/-- what `insert` (`wild = false`) and `insert_wildcard` do to the record maps of the node they end
    at.  `insert_wildcard` has one branch for an existing wildcard map and one that creates it with
    the single record; `(v.2.getD []).insertRecord zr` is both, as `[].insertRecord zr` is
    `[(zr.rtype, [zr])]`. -/
def updView (zr : ZoneRecord) (wild : Bool) (v : RecMap × Option RecMap) : RecMap × Option RecMap :=
  if wild then (v.1, some ((v.2.getD []).insertRecord zr)) else (v.1.insertRecord zr, v.2)

theorem updView_false (zr : ZoneRecord) (v : RecMap × Option RecMap) :
    updView zr false v = (v.1.insertRecord zr, v.2) := rfl

theorem updView_true (zr : ZoneRecord) (v : RecMap × Option RecMap) :
    updView zr true v = (v.1, some ((v.2.getD []).insertRecord zr)) := rfl

theorem baseView_of_descend {node n : ZNode} {p : List Label} (h : node.descend p = some n) :
    baseView node p = view n := by
  rw [baseView, h]

theorem descend_new (nsd : Name) (p : List Label) :
    (ZNode.new nsd).descend p = if p = [] then some (ZNode.new nsd) else none := by
  cases p with
  | nil => simp
  | cons l rest => simp [descend_cons, ZNode.new, ZNode.children, childGet]

theorem baseView_new (nsd : Name) (p : List Label) : baseView (ZNode.new nsd) p = ([], none) := by
  unfold baseView; rw [descend_new]
  by_cases hp : p = [] <;> simp [hp, view]

theorem insertRev_nil_view (node node' : ZNode) (zr : ZoneRecord) (wild : Bool)
    (h : node.insertRev [] zr wild = some node') :
    view node' = updView zr wild (view node) ∧ node'.nsdname = node.nsdname ∧
      node'.children = node.children := by
  simp only [insertRev] at h
  unfold updView view
  cases wild with
  | true =>
    simp only [if_true] at h ⊢
    cases hw : node.wildcards with
    | none => simp only [hw] at h; cases h; exact ⟨rfl, rfl, rfl⟩
    | some ws => simp only [hw] at h; cases h; exact ⟨rfl, rfl, rfl⟩
  | false =>
    simp only [Bool.false_eq_true, if_false] at h ⊢
    cases h; exact ⟨rfl, rfl, rfl⟩

/-- the child an insertion below `lbl` continues in: the existing one, or a fresh node named by the
    path (`none` = `from_labels` refuses that name). -/
def insertBase (node : ZNode) (lbl : Label) : Option ZNode :=
  match childGet node.children lbl with
  | some c => some c
  | none => (Name.fromLabels (lbl :: node.nsdname.labels)).map ZNode.new

theorem insertRev_cons (node : ZNode) (lbl : Label) (rest : List Label) (zr : ZoneRecord) (wild : Bool) :
    node.insertRev (lbl :: rest) zr wild =
      ((insertBase node lbl).bind (·.insertRev rest zr wild)).map
        (fun c' => .mk node.nsdname node.this node.wildcards (childSet node.children lbl c')) := by
  rw [insertRev, insertBase]
  cases childGet node.children lbl with
  | some c =>
    simp only [Option.bind_some]
    cases c.insertRev rest zr wild <;> rfl
  | none =>
    cases Name.fromLabels (lbl :: node.nsdname.labels) with
    | none => rfl
    | some nsd =>
      simp only [Option.map_some, Option.bind_some]
      cases (ZNode.new nsd).insertRev rest zr wild <;> rfl

theorem insertRev_cons_some {node node' : ZNode} {l : Label} {rest : List Label} {zr : ZoneRecord}
    {wild : Bool} (h : node.insertRev (l :: rest) zr wild = some node') :
    ∃ child child', node.insertBase l = some child ∧ child.insertRev rest zr wild = some child' ∧
      node' = .mk node.nsdname node.this node.wildcards (childSet node.children l child') := by
  rw [insertRev_cons, Option.map_eq_some_iff] at h
  obtain ⟨child', hb, rfl⟩ := h
  obtain ⟨child, hs, hi⟩ := Option.bind_eq_some_iff.mp hb
  exact ⟨child, child', hs, hi, rfl⟩

theorem insertBase_eq_some_iff {node base : ZNode} {l : Label} :
    node.insertBase l = some base ↔
      childGet node.children l = some base ∨
      (childGet node.children l = none ∧
        ∃ nsd, Name.fromLabels (l :: node.nsdname.labels) = some nsd ∧ base = ZNode.new nsd) := by
  unfold insertBase
  cases childGet node.children l with
  | some c => simp
  | none =>
    simp only [Option.map_eq_some_iff, reduceCtorEq, false_or, true_and]
    exact exists_congr fun nsd => and_congr Iff.rfl eq_comm

theorem baseView_insertBase {node base : ZNode} {l : Label} (h : node.insertBase l = some base)
    (q : List Label) : baseView base q = baseView node (l :: q) := by
  rcases insertBase_eq_some_iff.mp h with hc | ⟨hc, nsd, _, rfl⟩
  · simp [baseView, descend_cons, hc]
  · rw [baseView_new]; simp [baseView, descend_cons, hc]

theorem keysNodup_insertRev (r : List Label) (zr : ZoneRecord) (wild : Bool) :
    ∀ (node node' : ZNode), KeysNodup node → node.insertRev r zr wild = some node' →
      KeysNodup node' := by
  induction r with
  | nil =>
    intro node node' h hi
    obtain ⟨_, _, hch⟩ := insertRev_nil_view node node' zr wild hi
    exact keysNodup_of node' (hch ▸ h.here) (fun l c hc => h.child (hch ▸ hc))
  | cons lbl rest ih =>
    intro node node' h hi
    obtain ⟨base, child', hb, hci, rfl⟩ := insertRev_cons_some hi
    replace hb := insertBase_eq_some_iff.mp hb
    have hbase : KeysNodup base := by
      rcases hb with hb | ⟨_, nsd, _, rfl⟩
      · exact h.child hb
      · exact keysNodup_new nsd
    apply keysNodup_of
    · exact childKeys_nodup_childSet _ _ _ h.here
    · intro l c hc
      rw [children_mk, childGet_childSet] at hc
      split at hc
      · cases hc; exact ih base _ hbase hci
      · exact h.child hc

/-- what an insertion at `r` does to `descend`, seen through `view`: on the path the nodes exist,
    with the views they had (an absent node counting as empty) and the last one updated; off the
    path nothing changes. -/
theorem insertRev_descend_view (zr : ZoneRecord) (wild : Bool) (r : List Label) :
    ∀ (node node' : ZNode) (p : List Label), node.insertRev r zr wild = some node' →
      (node'.descend p).map view =
        if p <+: r then some (if p = r then updView zr wild (baseView node p) else baseView node p)
        else (node.descend p).map view := by
  induction r with
  | nil =>
    intro node node' p h
    obtain ⟨hv, _, hch⟩ := insertRev_nil_view node node' zr wild h
    cases p with
    | nil => simpa [baseView] using hv
    | cons l ps => simp [descend_cons, hch]
  | cons lbl rest ih =>
    intro node node' p h
    obtain ⟨base, child', hb, hci, rfl⟩ := insertRev_cons_some h
    cases p with
    | nil => simp [baseView, view]
    | cons l ps =>
      simp only [descend_cons, children_mk, childGet_childSet, List.cons_prefix_cons, List.cons.injEq]
      by_cases hl : lbl = l
      · subst hl
        simp only [if_true, Option.bind_some, true_and, ih base child' ps hci, baseView_insertBase hb ps]
        -- off the path the base child has what the node had below `lbl`
        rcases insertBase_eq_some_iff.mp hb with hc | ⟨hc, nsd, _, rfl⟩
        · simp [hc]
        · split
          · rfl
          · rename_i hps
            rw [hc, descend_new, if_neg (by rintro rfl; exact hps List.nil_prefix)]
            rfl
      · have hl' : ¬ l = lbl := fun e => hl e.symm
        simp [hl, hl']

theorem insertRev_baseView {zr : ZoneRecord} {wild : Bool} {r : List Label} {node node' : ZNode}
    (h : node.insertRev r zr wild = some node') (p : List Label) :
    baseView node' p = if p = r then updView zr wild (baseView node p) else baseView node p := by
  have hv := insertRev_descend_view zr wild r node node' p h
  have e : ∀ n : ZNode, baseView n p = ((n.descend p).map view).getD ([], none) := fun n => by
    unfold baseView; cases n.descend p <;> rfl
  rw [e node', hv]
  split
  · rfl
  · rename_i hp
    rw [if_neg (fun (e : p = r) => hp (e ▸ List.prefix_refl p)), e node]

theorem forall_view_insertRev {Q : RecMap × Option RecMap → Prop} {zr : ZoneRecord} {wild : Bool}
    {r : List Label} {node node' : ZNode} (h0 : Q ([], none)) (hupd : ∀ v, Q v → Q (updView zr wild v))
    (h : ∀ p n, node.descend p = some n → Q (view n)) (hi : node.insertRev r zr wild = some node') :
    ∀ p n, node'.descend p = some n → Q (view n) := by
  intro p n hd
  have hb : Q (baseView node p) := by
    unfold baseView
    cases hn : node.descend p with
    | none => exact h0
    | some m => exact h p m hn
  rw [← baseView_of_descend hd, insertRev_baseView hi p]
  split
  · exact hupd _ hb
  · exact hb

theorem insertRev_root_this (zr : ZoneRecord) (wild : Bool) (r : List Label)
    (root root' : ZNode) (hi : root.insertRev r zr wild = some root') :
    root'.this = if r = [] ∧ wild = false then root.this.insertRecord zr else root.this := by
  have hv := congrArg Prod.fst (insertRev_baseView hi [])
  refine hv.trans ?_
  by_cases hr : r = []
  · subst hr
    cases wild <;> rfl
  · rw [if_neg (fun e => hr e.symm), if_neg (fun c => hr c.1)]; rfl

theorem insertRev_descend_isSome (zr : ZoneRecord) (wild : Bool) (r : List Label)
    (node node' : ZNode) (p : List Label) (h : node.insertRev r zr wild = some node') :
    (node'.descend p).isSome = ((node.descend p).isSome || decide (p <+: r)) := by
  have hv := congrArg Option.isSome (insertRev_descend_view zr wild r node node' p h)
  rw [Option.isSome_map] at hv
  rw [hv]
  by_cases hp : p <+: r <;> simp [hp]

/-- every node's `nsdname` is what `from_labels` makes of its path put in front of the root's name.
    `insert` builds the names of the nodes it creates by `from_labels(..).unwrap()`; under this
    invariant that succeeds whenever the inserted name itself is a name (`insertRev_isSome`). -/
def NamesOK (node : ZNode) : Prop :=
  ∀ p n, node.descend p = some n →
    Name.fromLabels (p.reverse ++ node.nsdname.labels) = some n.nsdname

theorem NamesOK.child {node c : ZNode} {l : Label} (h : NamesOK node)
    (hc : childGet node.children l = some c) :
    NamesOK c ∧ c.nsdname.labels = l :: node.nsdname.labels := by
  have h1 := h [l] c (by simp [descend_cons, hc])
  have hl := Name.fromLabels_labels h1
  simp only [List.reverse_cons, List.reverse_nil, List.nil_append, List.singleton_append] at hl
  refine ⟨?_, hl⟩
  intro p n hp
  have := h (l :: p) n (by simp [descend_cons, hc, hp])
  rw [hl]
  simpa using this

theorem namesOK_new (nsd : Name) (h : Name.fromLabels nsd.labels = some nsd) :
    NamesOK (ZNode.new nsd) := by
  intro p n hp
  rw [descend_new] at hp
  split at hp
  · rename_i hp'; subst hp'; cases hp; simpa using h
  · cases hp

theorem namesOK_of (node : ZNode) (h0 : Name.fromLabels node.nsdname.labels = some node.nsdname)
    (h1 : ∀ l c, childGet node.children l = some c →
      NamesOK c ∧ c.nsdname.labels = l :: node.nsdname.labels) : NamesOK node := by
  intro p n hp
  cases p with
  | nil => simp at hp; subst hp; simpa using h0
  | cons l rest =>
    simp only [descend_cons] at hp
    cases hc : childGet node.children l with
    | none => simp [hc] at hp
    | some c =>
      simp only [hc, Option.bind_some] at hp
      obtain ⟨hok, hl⟩ := h1 l c hc
      have := hok rest n hp
      rw [hl] at this
      simpa using this

theorem namesOK_insertRev (zr : ZoneRecord) (wild : Bool) (r : List Label) :
    ∀ (node node' : ZNode), NamesOK node → node.insertRev r zr wild = some node' →
      NamesOK node' ∧ node'.nsdname = node.nsdname := by
  induction r with
  | nil =>
    intro node node' hn h
    obtain ⟨_, hnsd, hch⟩ := insertRev_nil_view node node' zr wild h
    refine ⟨?_, hnsd⟩
    apply namesOK_of
    · rw [hnsd]; simpa using hn [] node rfl
    · intro l c hc; rw [hch] at hc; rw [hnsd]; exact hn.child hc
  | cons lbl rest ih =>
    intro node node' hn h
    obtain ⟨base, child', hb, hci, rfl⟩ := insertRev_cons_some h
    replace hb := insertBase_eq_some_iff.mp hb
    refine ⟨?_, rfl⟩
    have hbase : NamesOK base ∧ base.nsdname.labels = lbl :: node.nsdname.labels := by
      rcases hb with hb | ⟨hb, nsd, hnsd, rfl⟩
      · exact hn.child hb
      · have hl := Name.fromLabels_labels hnsd
        refine ⟨namesOK_new nsd (Name.fromLabels_self_of hnsd), hl⟩
    obtain ⟨hc', hcn⟩ := ih base child' hbase.1 hci
    apply namesOK_of
    · simpa using hn [] node rfl
    · intro l c hc
      simp only [children_mk, childGet_childSet] at hc
      split at hc
      · rename_i hl; subst hl; cases hc
        exact ⟨hc', by rw [hcn]; exact hbase.2⟩
      · exact hn.child hc

theorem insertRev_isSome (zr : ZoneRecord) (wild : Bool) (r : List Label) :
    ∀ (node : ZNode), NamesOK node →
      (Name.fromLabels (r.reverse ++ node.nsdname.labels)).isSome →
      (node.insertRev r zr wild).isSome := by
  induction r with
  | nil =>
    intro node _ _
    simp only [insertRev]
    split
    · split <;> rfl
    · rfl
  | cons lbl rest ih =>
    intro node hn hv
    rw [List.reverse_cons, List.append_assoc, List.singleton_append] at hv
    obtain ⟨base, hbase, hok, hlab⟩ : ∃ base, insertBase node lbl = some base ∧ NamesOK base ∧
        base.nsdname.labels = lbl :: node.nsdname.labels := by
      cases hc : childGet node.children lbl with
      | some child => exact ⟨child, insertBase_eq_some_iff.mpr (Or.inl hc), hn.child hc⟩
      | none =>
        obtain ⟨nsd, hf⟩ := Option.isSome_iff_exists.mp
          (Name.fromLabels_suffix_isSome rest.reverse (lbl :: node.nsdname.labels) (List.cons_ne_nil _ _) hv)
        have hl := Name.fromLabels_labels hf
        exact ⟨ZNode.new nsd, insertBase_eq_some_iff.mpr (Or.inr ⟨hc, nsd, hf, rfl⟩),
          namesOK_new nsd (Name.fromLabels_self_of hf), hl⟩
    obtain ⟨c', hc'⟩ := Option.isSome_iff_exists.mp (ih base hok (by rw [hlab]; exact hv))
    rw [insertRev_cons, hbase, Option.bind_some, hc']
    rfl

/-- the wildcard component of a merge (`AL.optMerge mergeZrs`, written out because the four-way
    `match` is the form in which C12 states it). -/
def mergeWild (mine other : Option RecMap) : Option RecMap :=
  match other with
  | some ow =>
    match mine with
    | some mw => some (mergeZrs mw ow)
    | none => some ow
  | none => mine

theorem merge_eq (a b : ZNode) :
    ZNode.merge a b =
      .mk a.nsdname (mergeZrs a.this b.this) (mergeWild a.wildcards b.wildcards)
        (mergeChildren a.children b.children) := by
  cases a; cases b; rw [ZNode.merge.eq_def]; rfl

@[simp] theorem merge_nsdname (a b : ZNode) : (ZNode.merge a b).nsdname = a.nsdname := by
  rw [merge_eq]; rfl
@[simp] theorem merge_this (a b : ZNode) : (ZNode.merge a b).this = mergeZrs a.this b.this := by
  rw [merge_eq]; rfl
@[simp] theorem merge_wildcards (a b : ZNode) :
    (ZNode.merge a b).wildcards = mergeWild a.wildcards b.wildcards := by
  rw [merge_eq]; rfl
@[simp] theorem merge_children (a b : ZNode) :
    (ZNode.merge a b).children = mergeChildren a.children b.children := by
  rw [merge_eq]; rfl

theorem childGet_mergeChildren (ch och : List (Label × ZNode)) (l : Label)
    (hb : (childKeys och).Nodup) :
    childGet (mergeChildren ch och) l =
      match childGet ch l, childGet och l with
      | some x, some y => some (ZNode.merge x y)
      | some x, none => some x
      | none, some y => some y
      | none, none => none := by
  simp only [mergeChildren_eq_al, childGet_eq_al, AL.get_mergeWith _ ch och l hb]
  cases AL.get ch l <;> cases AL.get och l <;> rfl

theorem childKeys_nodup_mergeChildren (ch och : List (Label × ZNode)) (h : (childKeys ch).Nodup) :
    (childKeys (mergeChildren ch och)).Nodup := by
  rw [mergeChildren_eq_al]; exact AL.nodup_keys_mergeWith _ ch och h

theorem descend_merge (p : List Label) : ∀ (a b : ZNode), KeysNodup b →
    (ZNode.merge a b).descend p =
      match a.descend p, b.descend p with
      | some x, some y => some (ZNode.merge x y)
      | some x, none => some x
      | none, some y => some y
      | none, none => none := by
  induction p with
  | nil => intro a b _; simp
  | cons l rest ih =>
    intro a b hb
    simp only [descend_cons, merge_children]
    rw [childGet_mergeChildren _ _ _ hb.here]
    cases ha : childGet a.children l with
    | none =>
      cases hc : childGet b.children l with
      | none => simp
      | some y => simp only [Option.bind_some, Option.bind_none]; cases y.descend rest <;> rfl
    | some x =>
      cases hc : childGet b.children l with
      | none => simp only [Option.bind_some, Option.bind_none]; cases x.descend rest <;> rfl
      | some y => simp only [Option.bind_some]; exact ih x y (hb.child hc)

end ZNode

namespace Zone

theorem insert_eq_insertRev (z : Zone) (name : Name) (rtype : Nat) (fields : List FieldVal) (ttl : Nat)
    (wild : Bool) :
    z.insert name rtype fields ttl wild =
      match z.relativeDomain name with
      | some rel =>
        match z.records.insertRev rel.reverse ⟨rtype, fields, z.actualTtl ttl⟩ wild with
        | some r => some { z with records := r }
        | none => none
      | none => some z := by
  unfold Zone.insert
  cases z.relativeDomain name with
  | none => rfl
  | some rel => simp only [ZNode.insert_eq_rev]; rfl

theorem insert_cases (z z' : Zone) (name : Name) (rtype : Nat) (fields : List FieldVal) (ttl : Nat)
    (wild : Bool) (h : z.insert name rtype fields ttl wild = some z') :
    z'.apex = z.apex ∧ z'.soa = z.soa ∧
    ((z.relativeDomain name = none ∧ z' = z) ∨
     (∃ rel, z.relativeDomain name = some rel ∧
        z.records.insertRev rel.reverse ⟨rtype, fields, z.actualTtl ttl⟩ wild = some z'.records)) := by
  rw [insert_eq_insertRev] at h
  cases hr : z.relativeDomain name with
  | none => rw [hr] at h; cases h; exact ⟨rfl, rfl, Or.inl ⟨rfl, rfl⟩⟩
  | some rel =>
    simp only [hr] at h
    cases hi : z.records.insertRev rel.reverse ⟨rtype, fields, z.actualTtl ttl⟩ wild with
    | none => rw [hi] at h; cases h
    | some r => rw [hi] at h; cases h; exact ⟨rfl, rfl, Or.inr ⟨rel, rfl, hi⟩⟩

end Zone

end Resolved
