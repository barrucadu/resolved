/-
  Basic facts about the zone-text model (Model/ZoneText.lean).  Tokeniser: `tokeniseEscape`, one iteration
  (`tokLoop_cons`), progress.  Parsers under `parse_entry`: `parse_domain` by the three forms of a name (`parseDomain_eq`),
  `$ORIGIN`, `$INCLUDE`, `parseEntry` by tokeniser outcome, the SOA of a record.  Entry loop of `Zone::deserialise`: one
  step by entry (`entryStep_*`) and by tokeniser outcome, the next entry of a stream (`NextEntry`), the loop without fuel
  (`runLoop`), positions of a file (`Reach`), the zone built from the final state (`buildZone_eq_new`), never `outOfFuel`.
-/
import Resolved.Model.ZoneText
import Resolved.Proofs.ByteChars

namespace Resolved.ZoneText

open Resolved Resolved.IpText Gen

theorem tokeniseEscape_digits {c1 c2 c3 : Char} {d1 d2 d3 : Nat} (rest : List Char)
    (h1 : toDigit10 c1 = some d1) (h2 : toDigit10 c2 = some d2) (h3 : toDigit10 c3 = some d3) :
    tokeniseEscape (c1 :: c2 :: c3 :: rest) =
      if d1 * 100 + d2 * 10 + d3 ≤ 255 then .ok (UInt8.ofNat (d1 * 100 + d2 * 10 + d3), 3)
      else .error .tokeniserUnexpectedEscape := by
  simp only [tokeniseEscape, h1, h2, h3]

theorem tokeniseEscape_char {c : Char} (rest : List Char) (h : toDigit10 c = none) :
    tokeniseEscape (c :: rest) = if isAscii c then .ok (charAsU8 c, 1) else .error .tokeniserUnexpected := by
  simp only [tokeniseEscape, h]

/-! ## one iteration of the tokeniser loop -/

/-- `r` is what one iteration of the loop on `c :: cs` comes to: an error, the end of the entry
    with `cs` left over, or the loop on `cs`. -/
def StepsTo (cs : List Char) (r : Except Error (List Token × List Char)) : Prop :=
  (∃ e, r = .error e) ∨ (∃ toks, r = .ok (toks, cs)) ∨
    ∃ skip rtoks rstr roct st lc, r = tokLoop skip cs rtoks rstr roct st lc

namespace StepsTo

variable {cs : List Char}

theorem error {e : Error} : StepsTo cs (.error e) := .inl ⟨e, rfl⟩

theorem stop {toks : List Token} : StepsTo cs (.ok (toks, cs)) := .inr (.inl ⟨toks, rfl⟩)

theorem loop {skip : Nat} {rtoks : List Token} {rstr : List Char} {roct : List UInt8} {st : TState}
    {lc : Bool} : StepsTo cs (tokLoop skip cs rtoks rstr roct st lc) :=
  .inr (.inr ⟨_, _, _, _, _, _, rfl⟩)

theorem ite {p : Prop} [Decidable p] {a b : Except Error (List Token × List Char)}
    (ha : StepsTo cs a) (hb : StepsTo cs b) : StepsTo cs (if p then a else b) := by
  split
  · exact ha
  · exact hb

theorem escape {rtoks : List Token} {rstr : List Char} {roct : List UInt8} {st : TState} {lc : Bool} :
    StepsTo cs (match tokeniseEscape cs with
      | .error e => .error e
      | .ok (octet, n) => tokLoop n cs rtoks (octetAsChar octet :: rstr) (octet :: roct) st lc) := by
  split
  · exact error
  · exact loop

end StepsTo

/-- every iteration takes exactly one char off the stream; the proof terms follow the `if` cascade
    of each state. -/
theorem tokLoop_cons (skip : Nat) (c : Char) (cs : List Char) (rtoks : List Token) (rstr : List Char)
    (roct : List UInt8) (st : TState) (lc : Bool) :
    StepsTo cs (tokLoop skip (c :: cs) rtoks rstr roct st lc) := by
  cases skip with
  | succ k => rw [tokLoop]; exact .loop
  | zero =>
    cases st with
    | initial =>
      simp only [tokLoop]
      exact .ite (.ite .loop .stop) (.ite .loop (.ite (.ite .error .loop) (.ite (.ite .loop .error)
        (.ite .loop (.ite .escape (.ite .loop (.ite .loop .error)))))))
    | unquotedString =>
      simp only [tokLoop]
      exact .ite (.ite .loop .stop) (.ite .loop (.ite .escape (.ite .loop (.ite .loop .error))))
    | skipToEndOfComment =>
      simp only [tokLoop]
      exact .ite (.ite .loop .stop) .loop
    | quotedString =>
      simp only [tokLoop]
      exact .ite .loop (.ite .escape (.ite .loop .error))

theorem tokLoop_nil (skip : Nat) (rtoks : List Token) (rstr : List Char) (roct : List UInt8) (st : TState)
    (lc : Bool) :
    tokLoop skip [] rtoks rstr roct st lc = .ok ((pushNonEmpty rtoks rstr roct).reverse, []) := by
  rw [tokLoop]

/-! ## progress of the tokeniser -/

theorem tokLoop_rest_suffix {toks : List Token} {rest : List Char} (cs : List Char) :
    ∀ {c : Char} {skip : Nat} {rtoks : List Token} {rstr : List Char} {roct : List UInt8} {st : TState}
      {lc : Bool}, tokLoop skip (c :: cs) rtoks rstr roct st lc = .ok (toks, rest) → rest <:+ cs := by
  induction cs with
  | nil =>
    intro c skip rtoks rstr roct st lc h
    rcases tokLoop_cons skip c [] rtoks rstr roct st lc with ⟨e, he⟩ | ⟨t, he⟩ | ⟨_, _, _, _, _, _, he⟩ <;>
      rw [he] at h
    · cases h
    · cases h; exact List.suffix_refl _
    · rw [tokLoop_nil] at h; cases h; exact List.suffix_refl _
  | cons d ds ih =>
    intro c skip rtoks rstr roct st lc h
    rcases tokLoop_cons skip c (d :: ds) rtoks rstr roct st lc with ⟨e, he⟩ | ⟨t, he⟩ | ⟨_, _, _, _, _, _, he⟩ <;>
      rw [he] at h
    · cases h
    · cases h; exact List.suffix_refl _
    · exact (ih h).trans (List.suffix_cons d ds)

theorem tokeniseEntry_nil : tokeniseEntry [] = .ok ([], []) := rfl

theorem tokeniseEntry_progress {cs : List Char} {toks : List Token} {rest : List Char}
    (h : tokeniseEntry cs = .ok (toks, rest)) (hne : cs ≠ []) : rest.length < cs.length := by
  cases cs with
  | nil => exact absurd rfl hne
  | cons c cs => exact Nat.lt_succ_of_le (tokLoop_rest_suffix cs h).length_le

theorem tokeniseEntry_rest_le {cs : List Char} {toks : List Token} {rest : List Char}
    (h : tokeniseEntry cs = .ok (toks, rest)) : rest.length ≤ cs.length := by
  cases cs with
  | nil => rw [tokeniseEntry_nil] at h; cases h; exact Nat.le_refl _
  | cons c cs => exact Nat.le_of_lt (tokeniseEntry_progress h (List.cons_ne_nil c cs))

/-! ## `parse_domain`, `parse_origin`, `parse_include` -/

theorem parseDomain_eq (o : Option Name) {s : List Char} (hne : s ≠ []) (hascii : s.all isAscii = true) :
    parseDomain o s =
      if s = ['@'] then (match o with | some n => .ok n | none => .error .expectedOrigin)
      else if s.getLast? = some '.' then
        (match Name.fromDotted (s.map charAsU8) with | some d => .ok d | none => .error .expectedDomainName)
      else
        (match o with
         | some name =>
           (match Name.fromRelativeDotted name (s.map charAsU8) with
            | some d => .ok d | none => .error .expectedDomainName)
         | none => .error .expectedOrigin) := by
  unfold parseDomain
  have h1 : s.isEmpty = false := by simpa using hne
  simp only [h1, hascii, Bool.false_eq_true, if_false, Bool.not_true]
  split
  · rfl
  · obtain ⟨last, hl⟩ : ∃ c, s.getLast? = some c := by
      cases hgl : s.getLast? with
      | none => exact absurd (List.getLast?_eq_none_iff.mp hgl) hne
      | some c => exact ⟨c, rfl⟩
    simp only [hl, Option.some.injEq]
    split <;> rfl

theorem parseDomain_ok_ascii {o : Option Name} {s : List Char} {n : Name} (h : parseDomain o s = .ok n) :
    s ≠ [] ∧ s.all isAscii = true := by
  unfold parseDomain at h
  split at h
  · cases h
  · rename_i hne
    split at h
    · cases h
    · rename_i hasc
      exact ⟨by simpa using hne, by simpa using hasc⟩

theorem parseOrigin_pair (o : Option Name) {t0 : Token} (h : t0.1 = sORIGIN) (t1 : Token) :
    parseOrigin o [t0, t1] =
      match parseDomain o t1.1 with
      | .ok name => .ok (.origin name)
      | .error e => .error e := by
  simp only [parseOrigin, h, ne_eq, not_true_eq_false, if_false]
  cases parseDomain o t1.1 <;> rfl

theorem parseInclude_shape (o : Option Name) (tokens : List Token) :
    (∃ e, parseInclude o tokens = .error e) ∨ ∃ p oo, parseInclude o tokens = .ok (.include p oo) := by
  unfold parseInclude
  split
  · split
    · exact Or.inl ⟨_, rfl⟩
    · exact Or.inr ⟨_, _, rfl⟩
  · split
    · exact Or.inl ⟨_, rfl⟩
    · split
      · exact Or.inr ⟨_, _, rfl⟩
      · exact Or.inl ⟨_, rfl⟩
  · exact Or.inl ⟨_, rfl⟩

/-! ## `parseEntry` by the outcome of the tokeniser -/

theorem parseEntry_error {s : List Char} {e : Error} (h : tokeniseEntry s = .error e) (fuel : Nat)
    (o : Option Name) (pd : Option MaybeWildcard) (pt : Option Nat) :
    parseEntry (fuel + 1) o pd pt s = .err e := by
  rw [parseEntry, h]

theorem parseEntry_no_tokens {s rest : List Char} (h : tokeniseEntry s = .ok ([], rest)) (fuel : Nat)
    (o : Option Name) (pd : Option MaybeWildcard) (pt : Option Nat) :
    parseEntry (fuel + 1) o pd pt s = if rest.isEmpty then .ok none rest else parseEntry fuel o pd pt rest := by
  rw [parseEntry, h]

/-- what `parse_entry` makes of the tokens of an entry: `$ORIGIN`, `$INCLUDE`, or a record line. -/
def entryOfTokens (o : Option Name) (pd : Option MaybeWildcard) (pt : Option Nat) (t0 : Token) (ts : List Token) :
    Except Error Entry :=
  if t0.1 = sORIGIN then parseOrigin o (t0 :: ts)
  else if t0.1 = sINCLUDE then parseInclude o (t0 :: ts)
  else parseRr o pd pt (t0 :: ts)

theorem entryOfTokens_rr {t0 : Token} (h1 : t0.1 ≠ sORIGIN) (h2 : t0.1 ≠ sINCLUDE) (o : Option Name)
    (pd : Option MaybeWildcard) (pt : Option Nat) (ts : List Token) :
    entryOfTokens o pd pt t0 ts = parseRr o pd pt (t0 :: ts) := by
  rw [entryOfTokens, if_neg h1, if_neg h2]

theorem entryOfTokens_origin {t0 : Token} (h : t0.1 = sORIGIN) (o : Option Name) (pd : Option MaybeWildcard)
    (pt : Option Nat) (ts : List Token) : entryOfTokens o pd pt t0 ts = parseOrigin o (t0 :: ts) := by
  rw [entryOfTokens, if_pos h]

theorem entryOfTokens_include {t0 : Token} (h : t0.1 = sINCLUDE) (o : Option Name) (pd : Option MaybeWildcard)
    (pt : Option Nat) (ts : List Token) : entryOfTokens o pd pt t0 ts = parseInclude o (t0 :: ts) := by
  rw [entryOfTokens, if_neg (by rw [h]; decide), if_pos h]

theorem parseEntry_tokens {s rest : List Char} {t0 : Token} {ts : List Token}
    (h : tokeniseEntry s = .ok (t0 :: ts, rest)) (fuel : Nat) (o : Option Name) (pd : Option MaybeWildcard)
    (pt : Option Nat) :
    parseEntry (fuel + 1) o pd pt s =
      match entryOfTokens o pd pt t0 ts with
      | .ok e => .ok (some e) rest
      | .error e => .err e := by
  simp only [parseEntry, h, entryOfTokens]
  generalize (if t0.1 = sORIGIN then _ else _ : Except Error Entry) = r
  cases r <;> rfl

theorem parseEntry_some_inv : ∀ (fuel : Nat) {o : Option Name} {pd : Option MaybeWildcard} {pt : Option Nat}
    {s : List Char} {e : Entry} {rest : List Char}, parseEntry fuel o pd pt s = .ok (some e) rest →
    ∃ t0 ts, entryOfTokens o pd pt t0 ts = .ok e
  | 0, _, _, _, _, _, _, h => nomatch h
  | fuel + 1, o, pd, pt, s, e, rest, h => by
    cases htok : tokeniseEntry s with
    | error err => rw [parseEntry_error htok] at h; cases h
    | ok p =>
      obtain ⟨tokens, rest'⟩ := p
      cases tokens with
      | nil =>
        rw [parseEntry_no_tokens htok] at h
        split at h
        · cases h
        · exact parseEntry_some_inv fuel h
      | cons t0 ts =>
        rw [parseEntry_tokens htok] at h
        cases hr : entryOfTokens o pd pt t0 ts with
        | error err => rw [hr] at h; cases h
        | ok e' => rw [hr] at h; cases h; exact ⟨t0, ts, hr⟩

/-- every iteration of the loop of `parseEntry` is one `tokenise_entry` call, which makes progress. -/
theorem parseEntry_spec (fuel : Nat) :
    ∀ (o : Option Name) (pd : Option MaybeWildcard) (pt : Option Nat) (s : List Char),
      (s.length < fuel → parseEntry fuel o pd pt s ≠ .outOfFuel ∧
        ∀ g, s.length < g → parseEntry fuel o pd pt s = parseEntry g o pd pt s) ∧
      ∀ (e : Option Entry) (rest : List Char), parseEntry fuel o pd pt s = .ok e rest →
        rest.length ≤ s.length ∧ (e.isSome → rest.length < s.length) := by
  induction fuel with
  | zero => exact fun o pd pt s => ⟨fun h => absurd h (Nat.not_lt_zero _), fun e rest h => nomatch h⟩
  | succ f ih =>
    intro o pd pt s
    -- with enough fuel `g` is a successor too, and both sides take the same branch
    have succ : ∀ {g}, s.length < g → ∃ g', g = g' + 1 := fun hg =>
      Nat.exists_eq_succ_of_ne_zero (Nat.ne_of_gt (Nat.zero_lt_of_lt hg))
    cases htok : tokeniseEntry s with
    | error err =>
      rw [parseEntry_error htok]
      refine ⟨fun _ => ⟨nofun, fun g hg => ?_⟩, fun e rest h => nomatch h⟩
      obtain ⟨g', rfl⟩ := succ hg
      rw [parseEntry_error htok]
    | ok p =>
      obtain ⟨tokens, rest'⟩ := p
      have hle := tokeniseEntry_rest_le htok
      have hlt : rest' ≠ [] ∨ tokens ≠ [] → rest'.length < s.length := fun hne =>
        tokeniseEntry_progress htok (fun hs => by
          rw [hs, tokeniseEntry_nil] at htok
          cases htok
          exact hne.elim (fun h => h rfl) (fun h => h rfl))
      cases tokens with
      | nil =>
        rw [parseEntry_no_tokens htok]
        split
        · rename_i hrest
          refine ⟨fun _ => ⟨nofun, fun g hg => ?_⟩,
            fun e rest h => by cases h; exact ⟨hle, fun he => nomatch he⟩⟩
          obtain ⟨g', rfl⟩ := succ hg
          rw [parseEntry_no_tokens htok, if_pos hrest]
        · rename_i hrest
          have hlt' := hlt (.inl (fun h => hrest (by rw [h]; rfl)))
          obtain ⟨ih1, ih2⟩ := ih o pd pt rest'
          refine ⟨fun hlen => ⟨(ih1 (by omega)).1, fun g hg => ?_⟩, fun e rest h => ?_⟩
          · obtain ⟨g', rfl⟩ := succ hg
            rw [parseEntry_no_tokens htok, if_neg hrest]
            exact (ih1 (by omega)).2 g' (by omega)
          · have := ih2 e rest h
            exact ⟨by omega, fun he => by have := this.2 he; omega⟩
      | cons t0 ts =>
        have hlt' := hlt (.inr (List.cons_ne_nil t0 ts))
        rw [parseEntry_tokens htok]
        refine ⟨fun _ => ⟨?_, fun g hg => ?_⟩, fun e rest h => ?_⟩
        · split <;> nofun
        · obtain ⟨g', rfl⟩ := succ hg
          rw [parseEntry_tokens htok]
        · split at h
          · cases h; exact ⟨hle, fun _ => hlt'⟩
          · cases h

theorem parseEntry_fuel_indep (f : Nat) :
    ∀ (g : Nat) (o : Option Name) (pd : Option MaybeWildcard) (pt : Option Nat) (s : List Char),
      s.length < f → s.length < g → parseEntry f o pd pt s = parseEntry g o pd pt s :=
  fun g o pd pt s hf hg => ((parseEntry_spec f o pd pt s).1 hf).2 g hg

/-! ## the SOA of a record -/

theorem soaOfRR_none_of_ne {rr : RR} (h : rr.rtype ≠ 6) : soaOfRR rr = none := by
  unfold soaOfRR
  split
  · rename_i h6 _; exact absurd h6 h
  · rfl

theorem soaOfRR_of_fields {rr : RR} {s : SOA} (h6 : rr.rtype = 6) (hf : rr.fields = s.toFields) :
    soaOfRR rr = some s := by
  obtain ⟨name, rtype, fields, rclass, ttl⟩ := rr
  simp only at h6 hf
  subst h6; subst hf
  simp [soaOfRR, SOA.toFields]

theorem soaOfRR_toFields (name : Name) (soa : SOA) (ttl : Nat) :
    soaOfRR { name, rtype := 6, fields := soa.toFields, rclass := 1, ttl } = some soa :=
  soaOfRR_of_fields rfl rfl

/-! ## the entry loop as steps -/

/-- outcome of one iteration of the `while let Some(entry) = parse_entry(..)?` loop. -/
inductive Step where
  | stop (r : Except Error DState)          -- the loop ends: an error, or the end of the stream
  | cont (st : DState) (rest : List Char)   -- an entry was consumed
deriving Repr

/-- the body of the loop for one parsed entry. -/
def entryStep (st : DState) (entry : Entry) (rest : List Char) : Step :=
  match entry with
  | .origin name => .cont { st with origin := some name } rest
  | .include _ _ => .stop (.error .includeNotSupported)
  | .rr rr =>
    let st := { st with previousDomain := some (.normal rr.name), previousTtl := some rr.ttl }
    match soaOfRR rr with
    | some soa =>
      if st.apexAndSoa.isSome then .stop (.error .multipleSOA)
      else .cont { st with apexAndSoa := some (rr.name, soa) } rest
    | none => .cont { st with rrs := rr :: st.rrs } rest
  | .wildcardRR rr =>
    let st := { st with previousDomain := some (.wildcard rr.name), previousTtl := some rr.ttl }
    if rr.rtype == RT_SOA then .stop (.error .wildcardSOA)
    else .cont { st with wildcardRrs := rr :: st.wildcardRrs } rest

/-- one iteration (`none` only if `parseEntry` ran out of fuel, which it does not). -/
def loopStep (st : DState) (stream : List Char) : Option Step :=
  match parseEntry (stream.length + 1) st.origin st.previousDomain st.previousTtl stream with
  | .outOfFuel => none
  | .err e => some (.stop (.error e))
  | .ok none _ => some (.stop (.ok st))
  | .ok (some entry) rest => some (entryStep st entry rest)

theorem deserialiseLoop_succ (fuel : Nat) (st : DState) (stream : List Char) :
    deserialiseLoop (fuel + 1) st stream =
      match loopStep st stream with
      | none => none
      | some (.stop r) => some r
      | some (.cont st' rest) => deserialiseLoop fuel st' rest := by
  simp only [deserialiseLoop, loopStep]
  cases parseEntry (stream.length + 1) st.origin st.previousDomain st.previousTtl stream with
  | outOfFuel => rfl
  | err e => rfl
  | ok e rest =>
    cases e with
    | none => rfl
    | some entry =>
      cases entry with
      | origin name => rfl
      | «include» p oo => rfl
      | rr rr =>
        simp only [entryStep]
        cases soaOfRR rr with
        | none => rfl
        | some soa => simp only; split <;> rfl
      | wildcardRR rr => simp only [entryStep]; split <;> rfl

theorem loopStep_ne_none (st : DState) (stream : List Char) : loopStep st stream ≠ none := by
  unfold loopStep
  split
  · rename_i h
    exact absurd h ((parseEntry_spec _ _ _ _ _).1 (by omega)).1
  all_goals simp

theorem entryStep_cont {st st' : DState} {entry : Entry} {rest rest' : List Char}
    (h : entryStep st entry rest = .cont st' rest') : rest' = rest := by
  unfold entryStep at h
  cases entry with
  | origin name => cases h; rfl
  | «include» p oo => cases h
  | rr rr =>
    simp only at h
    split at h
    · split at h
      · cases h
      · cases h; rfl
    · cases h; rfl
  | wildcardRR rr =>
    simp only at h
    split at h
    · cases h
    · cases h; rfl

theorem loopStep_cont_lt {st st' : DState} {stream rest : List Char}
    (h : loopStep st stream = some (.cont st' rest)) : rest.length < stream.length := by
  unfold loopStep at h
  split at h
  · cases h
  · cases h
  · cases h
  · rename_i entry rest' hp
    rw [entryStep_cont (Option.some.inj h)]
    exact ((parseEntry_spec _ _ _ _ _).2 _ _ hp).2 rfl

theorem entryStep_rr (st : DState) (rest : List Char) {rr : RR} (h : soaOfRR rr = none) :
    entryStep st (.rr rr) rest =
      .cont { st with previousDomain := some (.normal rr.name), previousTtl := some rr.ttl, rrs := rr :: st.rrs } rest := by
  simp only [entryStep, h]

theorem entryStep_first_soa (st : DState) (rest : List Char) {rr : RR} {soa : SOA} (h : soaOfRR rr = some soa)
    (hnone : st.apexAndSoa = none) :
    entryStep st (.rr rr) rest =
      .cont { st with previousDomain := some (.normal rr.name), previousTtl := some rr.ttl,
                      apexAndSoa := some (rr.name, soa) } rest := by
  simp only [entryStep, h, hnone, Option.isSome_none, Bool.false_eq_true, if_false]

theorem entryStep_wildcardRR (st : DState) (rest : List Char) {rr : RR} (h : rr.rtype ≠ RT_SOA) :
    entryStep st (.wildcardRR rr) rest =
      .cont { st with previousDomain := some (.wildcard rr.name), previousTtl := some rr.ttl,
                      wildcardRrs := rr :: st.wildcardRrs } rest := by
  simp only [entryStep, beq_iff_eq, h, if_false]

theorem entryStep_second_soa (st : DState) (rest : List Char) (rr : RR) (soa : SOA)
    (hsoa : soaOfRR rr = some soa) (hhave : st.apexAndSoa.isSome = true) :
    entryStep st (.rr rr) rest = .stop (.error .multipleSOA) := by
  simp [entryStep, hsoa, hhave]

theorem entryStep_wildcard_soa (st : DState) (rest : List Char) (rr : RR) (hsoa : rr.rtype = RT_SOA) :
    entryStep st (.wildcardRR rr) rest = .stop (.error .wildcardSOA) := by
  simp [entryStep, hsoa]

/-! ## one step of the entry loop by the outcome of the tokeniser -/

theorem loopStep_error (st : DState) {s : List Char} {e : Error} (h : tokeniseEntry s = .error e) :
    loopStep st s = some (.stop (.error e)) := by
  unfold loopStep
  rw [parseEntry_error h]

theorem loopStep_nil (st : DState) : loopStep st [] = some (.stop (.ok st)) := by
  unfold loopStep
  rw [parseEntry_no_tokens tokeniseEntry_nil]
  rfl

theorem loopStep_no_tokens (st : DState) (s rest : List Char) (h : tokeniseEntry s = .ok ([], rest)) :
    loopStep st s = loopStep st rest := by
  unfold loopStep
  rw [parseEntry_no_tokens h]
  cases rest with
  | nil => rw [List.isEmpty_nil, if_pos rfl, List.length_nil, parseEntry_no_tokens tokeniseEntry_nil]; rfl
  | cons c cs =>
    have hlt := tokeniseEntry_progress h (fun hs => by rw [hs, tokeniseEntry_nil] at h; cases h)
    rw [List.isEmpty_cons, if_neg Bool.false_ne_true, parseEntry_fuel_indep s.length ((c :: cs).length + 1) _ _ _ _ hlt
      (Nat.lt_succ_self _)]

theorem loopStep_tokens (st : DState) {s rest : List Char} {t0 : Token} {ts : List Token}
    (h : tokeniseEntry s = .ok (t0 :: ts, rest)) :
    loopStep st s =
      match entryOfTokens st.origin st.previousDomain st.previousTtl t0 ts with
      | .ok e => some (entryStep st e rest)
      | .error e => some (.stop (.error e)) := by
  unfold loopStep
  rw [parseEntry_tokens h]
  cases entryOfTokens st.origin st.previousDomain st.previousTtl t0 ts <;> rfl

/-- read with origin `o` behind a record of owner `pd` and TTL `pt`, the next entry of `s` is `e`, and `rest` is left.
    The tokens are those of the FIRST `tokenise_entry` call: a stream that begins with a blank or a comment line has no
    `NextEntry` (`parse_entry` loops there, `loopStep_no_tokens`). -/
def NextEntry (o : Option Name) (pd : Option MaybeWildcard) (pt : Option Nat) (s : List Char) (e : Entry)
    (rest : List Char) : Prop :=
  ∃ t0 ts, tokeniseEntry s = .ok (t0 :: ts, rest) ∧ entryOfTokens o pd pt t0 ts = .ok e

theorem NextEntry.parseEntry {o : Option Name} {pd : Option MaybeWildcard} {pt : Option Nat} {s rest : List Char}
    {e : Entry} (h : NextEntry o pd pt s e rest) (fuel : Nat) :
    ZoneText.parseEntry (fuel + 1) o pd pt s = .ok (some e) rest := by
  obtain ⟨t0, ts, h1, h2⟩ := h
  rw [parseEntry_tokens h1, h2]

theorem NextEntry.loopStep {st : DState} {s rest : List Char} {e : Entry}
    (h : NextEntry st.origin st.previousDomain st.previousTtl s e rest) :
    ZoneText.loopStep st s = some (entryStep st e rest) := by
  obtain ⟨t0, ts, h1, h2⟩ := h
  rw [loopStep_tokens st h1, h2]

theorem loopStep_rr (st : DState) {s rest : List Char} {t0 : Token} {ts : List Token}
    (h : tokeniseEntry s = .ok (t0 :: ts, rest)) (h1 : t0.1 ≠ sORIGIN) (h2 : t0.1 ≠ sINCLUDE) :
    loopStep st s =
      match parseRr st.origin st.previousDomain st.previousTtl (t0 :: ts) with
      | .ok e => some (entryStep st e rest)
      | .error e => some (.stop (.error e)) := by
  rw [loopStep_tokens st h, entryOfTokens_rr h1 h2]

/-- the error is `IncludeNotSupported`, or that of a malformed directive. -/
theorem loopStep_include (st : DState) (s : List Char) (t0 : Token) (ts : List Token) (rest : List Char)
    (htok : tokeniseEntry s = .ok (t0 :: ts, rest)) (h0 : t0.1 = sINCLUDE) :
    ∃ e, loopStep st s = some (.stop (.error e)) := by
  rw [loopStep_tokens st htok, entryOfTokens_include h0]
  rcases parseInclude_shape st.origin (t0 :: ts) with ⟨e, he⟩ | ⟨p, oo, he⟩
  · rw [he]; exact ⟨e, rfl⟩
  · rw [he]; exact ⟨_, rfl⟩

theorem loopStep_inv {st : DState} {s : List Char} {step : Step} (h : loopStep st s = some step) :
    step = .stop (.ok st) ∨ (∃ e, step = .stop (.error e)) ∨
      ∃ t0 ts e rest, entryOfTokens st.origin st.previousDomain st.previousTtl t0 ts = .ok e ∧
        step = entryStep st e rest := by
  unfold loopStep at h
  split at h
  · cases h
  · cases h; exact .inr (.inl ⟨_, rfl⟩)
  · cases h; exact .inl rfl
  · rename_i entry rest hp
    cases h
    obtain ⟨t0, ts, he⟩ := parseEntry_some_inv _ hp
    exact .inr (.inr ⟨t0, ts, entry, rest, he, rfl⟩)

theorem loopStep_congr_tokenise {s1 s2 : List Char} (h : tokeniseEntry s1 = tokeniseEntry s2) (st : DState) :
    loopStep st s1 = loopStep st s2 := by
  cases h2 : tokeniseEntry s2 with
  | error e => rw [loopStep_error st (h.trans h2), loopStep_error st h2]
  | ok p =>
    obtain ⟨tokens, rest⟩ := p
    cases tokens with
    | nil => rw [loopStep_no_tokens st s1 rest (h.trans h2), loopStep_no_tokens st s2 rest h2]
    | cons t0 ts => rw [loopStep_tokens st (h.trans h2), loopStep_tokens st h2]

/-! for statements that speak of `parseEntry` with the fuel the loop gives it -/

theorem loopStep_of_entry {st : DState} {s rest : List Char} {e : Entry}
    (h : parseEntry (s.length + 1) st.origin st.previousDomain st.previousTtl s = .ok (some e) rest) :
    loopStep st s = some (entryStep st e rest) := by
  unfold loopStep
  rw [h]

theorem loopStep_of_err {st : DState} {s : List Char} {e : Error}
    (h : parseEntry (s.length + 1) st.origin st.previousDomain st.previousTtl s = .err e) :
    loopStep st s = some (.stop (.error e)) := by
  unfold loopStep
  rw [h]

/-! ## fuel of the entry loop -/

/-- the entry loop terminates: every continuing step shortens the stream. -/
theorem deserialiseLoop_total (st : DState) (s : List Char) :
    ∃ r, ∀ f, s.length < f → deserialiseLoop f st s = some r :=
  match hs : loopStep st s with
  | none => absurd hs (loopStep_ne_none st s)
  | some (.stop r) => ⟨r, fun f hf => by
      obtain ⟨g, rfl⟩ := Nat.exists_eq_succ_of_ne_zero (Nat.ne_of_gt (Nat.zero_lt_of_lt hf))
      rw [deserialiseLoop_succ, hs]⟩
  | some (.cont st' rest) =>
    have hlt := loopStep_cont_lt hs
    let ⟨r, hr⟩ := deserialiseLoop_total st' rest
    ⟨r, fun f hf => by
      obtain ⟨g, rfl⟩ := Nat.exists_eq_succ_of_ne_zero (Nat.ne_of_gt (Nat.zero_lt_of_lt hf))
      rw [deserialiseLoop_succ, hs]
      exact hr g (by omega)⟩
termination_by s.length

/-! ## the entry loop without fuel -/

/-- the result of the `while let Some(entry) = parse_entry(..)?` loop from local state `st` in front of the stream `s`.
    The default of `getD` is never taken (`deserialiseLoop_eq_run`: with this fuel the loop returns) and could be anything. -/
def runLoop (st : DState) (s : List Char) : Except Error DState :=
  (deserialiseLoop (s.length + 1) st s).getD (.ok st)

theorem deserialiseLoop_eq_run {f : Nat} {st : DState} {s : List Char} (hf : s.length < f) :
    deserialiseLoop f st s = some (runLoop st s) := by
  obtain ⟨r, hr⟩ := deserialiseLoop_total st s
  rw [runLoop, hr f hf, hr _ (Nat.lt_succ_self _)]
  rfl

theorem runLoop_stop {st : DState} {s : List Char} {r : Except Error DState}
    (h : loopStep st s = some (.stop r)) : runLoop st s = r := by
  have := deserialiseLoop_eq_run (st := st) (Nat.lt_succ_self s.length)
  rw [deserialiseLoop_succ, h] at this
  exact (Option.some.inj this).symm

theorem runLoop_cont {st st' : DState} {s rest : List Char}
    (h : loopStep st s = some (.cont st' rest)) : runLoop st s = runLoop st' rest := by
  have := deserialiseLoop_eq_run (st := st) (Nat.lt_succ_self s.length)
  rw [deserialiseLoop_succ, h] at this
  exact Option.some.inj (this.symm.trans (deserialiseLoop_eq_run (loopStep_cont_lt h)))

theorem runLoop_congr {st : DState} {s s' : List Char} (h : loopStep st s = loopStep st s') :
    runLoop st s = runLoop st s' := by
  cases hs : loopStep st s' with
  | none => exact absurd hs (loopStep_ne_none st s')
  | some step =>
    cases step with
    | stop r => rw [runLoop_stop (h.trans hs), runLoop_stop hs]
    | cont st' rest => rw [runLoop_cont (h.trans hs), runLoop_cont hs]

theorem runLoop_nil (st : DState) : runLoop st [] = .ok st := runLoop_stop (loopStep_nil st)

theorem deserialise_eq_run (data : List Char) :
    deserialise data = match runLoop {} data with | .error e => .err e | .ok st => buildZone st := by
  unfold deserialise
  rw [deserialiseLoop_eq_run (Nat.lt_succ_self _)]
  cases runLoop {} data <;> rfl

theorem runLoop_induct {P : DState → List Char → Prop} {Q : Except Error DState → Prop}
    (stop : ∀ st s r, P st s → loopStep st s = some (.stop r) → Q r)
    (cont : ∀ st s st' rest, P st s → loopStep st s = some (.cont st' rest) → P st' rest)
    (st : DState) (s : List Char) (h : P st s) : Q (runLoop st s) :=
  match hs : loopStep st s with
  | none => absurd hs (loopStep_ne_none st s)
  | some (.stop r) => runLoop_stop hs ▸ stop st s r h hs
  | some (.cont st' rest) =>
    have := loopStep_cont_lt hs
    runLoop_cont hs ▸ runLoop_induct stop cont st' rest (cont st s st' rest h hs)
termination_by s.length

/-! ## positions of the file -/

/-- `Reach data st s`: reading `data` from the start, the loop arrives with local state `st` in front
    of the remaining stream `s`. -/
inductive Reach (data : List Char) : DState → List Char → Prop where
  | start : Reach data {} data
  | next {st st' : DState} {s rest : List Char} :
      Reach data st s → loopStep st s = some (.cont st' rest) → Reach data st' rest

theorem Reach.run {data : List Char} {st : DState} {s : List Char} (h : Reach data st s) :
    runLoop {} data = runLoop st s := by
  induction h with
  | start => rfl
  | next _ hstep ih => rw [ih, runLoop_cont hstep]

/-- `(generalizing := false)`: otherwise the `match` would take `h` along and would not be the `match` of
    `deserialise_eq_run`. -/
theorem Reach.deserialise_of_stop {data : List Char} {st : DState} {s : List Char} {r : Except Error DState}
    (hr : Reach data st s) (h : loopStep st s = some (.stop r)) :
    deserialise data = match (generalizing := false) r with | .error e => .err e | .ok st' => buildZone st' := by
  rw [deserialise_eq_run, hr.run, runLoop_stop h]

/-! ## the zone built from the state the loop ends in -/

/-- the apex `Zone::deserialise` settles on: the owner of the SOA, or the root. -/
def DState.apex (st : DState) : Name :=
  match st.apexAndSoa with
  | some (apex, _) => apex
  | none => Name.root

def DState.soa (st : DState) : Option SOA := st.apexAndSoa.map (·.2)

theorem DState.apex_root_of_soa_none {st : DState} (h : st.soa = none) : st.apex = Name.root := by
  unfold DState.soa at h
  unfold DState.apex
  cases hs : st.apexAndSoa with
  | none => rfl
  | some p => rw [hs] at h; cases h

/-- the two insertion loops after the entry loop. -/
def insertBoth (z0 : Zone) (rrs wrrs : List RR) : DResult :=
  match insertAll false z0 rrs with
  | .ok zone => insertAll true zone wrrs
  | r => r

theorem buildZone_eq_new (st : DState) :
    buildZone st = insertBoth (Zone.new st.apex st.soa) st.rrs.reverse st.wildcardRrs.reverse := by
  unfold buildZone insertBoth DState.apex DState.soa
  cases st.apexAndSoa <;> rfl

/-! ## the insertion loops do not return `outOfFuel` (for Props/C17) -/

def DResult.isOutOfFuel : DResult → Bool
  | .outOfFuel => true
  | _ => false

theorem insertAll_not_outOfFuel (wild : Bool) (rrs : List RR) :
    ∀ z : Zone, (insertAll wild z rrs).isOutOfFuel = false := by
  induction rrs with
  | nil => intro z; rfl
  | cons rr rest ih =>
    intro z
    simp only [insertAll]
    split
    · rfl
    · split
      · rfl
      · exact ih _

theorem buildZone_not_outOfFuel (st : DState) : (buildZone st).isOutOfFuel = false := by
  rw [buildZone_eq_new]
  unfold insertBoth
  split
  · exact insertAll_not_outOfFuel _ _ _
  · exact insertAll_not_outOfFuel false _ _

end Resolved.ZoneText
