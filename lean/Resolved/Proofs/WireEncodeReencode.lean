/-
  Encoder/decoder round trip (C04): the encoder cannot fail on a well-formed record or section (no RDATA
  reaches 65 536 octets).  The message-level statements are `C04_encode_total`, `C04_reencode` (Props/C04.lean);
  that decoder outputs are well formed is in Proofs/WireDecodeLemmas.lean.
-/
import Resolved.Proofs.WireEncodeMsg

namespace Resolved

open Gen

def layoutMaxLen (fs : List Field) : Nat := (fs.map fieldMaxLen).sum

theorem rdataEncodeLayout_maxLen : ∀ e ∈ Gen.rdataEncodeLayout, layoutMaxLen e.2 < 65536 := by
  decide

theorem encodeLayoutOf_maxLen (code : Nat) : layoutMaxLen (encodeLayoutOf code) < 65536 :=
  encodeLayoutOf_of_table (P := fun l => layoutMaxLen l < 65536) rdataEncodeLayout_maxLen
    (by decide) code

theorem encodeName_length_le (b : WBuf) (n : Name) (c : Bool) (hwf : NameWF n) :
    (encodeName b n c).octets.length ≤ b.octets.length + 255 := by
  rw [encodeName_eq]
  split
  · simp only [List.length_append, u16Bytes_length]; omega
  · have := hwf.len_le
    simp only [List.length_append, hwf.len_eq]; omega

theorem encodeField_length_le (b : WBuf) (f : Field) (v : FieldVal) (hwf : FieldValWF f v) :
    (encodeField b f v).octets.length ≤ b.octets.length + fieldMaxLen f := by
  rcases encodeField_wf_shape hwf with ⟨n, c, hn, rfl, rfl⟩ | ⟨x, hx, hlen, _⟩
  · exact encodeName_length_le b n c hn
  · rw [hx]; simp only [WBuf.writeOctets, List.length_append]; omega

theorem encodeFields_length_le (fs : List Field) :
    ∀ (vs : List FieldVal) (b : WBuf), FieldsWF fs vs →
    (encodeFields b fs vs).octets.length ≤ b.octets.length + layoutMaxLen fs := by
  intro vs b
  fun_induction encodeFields b fs vs with
  | case1 b f fs v vs ih =>
    intro hwf
    have h1 := encodeField_length_le b f v hwf.1
    have h2 := ih hwf.2
    simp only [layoutMaxLen, List.map_cons, List.sum_cons] at h2 ⊢
    omega
  | case2 => exact fun _ => Nat.le_add_right _ _

/-- the RDATA written for a well-formed record is shorter than 65 536 octets -/
theorem encodeRR_total (b : WBuf) (rr : RR) (hwf : RRWF rr) : ∃ b', encodeRR b rr = .ok b' := by
  have h1 := encodeFields_length_le (encodeLayoutOf rr.rtype) rr.fields (rrPrefix b rr 0) hwf.2.2.2.2
  have h2 := encodeLayoutOf_maxLen rr.rtype
  exact ⟨_, (encodeRR_ok_iff b rr _).mpr ⟨_, rfl, by omega, rfl⟩⟩

theorem encodeRRs_total (rrs : List RR) :
    ∀ (b : WBuf), (∀ r ∈ rrs, RRWF r) → ∃ b', encodeRRs b rrs = .ok b' := by
  intro b
  fun_induction encodeRRs b rrs with
  | case1 b => exact fun _ => ⟨b, rfl⟩
  | case2 b r rrs e he =>
    intro hwf
    obtain ⟨b1, hb1⟩ := encodeRR_total b r (hwf r List.mem_cons_self)
    exact nomatch he.symm.trans hb1
  | case3 b r rrs b1 _ ih => exact fun hwf => ih (fun x hx => hwf x (List.mem_cons_of_mem _ hx))

end Resolved
