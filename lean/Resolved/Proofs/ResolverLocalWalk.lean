/-
  What `resolve_local` does to its context, and what it returns.  The context returned is the one given, its
  cache changed by lookups only (`resolveLocal_looked`), and what the cache answers does not depend on earlier
  lookups (`Ctx.Looked.reads`).  `LocalWalk` lists the ways a level ends in an `ok` result; every `ok` result of
  `resolveLocal` is the end of such a walk (`resolveLocal_walk`), so what holds of `ok` results is proved by
  inversion of, or induction over, the walk.
-/
import Resolved.Proofs.ResolverLocalSources
import Resolved.Proofs.ResolverLocalLemmas

namespace Resolved

open Gen

/-! ## the context: nothing but cache lookups -/

/-- `a` is `b` after local resolution: same zones, clock and question stack, the cache looked up in. -/
def Ctx.Looked (a b : Ctx) : Prop := a.SameFrame b ∧ b.cache.Touches a.cache

theorem Ctx.Looked.refl (a : Ctx) : a.Looked a := ⟨.refl a, .refl _⟩

theorem Ctx.Looked.trans {a b c : Ctx} (h1 : a.Looked b) (h2 : b.Looked c) : a.Looked c :=
  ⟨h1.1.trans h2.1, h2.2.trans h1.2⟩

theorem Ctx.cacheGet_looked (c : Ctx) (n : Name) (t : Nat) : (c.cacheGet n t).1.Looked c :=
  ⟨c.cacheGet_frame n t, cacheGetUnchecked_touches c.cache n t c.now⟩

theorem resolveLocal_looked (fuel : Nat) (c : Ctx) (q : Question) : (resolveLocal fuel c q).1.Looked c :=
  resolveLocal_rel (R := Ctx.Looked) .refl .trans Ctx.cacheGet_looked
    (fun q h => ⟨Ctx.pop_push_frame q h.1, h.2⟩) fuel c q

theorem Ctx.Looked.touches {a b : Ctx} (h : a.Looked b) : b.cache.Touches a.cache := h.2

theorem Ctx.Looked.zones {a b : Ctx} (h : a.Looked b) : a.zones = b.zones := h.1.1

theorem Ctx.Looked.now {a b : Ctx} (h : a.Looked b) : a.now = b.now := h.1.2.1

theorem Ctx.Looked.stack {a b : Ctx} (h : a.Looked b) : a.stack = b.stack := h.1.2.2

theorem Ctx.Looked.tuplesAt {a b : Ctx} (h : a.Looked b) (k : Name) (rk : Nat) :
    Resolved.tuplesAt a.cache k rk = Resolved.tuplesAt b.cache k rk := h.2.tuplesAt k rk

/-! ## what the cache answers -/

/-- what `SharedCache::get` answers in context `c`. -/
def Ctx.reads (c : Ctx) (n : Name) (t : Nat) : List RR := (Resolved.cacheGet c.cache n t c.now).2

theorem Ctx.cacheGet_snd_reads (c : Ctx) (n : Name) (t : Nat) : (c.cacheGet n t).2 = c.reads n t := rfl

theorem Ctx.Looked.reads {a b : Ctx} (h : a.Looked b) : a.reads = b.reads := by
  funext n t
  unfold Ctx.reads
  rw [h.now]
  exact h.touches.cacheGet_snd n t b.now

/-! ## forwards: the cache stage

  One equation for `resolveLocal (n + 1)` per way the cache stage ends, with the premises of the constructors of
  `LocalWalk` below: what the cache answers is read off the context given (`ctx.reads`), whichever lookup came
  before.  The equations are of the result `.2`; `resolveLocal_cache_alias_eq` alone writes the context out. -/

section Forward

variable (n : Nat) {ctx : Ctx} {q : Question}

theorem resolveLocal_cache_end {rz : List RR}
    (hl : ctx.stack.length ≠ RECURSION_LIMIT) (hd : q ∉ ctx.stack) (hz : ZoneFalls ctx.zones q rz)
    (hc : ctx.reads q.name q.qtype ≠ [] ∨ q.qtype = CNAME_QTYPE ∨ ctx.reads q.name CNAME_QTYPE = []) :
    (resolveLocal (n + 1) ctx q).2 =
      if prioritisingMerge rz (ctx.reads q.name q.qtype) = [] then .error (.deadEnd q)
      else .ok (finishOk q (prioritisingMerge rz (ctx.reads q.name q.qtype)) none) := by
  have fin : ∀ c, (finishPart q rz (c, .ok (ctx.reads q.name q.qtype, none))).2 =
      if prioritisingMerge rz (ctx.reads q.name q.qtype) = [] then .error (.deadEnd q)
      else .ok (finishOk q (prioritisingMerge rz (ctx.reads q.name q.qtype)) none) := fun c => by
    split
    · rename_i h; rw [finishPart_deadEnd h]
    · rename_i h; rw [finishPart_ok_eq h]
  rw [resolveLocal_succ, localStep_zone_falls hl hd hz, cacheStage_eq, Ctx.cacheGet_snd_reads]
  by_cases h : ctx.reads q.name q.qtype ≠ [] ∨ q.qtype = CNAME_QTYPE
  · rw [cachePart_direct h]; exact fin _
  · have h0 : ctx.reads q.name q.qtype = [] := Decidable.byContradiction fun h0 => h (.inl h0)
    -- the second read happens after the first: it answers what the given context would
    have hc1 : ((ctx.cacheGet q.name q.qtype).1.cacheGet q.name CNAME_QTYPE).2 = [] := by
      rw [Ctx.cacheGet_snd_reads, (ctx.cacheGet_looked _ _).reads]
      exact (hc.resolve_left fun h1 => h (.inl h1)).resolve_left fun h1 => h (.inr h1)
    rw [cachePart_empty h0 (fun h5 => h (.inr h5)) hc1]
    have := fin ((ctx.cacheGet q.name q.qtype).1.cacheGet q.name CNAME_QTYPE).1
    rwa [h0] at this ⊢

theorem resolveLocal_cache_answer {rrs : List RR}
    (hl : ctx.stack.length ≠ RECURSION_LIMIT) (hd : q ∉ ctx.stack) (hz : ZoneFalls ctx.zones q [])
    (hq : q.qtype ≠ QTYPE_WILDCARD) (hc : ctx.reads q.name q.qtype = rrs) (hne : rrs ≠ []) :
    (resolveLocal (n + 1) ctx q).2 = .ok (.done (.nonAuthoritative rrs none)) := by
  rw [resolveLocal_cache_end n hl hd hz (.inl (hc ▸ hne)), hc, prioritisingMerge_nil, if_neg hne, finishOk_done hq]

theorem resolveLocal_cache_dead_end (hl : ctx.stack.length ≠ RECURSION_LIMIT)
    (hd : q ∉ ctx.stack) (hz : ZoneFalls ctx.zones q []) (hc : ctx.reads q.name q.qtype = [])
    (hc1 : ctx.reads q.name CNAME_QTYPE = []) : (resolveLocal (n + 1) ctx q).2 = .error (.deadEnd q) := by
  rw [resolveLocal_cache_end n hl hd hz (.inr (.inr hc1)), hc, prioritisingMerge_nil, if_pos rfl]

theorem resolveLocal_cache_alias_eq {rz : List RR} {cnameRR : RR} {rest : List RR} {cname : Name}
    (hl : ctx.stack.length ≠ RECURSION_LIMIT) (hd : q ∉ ctx.stack) (hz : ZoneFalls ctx.zones q rz)
    (h0 : ctx.reads q.name q.qtype = []) (h5 : q.qtype ≠ CNAME_QTYPE)
    (hc : ctx.reads q.name CNAME_QTYPE = cnameRR :: rest) (ht : cnameTarget cnameRR = some cname) :
    resolveLocal (n + 1) ctx q =
      finishPart q rz
        ((resolveLocal n (((ctx.cacheGet q.name q.qtype).1.cacheGet q.name CNAME_QTYPE).1.push q)
            { name := cname, qtype := q.qtype, qclass := q.qclass }).1.pop,
         .ok (zoneCnameAnswer cnameRR { name := cname, qtype := q.qtype, qclass := q.qclass }
           (resolveLocal n (((ctx.cacheGet q.name q.qtype).1.cacheGet q.name CNAME_QTYPE).1.push q)
             { name := cname, qtype := q.qtype, qclass := q.qclass }).2).flat) := by
  have hc1 : ((ctx.cacheGet q.name q.qtype).1.cacheGet q.name CNAME_QTYPE).2 = cnameRR :: rest := by
    rw [Ctx.cacheGet_snd_reads, (ctx.cacheGet_looked _ _).reads, hc]
  rw [resolveLocal_succ, localStep_zone_falls hl hd hz, cacheStage_eq, Ctx.cacheGet_snd_reads,
    cachePart_follow h0 h5 hc1 ht]

theorem resolveLocal_cache_alias {rz : List RR} {cnameRR : RR} {rest : List RR} {cname : Name}
    {sub : Except ResolutionError LocalResult}
    (hl : ctx.stack.length ≠ RECURSION_LIMIT) (hd : q ∉ ctx.stack) (hz : ZoneFalls ctx.zones q rz)
    (h0 : ctx.reads q.name q.qtype = []) (h5 : q.qtype ≠ CNAME_QTYPE)
    (hc : ctx.reads q.name CNAME_QTYPE = cnameRR :: rest) (ht : cnameTarget cnameRR = some cname)
    (hsub : (resolveLocal n (((ctx.cacheGet q.name q.qtype).1.cacheGet q.name CNAME_QTYPE).1.push q)
      { name := cname, qtype := q.qtype, qclass := q.qclass }).2 = sub) :
    (resolveLocal (n + 1) ctx q).2 =
      .ok (finishOk q
        (prioritisingMerge rz (zoneCnameAnswer cnameRR { name := cname, qtype := q.qtype, qclass := q.qclass } sub).flat.1)
        (zoneCnameAnswer cnameRR { name := cname, qtype := q.qtype, qclass := q.qclass } sub).flat.2) := by
  obtain ⟨_, hw⟩ := zoneCnameAnswer_head cnameRR { name := cname, qtype := q.qtype, qclass := q.qclass } sub
  rw [resolveLocal_cache_alias_eq n hl hd hz h0 h5 hc ht, hsub,
    finishPart_ok_eq (prioritisingMerge_ne_nil (LocalResult.flat_fst _ ▸ hw ▸ List.cons_ne_nil _ _))]

end Forward

/-! ## the walk -/

/-- The ways a level of `resolve_local` at question `q` under the question stack `s` ends in an `ok` result
    `r`, over the zones `zs` and what the cache answers, `get`.  A followed alias (`zoneAlias`, `cacheAlias`)
    wraps the outcome `sub` of resolving its target one level down; of `sub` only an `ok` result matters
    (every failure is absorbed alike), and then it is the end of a walk of its own. -/
inductive LocalWalk (zs : Zones) (get : Name → Nat → List RR) : List Question → Question → LocalResult → Prop
  | answerAuth {s q z rrs soa} : s.length ≠ RECURSION_LIMIT → q ∉ s →
      zs.resolve q.name q.qtype = some (z, some (.answer rrs)) → z.soaRR = some soa →
      LocalWalk zs get s q (.done (.authoritative rrs soa))
  | nameError {s q z soa} : s.length ≠ RECURSION_LIMIT → q ∉ s →
      zs.resolve q.name q.qtype = some (z, some .nameError) → z.soaRR = some soa →
      LocalWalk zs get s q (.done (.authoritativeNameError soa))
  | referral {s q z first rest soa} : s.length ≠ RECURSION_LIMIT → q ∉ s →
      zs.resolve q.name q.qtype = some (z, some (.delegation (first :: rest))) → z.soaRR = some soa →
      LocalWalk zs get s q (.delegation (first :: rest) (some soa)
        { hostnames := (first :: rest).filterMap nsTarget, name := first.name })
  | answerNonauth {s q z rrs} : s.length ≠ RECURSION_LIMIT → q ∉ s →
      zs.resolve q.name q.qtype = some (z, some (.answer rrs)) → z.soaRR = none →
      q.qtype ≠ QTYPE_WILDCARD → rrs ≠ [] → LocalWalk zs get s q (.done (.nonAuthoritative rrs none))
  | zoneAlias {s q z c rr sub r} : s.length ≠ RECURSION_LIMIT → q ∉ s →
      zs.resolve q.name q.qtype = some (z, some (.cname c rr)) →
      (∀ r', sub = .ok r' → LocalWalk zs get (s ++ [q]) ⟨c, q.qtype, q.qclass⟩ r') →
      r = zoneCnameAnswer rr ⟨c, q.qtype, q.qclass⟩ sub → LocalWalk zs get s q r
  | cacheAnswer {s q rz r} : s.length ≠ RECURSION_LIMIT → q ∉ s → ZoneFalls zs q rz →
      get q.name q.qtype ≠ [] ∨ q.qtype = CNAME_QTYPE ∨ get q.name CNAME_QTYPE = [] →
      prioritisingMerge rz (get q.name q.qtype) ≠ [] →
      r = finishOk q (prioritisingMerge rz (get q.name q.qtype)) none → LocalWalk zs get s q r
  | cacheAlias {s q rz cnameRR rest cname sub w r} : s.length ≠ RECURSION_LIMIT → q ∉ s → ZoneFalls zs q rz →
      get q.name q.qtype = [] → q.qtype ≠ CNAME_QTYPE → get q.name CNAME_QTYPE = cnameRR :: rest →
      cnameTarget cnameRR = some cname →
      (∀ r', sub = .ok r' → LocalWalk zs get (s ++ [q]) ⟨cname, q.qtype, q.qclass⟩ r') →
      w = zoneCnameAnswer cnameRR ⟨cname, q.qtype, q.qclass⟩ sub →
      r = finishOk q (prioritisingMerge rz w.flat.1) w.flat.2 → LocalWalk zs get s q r

theorem localStep_walk {rec : Ctx → Question → LocalOut}
    (hrec : ∀ c q r, (rec c q).2 = .ok r → LocalWalk c.zones c.reads c.stack q r) (ctx : Ctx) (q : Question) :
    ∀ r, (localStep rec ctx q).2 = .ok r → LocalWalk ctx.zones ctx.reads ctx.stack q r := by
  -- a recursive call: the question pushed on a context that differs from `ctx` by cache lookups only
  have hsub : ∀ {c : Ctx}, c.Looked ctx → ∀ cq r', (rec (c.push q) cq).2 = .ok r' →
      LocalWalk ctx.zones ctx.reads (ctx.stack ++ [q]) cq r' := fun {c} hc cq r' hr' => by
    have := hrec (c.push q) cq r' hr'
    rwa [show (c.push q).reads = ctx.reads from hc.reads, show (c.push q).zones = ctx.zones from hc.zones,
      show (c.push q).stack = ctx.stack ++ [q] from congrArg (· ++ [q]) hc.stack] at this
  apply localStep_cases (motive := fun _ out => ∀ r, out = .ok r → LocalWalk ctx.zones ctx.reads ctx.stack q r)
  case limit => intro _ r h; cases h
  case duplicate => intro _ _ r h; cases h
  case auth =>
    intro z zr soa hl hq hz hs hnc _ r h
    cases zr with
    | answer rrs => cases h; exact .answerAuth hl hq hz hs
    | nameError => cases h; exact .nameError hl hq hz hs
    | delegation ns => cases ns <;> cases h; exact .referral hl hq hz hs
    | cname c rr => exact absurd rfl (hnc c rr)
    | panic => cases h
  case answerNonauth => intro z rrs hl hq hz hs h255 hne r h; cases h; exact .answerNonauth hl hq hz hs h255 hne
  case cname =>
    intro z c rr hl hq hz r h
    exact .zoneAlias hl hq hz (hsub (.refl ctx) _) (Except.ok.inj h).symm
  case falls =>
    intro rz hl hq hf r h
    rw [cacheStage_eq] at h
    obtain ⟨rc, fc, hcp, hne, rfl⟩ := finishPart_ok_inv h
    have h2 := ctx.cacheGet_looked q.name q.qtype
    revert hcp
    apply cachePart_cases (motive := fun cp => cp.2 = .ok (rc, fc) → LocalWalk ctx.zones ctx.reads ctx.stack q _)
    case direct => intro h0 h; cases h; exact .cacheAnswer hl hq hf (h0.imp_right .inl) hne rfl
    case empty =>
      intro h0 h5 hc h; cases h
      have hc' : ctx.reads q.name CNAME_QTYPE = [] := by rw [← h2.reads]; exact hc
      have h0' : ctx.reads q.name q.qtype = [] := h0
      exact .cacheAnswer hl hq hf (.inr (.inr hc')) (by rw [h0']; exact hne) (by rw [h0'])
    case mismatch => intro _ _ _ _ _ _ h; cases h
    case follow =>
      intro cnameRR rest cname h0 h5 hc ht h
      have hc' : ctx.reads q.name CNAME_QTYPE = cnameRR :: rest := by rw [← h2.reads]; exact hc
      have h3 := (Ctx.cacheGet_looked _ q.name CNAME_QTYPE).trans h2
      have e := Except.ok.inj h
      obtain rfl : rc = _ := (congrArg Prod.fst e).symm
      obtain rfl : fc = _ := (congrArg Prod.snd e).symm
      exact .cacheAlias hl hq hf h0 h5 hc' ht (hsub h3 _) rfl rfl

theorem resolveLocal_walk {fuel : Nat} {ctx : Ctx} {q : Question} {r : LocalResult}
    (h : (resolveLocal fuel ctx q).2 = .ok r) : LocalWalk ctx.zones ctx.reads ctx.stack q r :=
  resolveLocal_induct (P := fun rec => ∀ c q r, (rec c q).2 = .ok r → LocalWalk c.zones c.reads c.stack q r)
    (fun _ _ _ h => nomatch h) (fun _ ih => localStep_walk ih) fuel ctx q r h

/-! ## one level inverted -/

section Inversion

variable {zs : Zones} {get : Name → Nat → List RR} {s : List Question} {q : Question}

theorem LocalWalk.nameError_inv {soa : RR} (h : LocalWalk zs get s q (.done (.authoritativeNameError soa))) :
    ∃ z, zs.resolve q.name q.qtype = some (z, some .nameError) ∧ z.soaRR = some soa := by
  cases h with
  | nameError _ _ hz hs => exact ⟨_, hz, hs⟩
  | zoneAlias _ _ _ _ hr => exact absurd hr.symm (zoneCnameAnswer_ne_nameError _ _ _ _)
  | cacheAnswer _ _ _ _ _ hr => exact absurd hr.symm (finishOk_ne_nameError _ _ _ _)
  | cacheAlias _ _ _ _ _ _ _ _ _ hr => exact absurd hr.symm (finishOk_ne_nameError _ _ _ _)

theorem LocalWalk.delegation_inv {rrs : List RR} {o : Option RR} {d : Nameservers}
    (h : LocalWalk zs get s q (.delegation rrs o d)) :
    ∃ z soa first rest, o = some soa ∧ rrs = first :: rest ∧
      zs.resolve q.name q.qtype = some (z, some (.delegation rrs)) ∧ z.soaRR = some soa ∧
      d = { hostnames := rrs.filterMap nsTarget, name := first.name } ∧
      (∀ rr ∈ rrs, rr.name = d.name) ∧ (ZoneAnswersTyped zs → ∀ rr ∈ rrs, rr.rtype = RT_NS) := by
  cases h with
  | referral _ _ hz hs =>
    exact ⟨_, _, _, _, rfl, rfl, hz, hs, rfl,
      fun rr hrr => ((Zones.resolve_owned hz).delegation _ rfl).2 rr hrr _ List.mem_cons_self,
      fun ht => (ht _ _ _ _ hz).delegation _ rfl⟩
  | zoneAlias _ _ _ _ hr => exact absurd hr.symm (zoneCnameAnswer_ne_delegation _ _ _ _ _ _)
  | cacheAnswer _ _ _ _ _ hr => exact absurd hr.symm (finishOk_ne_delegation _ _ _ _ _ _)
  | cacheAlias _ _ _ _ _ _ _ _ _ hr => exact absurd hr.symm (finishOk_ne_delegation _ _ _ _ _ _)

theorem resolveLocal_cname_owners {fuel : Nat} {ctx : Ctx} (h5 : q.qtype = RT_CNAME) {r : LocalResult}
    (h : (resolveLocal fuel ctx q).2 = .ok r) :
    (∃ rs s d, r = .delegation rs s d) ∨ ∀ rr ∈ r.toResolved.rrs, rr.name = q.name := by
  have h255 : q.qtype ≠ QTYPE_WILDCARD := by rw [h5]; decide
  cases resolveLocal_walk h with
  | answerAuth _ _ hz | answerNonauth _ _ hz => exact .inr ((Zones.resolve_owned hz).answer _ rfl)
  | nameError => exact .inr nofun
  | referral => exact .inl ⟨_, _, _, rfl⟩
  | zoneAlias _ _ hz => exact absurd (h5 ▸ hz) (Zones.resolve_no_cname (by decide))
  | cacheAlias _ _ _ _ hn => exact absurd h5 hn
  | cacheAnswer _ _ hf _ _ hr =>
    -- a CNAME question is not ANY: the zones contribute nothing, and the cache is read once
    rw [hr, hf.nil_of_ne_any h255, prioritisingMerge_nil, finishOk_done h255]
    exact .inr (cacheGet_owner _ _ _ _)

theorem resolveLocal_falls_ok {n : Nat} {ctx : Ctx} {rz : List RR} {r : LocalResult} (hl : ctx.stack.length ≠ RECURSION_LIMIT)
    (hd : q ∉ ctx.stack) (hz : ZoneFalls ctx.zones q rz) (h : (resolveLocal (n + 1) ctx q).2 = .ok r) :
    ∃ rc fc, prioritisingMerge rz rc ≠ [] ∧ r = finishOk q (prioritisingMerge rz rc) fc := by
  rw [resolveLocal_succ, localStep_zone_falls hl hd hz, cacheStage_eq] at h
  obtain ⟨rc, fc, _, hne, hr⟩ := finishPart_ok_inv h
  exact ⟨rc, fc, hne, hr⟩

end Inversion

/-! ## inductions over the walk -/

section Induction

variable {zs : Zones} {get : Name → Nat → List RR}

theorem LocalWalk.partial_any {s : List Question} {q : Question} {r : LocalResult} (h : LocalWalk zs get s q r) :
    ∀ rrs, r = .partialAnswer rrs → q.qtype = QTYPE_WILDCARD := by
  induction h with
  | answerAuth | nameError | referral | answerNonauth => exact nofun
  | zoneAlias _ _ _ _ hr ih =>
    intro rrs he
    obtain ⟨rs, hrs⟩ := zoneCnameAnswer_partial (hr.symm.trans he)
    exact ih _ hrs rs rfl
  | cacheAnswer _ _ _ _ _ hr | cacheAlias _ _ _ _ _ _ _ _ _ hr =>
    intro rrs he
    rcases finishOk_cases _ _ _ with ⟨_, h⟩ | ⟨hq, _⟩ | ⟨_, h⟩
    · rw [hr, h] at he; cases he
    · exact hq
    · rw [hr, h] at he; cases he

theorem LocalWalk.all_rrs {P : RR → Prop}
    (hzone : ∀ {n t z zr}, zs.resolve n t = some (z, some zr) →
      (∀ rr ∈ zr.rrs, P rr) ∧ ∀ soa, z.soaRR = some soa → P soa)
    (hget : ∀ n t, ∀ rr ∈ get n t, P rr) {s : List Question} {q : Question} {r : LocalResult}
    (h : LocalWalk zs get s q r) : ∀ rr ∈ r.allRrs, P rr := by
  have hfalls : ∀ {q rz}, ZoneFalls zs q rz → ∀ rr ∈ rz, P rr := fun hf => by
    rcases hf.contribution with rfl | ⟨_, _, _, hz⟩
    · exact nofun
    · exact (hzone hz).1
  have recs : ∀ {n t z zr soa}, zs.resolve n t = some (z, some zr) → z.soaRR = some soa →
      ∀ rr ∈ zr.rrs ++ [soa], P rr := fun hz hs rr hrr =>
    (List.mem_append.mp hrr).elim ((hzone hz).1 rr) fun h => List.mem_singleton.mp h ▸ (hzone hz).2 _ hs
  induction h with
  | answerAuth _ _ hz hs => exact recs hz hs
  | nameError _ _ hz hs => exact recs hz hs
  | referral _ _ hz hs => exact recs hz hs
  | answerNonauth _ _ hz =>
    exact fun rr hrr => (hzone hz).1 rr ((List.mem_append.mp hrr).resolve_right List.not_mem_nil)
  | zoneAlias _ _ hz _ hr ih =>
    subst hr
    intro rr hrr
    rcases zoneCnameAnswer_allRrs _ _ _ rr hrr with rfl | ⟨r', hs, hm⟩
    · exact (hzone hz).1 _ List.mem_cons_self
    · exact ih r' hs rr hm
  | cacheAnswer _ _ hf _ _ hr =>
    subst hr
    exact fun rr hrr => (mem_prioritisingMerge (finishOk_allRrs _ _ _ rr hrr)).elim (hfalls hf rr) (hget _ _ rr)
  | cacheAlias _ _ hf _ _ hc _ _ hw hr ih =>
    subst hr hw
    intro rr hrr
    rcases mem_prioritisingMerge (finishOk_allRrs _ _ _ rr hrr) with h | h
    · exact hfalls hf rr h
    · rcases zoneCnameAnswer_allRrs _ _ _ rr (LocalResult.flat_sub _ rr h) with rfl | ⟨r', hs, hm⟩
      · exact hget _ _ _ (hc ▸ List.mem_cons_self)
      · exact ih r' hs rr hm

end Induction

end Resolved
