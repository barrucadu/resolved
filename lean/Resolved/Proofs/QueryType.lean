/-
  The table of query-only type codes (`AXFR`, `MAILB`, `MAILA`, `*`): which codes it holds, and what
  `RecordType::matches` (`rtypeMatches`) is for each kind of query type.  A code outside the table is
  a record type; that is spelled `lookupNat queryTypeFromU16 t = none` throughout.
-/
import Resolved.Model.Wire

namespace Resolved

open Gen

theorem lookupNat_qt (qtype : Nat) :
    lookupNat queryTypeFromU16 qtype =
      if qtype = 252 then some "AXFR" else if qtype = 253 then some "MAILB"
      else if qtype = 254 then some "MAILA" else if qtype = 255 then some "Wildcard" else none := by
  simp only [queryTypeFromU16, lookupNat]

theorem lookupNat_qt_eq_none_iff (t : Nat) :
    lookupNat queryTypeFromU16 t = none ↔ t ≠ 252 ∧ t ≠ 253 ∧ t ≠ 254 ∧ t ≠ 255 := by
  rw [lookupNat_qt]
  constructor
  · intro h
    refine ⟨?_, ?_, ?_, ?_⟩ <;> (intro e; subst e; simp at h)
  · rintro ⟨h1, h2, h3, h4⟩
    simp [h1, h2, h3, h4]

theorem lookupNat_qt_eq_wildcard_iff {t : Nat} :
    lookupNat queryTypeFromU16 t = some "Wildcard" ↔ t = QTYPE_WILDCARD := by
  rw [lookupNat_qt]
  constructor
  · intro h
    by_cases h1 : t = 252
    · rw [if_pos h1] at h; simp at h
    by_cases h2 : t = 253
    · rw [if_neg h1, if_pos h2] at h; simp at h
    by_cases h3 : t = 254
    · rw [if_neg h1, if_neg h2, if_pos h3] at h; simp at h
    by_cases h4 : t = 255
    · exact h4
    · rw [if_neg h1, if_neg h2, if_neg h3, if_neg h4] at h; cases h
  · rintro rfl; rfl

theorem rtypeMatches_of_recordType {qtype : Nat} (hq : lookupNat queryTypeFromU16 qtype = none) (rt : Nat) :
    rtypeMatches rt qtype = (rt == qtype) := by
  rw [rtypeMatches, hq]

theorem rtypeMatches_of_wildcard {qtype : Nat} (hq : lookupNat queryTypeFromU16 qtype = some "Wildcard")
    (rt : Nat) : rtypeMatches rt qtype = true := by
  simp only [rtypeMatches, hq]

theorem qtype_cases (qtype : Nat) :
    (lookupNat Gen.queryTypeFromU16 qtype = none ∧ ∀ rt, rtypeMatches rt qtype = (rt == qtype)) ∨
    (lookupNat Gen.queryTypeFromU16 qtype = some "Wildcard" ∧ ∀ rt, rtypeMatches rt qtype = true) ∨
    ∃ s, lookupNat Gen.queryTypeFromU16 qtype = some s ∧ s ≠ "Wildcard" ∧ ∀ rt, rtypeMatches rt qtype = false := by
  cases hq : lookupNat Gen.queryTypeFromU16 qtype with
  | none => exact Or.inl ⟨rfl, rtypeMatches_of_recordType hq⟩
  | some s =>
    by_cases hs : s = "Wildcard"
    · subst hs; exact Or.inr (Or.inl ⟨rfl, rtypeMatches_of_wildcard hq⟩)
    · refine Or.inr (Or.inr ⟨s, rfl, hs, fun _ => ?_⟩)
      rw [rtypeMatches, hq]
      split
      · rename_i heq; cases heq; exact absurd rfl hs
      · rfl
      · rename_i heq; cases heq

end Resolved
