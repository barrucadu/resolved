/-
  Concrete fixtures for the non-vacuity examples of C01 / C10 (local resolver): a tiny
  authoritative zone `e.`, a hosts-like non-authoritative root zone, two caches.
-/
import Resolved.Proofs.ResolverLocalTyped
import Resolved.Proofs.ResolverLocalChain

namespace Resolved

open Gen

namespace Ex

def nRoot : Name := ⟨[[]], 1⟩
def nE : Name := ⟨[[101], []], 3⟩                    -- e.
def nWE : Name := ⟨[[119], [101], []], 5⟩            -- w.e.
def nCE : Name := ⟨[[99], [101], []], 5⟩             -- c.e.
def nDE : Name := ⟨[[100], [101], []], 5⟩            -- d.e.
def nXE : Name := ⟨[[120], [101], []], 5⟩            -- x.e.   (absent)
def nSE : Name := ⟨[[115], [101], []], 5⟩            -- s.e.   (delegated)
def nXSE : Name := ⟨[[120], [115], [101], []], 7⟩    -- x.s.e.
def nPE : Name := ⟨[[112], [101], []], 5⟩            -- p.e.   (alias loop p.e. → q.e. → p.e.)
def nQE : Name := ⟨[[113], [101], []], 5⟩            -- q.e.
def nO : Name := ⟨[[111], []], 3⟩                    -- o.     (outside `e.`)
def nNO : Name := ⟨[[110], [111], []], 5⟩            -- n.o.
def nH : Name := ⟨[[104], []], 3⟩                    -- h.     (hosts entry)
def nA : Name := ⟨[[97], []], 3⟩                     -- a.     (alias in the SOA-less zone)
def nK : Name := ⟨[[107], []], 3⟩                    -- k.     (alias known to the cache only)

def soaE : SOA := ⟨nE, nE, 1, 2, 3, 4, 5⟩
def soaRRE : RR := ⟨nE, 6, soaE.toFields, 1, 5⟩

/-- authoritative zone `e.`: `w.e. A 1`, `c.e. CNAME w.e.`, `d.e. CNAME o.`, `s.e. NS n.o.`,
    and the alias loop `p.e. CNAME q.e.`, `q.e. CNAME p.e.` -/
def zoneE : Zone :=
  { apex := nE, soa := some soaE,
    records := ZNode.mk nE [(6, [⟨6, soaE.toFields, 5⟩])] none
      [([119], ZNode.mk nWE [(1, [⟨1, [.a 1], 300⟩])] none []),
       ([99], ZNode.mk nCE [(5, [⟨5, [.name nWE], 300⟩])] none []),
       ([100], ZNode.mk nDE [(5, [⟨5, [.name nO], 300⟩])] none []),
       ([115], ZNode.mk nSE [(2, [⟨2, [.name nNO], 300⟩])] none []),
       ([112], ZNode.mk nPE [(5, [⟨5, [.name nQE], 300⟩])] none []),
       ([113], ZNode.mk nQE [(5, [⟨5, [.name nPE], 300⟩])] none [])] }

/-- hosts-like zone: apex `.`, no SOA: `h. A 9`, `a. CNAME w.e.` -/
def zoneH : Zone :=
  { apex := nRoot, soa := none,
    records := ZNode.mk nRoot [] none
      [([104], ZNode.mk nH [(1, [⟨1, [.a 9], 5⟩])] none []),
       ([97], ZNode.mk nA [(5, [⟨5, [.name nWE], 5⟩])] none [])] }

def zones : Zones := (Zones.empty.insert zoneE).insert zoneH

def rrW : RR := ⟨nWE, 1, [.a 1], 1, 300⟩
def rrC : RR := ⟨nCE, 5, [.name nWE], 1, 300⟩
def rrD : RR := ⟨nDE, 5, [.name nO], 1, 300⟩
def rrS : RR := ⟨nSE, 2, [.name nNO], 1, 300⟩
def rrP : RR := ⟨nPE, 5, [.name nQE], 1, 300⟩
def rrQ : RR := ⟨nQE, 5, [.name nPE], 1, 300⟩
def rrH : RR := ⟨nH, 1, [.a 9], 1, 5⟩
def rrA : RR := ⟨nA, 5, [.name nWE], 1, 5⟩
def rrO : RR := ⟨nO, 1, [.a 7], 1, 100⟩
def rrK : RR := ⟨nK, 5, [.name nO], 1, 100⟩

def cache0 : PCache := PCache.new 10
/-- cache holding `o. A 7`, `k. CNAME o.`, and (conflicting with local data) `h. A 8`, `w.e. A 66`. -/
def cache1 : PCache :=
  sharedInsertAll cache0 [rrO, rrK, ⟨nH, 1, [.a 8], 1, 100⟩, ⟨nWE, 1, [.a 66], 1, 100⟩] 0

def ctx0 : Ctx := { zones := zones, cache := cache0, now := 0, stack := [] }
def ctx1 : Ctx := { zones := zones, cache := cache1, now := 0, stack := [] }

def qA (n : Name) : Question := ⟨n, RT_A, 1⟩

theorem zones_keyed : ZonesKeyed zones := zonesKeyed_insert (zonesKeyed_insert zonesKeyed_empty _) _

theorem zones_typed : ZonesTyped zones := by
  apply zonesTyped_of_all
  intro k z hl
  simp only [zones, Zones.insert, Zones.lookup_setZone] at hl
  split at hl
  · cases hl; exact ZNode.typed_of_nodeAll (by decide)
  · split at hl
    · cases hl; exact ZNode.typed_of_nodeAll (by decide)
    · simp [Zones.empty, Zones.lookup] at hl

theorem zones_answers_typed : ZoneAnswersTyped zones := zoneAnswersTyped_of_typed zones_typed

theorem cache1_typed : CacheTyped cache1 := sharedInsertAll_typed _ _ (cacheTyped_new _)

/-! ## zone verdicts -/

theorem resolve_w : zones.resolve nWE RT_A = some (zoneE, some (.answer [rrW])) := by
  simp only [Zones.resolve, Zone.resolve, ZNode.resolve_eq_rev]; rfl
theorem resolve_c : zones.resolve nCE RT_A = some (zoneE, some (.cname nWE rrC)) := by
  simp only [Zones.resolve, Zone.resolve, ZNode.resolve_eq_rev]; rfl
theorem resolve_c_cname : zones.resolve nCE RT_CNAME = some (zoneE, some (.answer [rrC])) := by
  simp only [Zones.resolve, Zone.resolve, ZNode.resolve_eq_rev]; rfl
theorem resolve_d : zones.resolve nDE RT_A = some (zoneE, some (.cname nO rrD)) := by
  simp only [Zones.resolve, Zone.resolve, ZNode.resolve_eq_rev]; rfl
theorem resolve_x : zones.resolve nXE RT_A = some (zoneE, some .nameError) := by
  simp only [Zones.resolve, Zone.resolve, ZNode.resolve_eq_rev]; rfl
theorem resolve_xs : zones.resolve nXSE RT_A = some (zoneE, some (.delegation [rrS])) := by
  simp only [Zones.resolve, Zone.resolve, ZNode.resolve_eq_rev]; rfl
theorem resolve_h : zones.resolve nH RT_A = some (zoneH, some (.answer [rrH])) := by
  simp only [Zones.resolve, Zone.resolve, ZNode.resolve_eq_rev]; rfl
theorem resolve_a : zones.resolve nA RT_A = some (zoneH, some (.cname nWE rrA)) := by
  simp only [Zones.resolve, Zone.resolve, ZNode.resolve_eq_rev]; rfl
theorem resolve_p : zones.resolve nPE RT_A = some (zoneE, some (.cname nQE rrP)) := by
  simp only [Zones.resolve, Zone.resolve, ZNode.resolve_eq_rev]; rfl
theorem resolve_q : zones.resolve nQE RT_A = some (zoneE, some (.cname nPE rrQ)) := by
  simp only [Zones.resolve, Zone.resolve, ZNode.resolve_eq_rev]; rfl
theorem get_w : zones.get nWE = some zoneE := rfl
theorem get_o : zones.get nO = some zoneH := rfl

theorem resolve_h_any : zones.resolve nH QTYPE_WILDCARD = some (zoneH, some (.answer [rrH])) := by
  simp only [Zones.resolve, Zone.resolve, ZNode.resolve_eq_rev]; rfl
theorem resolve_o : zones.resolve nO RT_A = some (zoneH, some .nameError) := by
  simp only [Zones.resolve, Zone.resolve, ZNode.resolve_eq_rev]; rfl
theorem resolve_k : zones.resolve nK RT_A = some (zoneH, some .nameError) := by
  simp only [Zones.resolve, Zone.resolve, ZNode.resolve_eq_rev]; rfl

/-! ## concrete runs (fuel 33 = `RECURSION_LIMIT + 1`, what the callers pass) -/

/-- `c.e. A`: alias and target both in the authoritative zone. -/
theorem run_c (c : Ctx) (hz : c.zones = zones) (hs : c.stack = []) :
    (resolveLocal 33 c (qA nCE)).2 = .ok (.done (.authoritative [rrC, rrW] soaRRE)) :=
  resolveLocal_zone_cname 32 (ctx := c) (q := qA nCE) (by simp [hs, RECURSION_LIMIT]) (by simp [hs]) (hz ▸ resolve_c)
    (congrArg Prod.snd (resolveLocal_zone_auth 31 (ctx := c.push (qA nCE)) (q := qA nWE) (z := zoneE) (zr := .answer [rrW])
      (soa := soaRRE) (by simp [Ctx.push, hs, RECURSION_LIMIT]) (by simp [Ctx.push, hs]; decide)
      (by simp only [Ctx.push, hz]; exact resolve_w) rfl nofun nofun))

/-- `o. A`: the root zone has no SOA and says "name error". -/
theorem falls_o {c : Ctx} (hz : c.zones = zones) : ZoneFalls c.zones (qA nO) [] :=
  .nameError zoneH (hz ▸ resolve_o) rfl

/-- `d.e. A` with an empty cache: the alias of the authoritative zone points outside, nothing is
    known about the target: an unfinished walk, which converts into a NON-authoritative reply. -/
theorem run_d_cold : (resolveLocal 33 ctx0 (qA nDE)).2 = .ok (.cname [rrD] (qA nO)) :=
  resolveLocal_zone_cname 32 (ctx := ctx0) (q := qA nDE) (by decide) (by decide) resolve_d
    (resolveLocal_cache_dead_end 31 (ctx := ctx0.push (qA nDE)) (q := qA nO) (by decide) (by decide) (falls_o rfl) rfl rfl)

/-- `d.e. A` with `o. A 7` cached: the reply is complete but NOT authoritative. -/
theorem run_d_warm : (resolveLocal 33 ctx1 (qA nDE)).2 = .ok (.done (.nonAuthoritative [rrD, rrO] none)) :=
  resolveLocal_zone_cname 32 (ctx := ctx1) (q := qA nDE) (by decide) (by decide) resolve_d
    (resolveLocal_cache_answer 31 (ctx := ctx1.push (qA nDE)) (q := qA nO) (by decide) (by decide) (falls_o rfl)
      (by decide) (by decide +kernel) (by simp))

/-- `k. A`: both links come from the cache. -/
theorem run_k : (resolveLocal 33 ctx1 (qA nK)).2 = .ok (.done (.nonAuthoritative [rrK, rrO] none)) :=
  (resolveLocal_cache_alias 32 (ctx := ctx1) (q := qA nK) (rest := []) (cnameRR := rrK) (by decide) (by decide)
    (.nameError zoneH resolve_k rfl) (by decide +kernel) (by decide) (by decide +kernel) rfl
    (resolveLocal_cache_answer 31 (q := qA nO) (rrs := [rrO]) (by decide) (by decide) (falls_o rfl) (by decide)
      (by decide +kernel) (by simp))).trans rfl

/-- `a. A`: the alias comes from the SOA-less zone, its target from the authoritative zone `e.`:
    the reply is marked authoritative (with the SOA of `e.`). -/
theorem run_a : (resolveLocal 33 ctx1 (qA nA)).2 = .ok (.done (.authoritative [rrA, rrW] soaRRE)) :=
  resolveLocal_zone_cname 32 (ctx := ctx1) (q := qA nA) (by decide) (by decide) resolve_a
    (congrArg Prod.snd (resolveLocal_zone_auth 31 (ctx := ctx1.push (qA nA)) (q := qA nWE) (z := zoneE)
      (zr := .answer [rrW]) (soa := soaRRE) (by decide) (by decide) resolve_w rfl nofun nofun))

/-- `p.e. A`: the alias loop `p.e. → q.e. → p.e.` is cut by the duplicate-question guard after each
    alias was followed once; the partial chain is returned with the question to go on with. -/
theorem run_p : (resolveLocal 33 ctx1 (qA nPE)).2 = .ok (.cname [rrP, rrQ] (qA nPE)) :=
  resolveLocal_zone_cname 32 (ctx := ctx1) (q := qA nPE) (by decide) (by decide) resolve_p
    (resolveLocal_zone_cname 31 (ctx := ctx1.push (qA nPE)) (q := qA nQE) (by decide) (by decide) resolve_q
      (congrArg Prod.snd (resolveLocal_duplicate 30 (by decide) (by decide))))

end Ex

end Resolved
