/-
  Lemmas about `followLoop` / `followCnames` (`Resolved/Model/Upstream.lean`): `NameMap` as an
  association list (`AL`), chains of a map, the run of the loop (`followLoop_run`: the chain
  followed, fuel, loop detection), the `cname_map` traced back to the CNAME records, and the result
  of `followCnames` as a chain without fuel (`Followed`, `followCnames_some`).
-/
import Resolved.Model.Upstream
import Resolved.Proofs.Assoc

namespace Resolved

/-- `NameMap` lookup and insert are the association-list ones: the `AL` lemmas apply. -/
theorem nmGet_eq_al : nmGet = AL.get := by
  funext m k
  induction m with
  | nil => rfl
  | cons p m ih => rw [nmGet, AL.get, ih]

theorem nmInsert_eq_al : nmInsert = AL.set := by
  funext m k v
  induction m with
  | nil => rfl
  | cons p m ih => rw [nmInsert, AL.set, ih]

/-! ### chains -/

/-- `path = [t₁, …, t_k]` with `n ↦ t₁ ↦ … ↦ t_k` in `m`. -/
def ChainFrom (m : NameMap) : Name → List Name → Prop
  | _, [] => True
  | n, t :: rest => nmGet m n = some t ∧ ChainFrom m t rest

/-- the last element of `n :: path` (`lastOr_eq_getLast`). -/
def lastOr : Name → List Name → Name
  | n, [] => n
  | _, t :: p => lastOr t p

theorem lastOr_eq_getLast (n : Name) (path : List Name) :
    (n :: path).getLast? = some (lastOr n path) := by
  induction path generalizing n with
  | nil => rfl
  | cons t p ih =>
    rw [List.getLast?_cons_cons, ih]
    rfl

/-- the `followed` map the loop returns when it walked `path` from `n`. -/
def linksOf (n : Name) (path : List Name) : NameMap := (n :: path).zip path

theorem linksOf_cons (n t : Name) (p : List Name) : linksOf n (t :: p) = (n, t) :: linksOf t p := rfl

theorem lastOr_eq_or_link (n : Name) (path : List Name) :
    lastOr n path = n ∨ ∃ y, (y, lastOr n path) ∈ linksOf n path := by
  induction path generalizing n with
  | nil => exact Or.inl rfl
  | cons t p ih =>
    rw [linksOf_cons]
    rcases ih t with h | ⟨y, h⟩
    · exact Or.inr ⟨n, by rw [show lastOr n (t :: p) = t from h]; exact List.mem_cons_self⟩
    · exact Or.inr ⟨y, List.mem_cons_of_mem _ h⟩

/-- `followed` after the loop has inserted the links `ls` one by one. -/
def insertAll (fol : NameMap) (ls : NameMap) : NameMap := ls.foldl (fun f p => nmInsert f p.1 p.2) fol

theorem chainFrom_iff_links {m : NameMap} {n : Name} {path : List Name} :
    ChainFrom m n path ↔ ∀ p ∈ linksOf n path, nmGet m p.1 = some p.2 := by
  induction path generalizing n with
  | nil => exact ⟨fun _ _ h => (List.not_mem_nil h).elim, fun _ => trivial⟩
  | cons t p ih =>
    rw [linksOf_cons]
    simp only [ChainFrom, ih, List.mem_cons, forall_eq_or_imp]

theorem chainFrom_nil {n : Name} {path : List Name} (h : ChainFrom [] n path) : path = [] := by
  cases path with
  | nil => rfl
  | cons t p => exact absurd h.1 (by simp [nmGet])

section
variable {m fol : NameMap} {n : Name} {path seen : List Name}

theorem chainFrom_mem_succ (hc : ChainFrom m n path)
    {x : Name} (hx : x ∈ path) : x = lastOr n path ∨ ∃ y, nmGet m x = some y ∧ y ∈ path := by
  induction path generalizing n with
  | nil => cases hx
  | cons t p ih =>
    obtain ⟨_, hc'⟩ := hc
    rcases List.mem_cons.mp hx with h | h
    · subst h
      cases p with
      | nil => exact Or.inl rfl
      | cons u p' => exact Or.inr ⟨u, hc'.1, List.mem_cons_of_mem _ List.mem_cons_self⟩
    · rcases ih hc' h with h1 | ⟨y, h1, h2⟩
      · exact Or.inl h1
      · exact Or.inr ⟨y, h1, List.mem_cons_of_mem _ h2⟩

/-- A name on the path is its last (without successor, while `n` has one) or has its successor on the path
    (`chainFrom_mem_succ`); the successor of `n` is the head of the path, which would then occur twice. -/
theorem chainFrom_start_not_mem (hc : ChainFrom m n path)
    (hnd : path.Nodup) (hend : nmGet m (lastOr n path) = none) : n ∉ path := by
  cases path with
  | nil => exact List.not_mem_nil
  | cons t p =>
    obtain ⟨hnt, hc'⟩ := hc
    simp only [List.nodup_cons] at hnd
    have hend' : nmGet m (lastOr t p) = none := hend
    intro hmem
    rcases List.mem_cons.mp hmem with h | h
    · subst h
      cases p with
      | nil =>
        simp only [lastOr] at hend'
        rw [hend'] at hnt; cases hnt
      | cons u p' =>
        have := hc'.1
        rw [hnt] at this
        cases this
        exact hnd.1 List.mem_cons_self
    · rcases chainFrom_mem_succ hc' h with h1 | ⟨y, h1, h2⟩
      · rw [← h1, hnt] at hend'; cases hend'
      · rw [hnt] at h1; cases h1
        exact hnd.1 h2

theorem insertAll_linksOf (hnd : (n :: path).Nodup)
    (hfol : ∀ k ∈ n :: path, k ∉ AL.keys fol) :
    insertAll fol (linksOf n path) = fol ++ linksOf n path := by
  induction path generalizing n fol with
  | nil => exact (List.append_nil fol).symm
  | cons t p ih =>
    obtain ⟨hnp, hnd'⟩ := List.nodup_cons.mp hnd
    show insertAll (nmInsert fol n t) (linksOf t p) = _
    rw [nmInsert_eq_al, AL.set_of_get_none (AL.get_eq_none_iff.mpr (hfol n List.mem_cons_self)), ih hnd',
      List.append_assoc]
    · rfl
    · intro k hk hmem
      rw [AL.keys_append, List.mem_append] at hmem
      rcases hmem with h | h
      · exact hfol k (List.mem_cons_of_mem _ hk) h
      · have hkn : k = n := List.mem_singleton.mp h
        exact hnp (hkn ▸ hk)

theorem linksOf_keys_nodup (hnd : (n :: path).Nodup) :
    ((linksOf n path).map (·.1)).Nodup := by
  induction path generalizing n with
  | nil => exact List.nodup_nil
  | cons t p ih =>
    rw [linksOf_cons]
    simp only [List.map_cons, List.nodup_cons]
    refine ⟨?_, ih (List.nodup_cons.mp hnd).2⟩
    intro hmem
    obtain ⟨⟨a, b⟩, hab, ha⟩ := List.mem_map.mp hmem
    simp only at ha
    subst ha
    have : a ∈ t :: p := (List.of_mem_zip hab).1
    exact (List.nodup_cons.mp hnd).1 this

/-! ### followLoop -/

theorem followLoop_stop (hg : nmGet m n = none) (fuel : Nat) (seen : List Name)
    (fol : NameMap) : followLoop m (fuel + 1) n seen fol = some (n, seen, fol) := by
  rw [followLoop, hg]

theorem followLoop_seen {n t : Name} (hg : nmGet m n = some t)
    (ht : t ∈ seen) (fuel : Nat) (fol : NameMap) : followLoop m (fuel + 1) n seen fol = none := by
  rw [followLoop, hg]
  exact if_pos (List.contains_iff_mem.mpr ht)

theorem followLoop_step {n t : Name} (hg : nmGet m n = some t)
    (ht : t ∉ seen) (fuel : Nat) (fol : NameMap) :
    followLoop m (fuel + 1) n seen fol = followLoop m fuel t (seen ++ [t]) (nmInsert fol n t) := by
  rw [followLoop, hg]
  exact if_neg (mt List.contains_iff_mem.mp ht)

theorem followLoop_none_of_loop {t : Name} (hc : ChainFrom m n path) (hdis : ∀ x ∈ path, x ∉ seen)
    (hnd : path.Nodup)
    (hlast : nmGet m (lastOr n path) = some t) (ht : t ∈ seen ++ path) (fuel : Nat) (fol : NameMap) :
    followLoop m fuel n seen fol = none := by
  cases fuel with
  | zero => rfl
  | succ fuel =>
    induction path generalizing n seen fol fuel with
    | nil => exact followLoop_seen hlast (List.append_nil seen ▸ ht) fuel fol
    | cons a p ih =>
      rw [followLoop_step hc.1 (hdis a List.mem_cons_self)]
      cases fuel with
      | zero => rfl
      | succ fuel =>
        obtain ⟨hap, hnd'⟩ := List.nodup_cons.mp hnd
        apply ih hc.2 _ hnd' hlast (by rw [List.append_assoc]; exact ht)
        intro x hx hs
        rcases List.mem_append.mp hs with hs | hs
        · exact hdis x (List.mem_cons_of_mem _ hx) hs
        · exact hap (List.mem_singleton.mp hs ▸ hx)

/-- the bookkeeping invariant of `seen`: duplicate-free values of the map. -/
def SeenOk (m : NameMap) (seen : List Name) : Prop := seen.Nodup ∧ ∀ x ∈ seen, x ∈ m.map (·.2)

theorem SeenOk.length_le (h : SeenOk m seen) : seen.length ≤ m.length := by
  have := h.1.length_le_of_subset fun x hx => h.2 x hx
  rwa [List.length_map] at this

theorem SeenOk.snoc {n t : Name} (h : SeenOk m seen)
    (hg : nmGet m n = some t) (ht : t ∉ seen) : SeenOk m (seen ++ [t]) := by
  constructor
  · rw [List.nodup_append]
    refine ⟨h.1, by simp, ?_⟩
    intro a ha b hb
    have : b = t := List.mem_singleton.mp hb
    subst this
    intro hab; subst hab; exact ht ha
  · intro x hx
    rcases List.mem_append.mp hx with hx | hx
    · exact h.2 x hx
    · have : x = t := List.mem_singleton.mp hx
      subst this
      exact List.mem_map.mpr ⟨(n, x), AL.mem_of_get (nmGet_eq_al ▸ hg), rfl⟩

theorem SeenOk.nil (m : NameMap) : SeenOk m [] := ⟨List.nodup_nil, fun _ h => (List.not_mem_nil h).elim⟩

/-- The run of the loop from `n`: the chain it follows either ends at a name without successor
    (every fuel above its length returns it) or leads back into `seen ++ path` (then every fuel gives
    `none`: `followLoop_none_of_loop`).  Induction on the room `|m| + 1 - |seen|` left in `seen`. -/
theorem followLoop_run (hs : SeenOk m seen) (n : Name) :
    ∃ path, ChainFrom m n path ∧ SeenOk m (seen ++ path) ∧
      ((nmGet m (lastOr n path) = none ∧ ∀ fuel fol, path.length < fuel →
          followLoop m fuel n seen fol
            = some (lastOr n path, seen ++ path, insertAll fol (linksOf n path))) ∨
       (∃ t, nmGet m (lastOr n path) = some t ∧ t ∈ seen ++ path)) := by
  generalize hk : m.length + 1 - seen.length = k
  induction k generalizing seen n with
  | zero => exact absurd (Nat.le_of_sub_eq_zero hk) (Nat.not_le.mpr (Nat.lt_succ_of_le hs.length_le))
  | succ k ih =>
    cases hg : nmGet m n with
    | none =>
      refine ⟨[], trivial, (List.append_nil seen).symm ▸ hs, Or.inl ⟨hg, fun fuel fol hf => ?_⟩⟩
      cases fuel with
      | zero => exact absurd hf (Nat.not_lt_zero _)
      | succ fuel => rw [followLoop_stop hg, List.append_nil]; rfl
    | some t =>
      by_cases hts : t ∈ seen
      · exact ⟨[], trivial, (List.append_nil seen).symm ▸ hs,
          Or.inr ⟨t, hg, (List.append_nil seen).symm ▸ hts⟩⟩
      · have hk' : m.length + 1 - (seen ++ [t]).length = k := by
          rw [List.length_append, List.length_singleton, Nat.sub_add_eq, hk]
          rfl
        obtain ⟨p, hc, hok, hres⟩ := ih (hs.snoc hg hts) t hk'
        rw [List.append_assoc] at hok hres
        refine ⟨t :: p, ⟨hg, hc⟩, hok, hres.imp (fun ⟨hend, hrun⟩ => ⟨hend, fun fuel fol hf => ?_⟩) id⟩
        cases fuel with
        | zero => exact absurd hf (Nat.not_lt_zero _)
        | succ fuel =>
          rw [followLoop_step hg hts, hrun fuel _ (Nat.lt_of_succ_lt_succ hf)]
          rfl

end

/-! ### the CNAME map of `followCnames` -/

/-- the loop body that builds the `cname_map`: a CNAME record binds its owner to its target, a later one
    for the same owner overwrites. -/
def cnStep (m : NameMap) (rr : RR) : NameMap :=
  match cnameTarget rr with
  | some t => nmInsert m rr.name t
  | none => m

/-- the `cname_map` built by `follow_cnames`. -/
def buildMap (rrs : List RR) : NameMap := rrs.foldl cnStep []

/-- the map actually followed: empty for a question of type CNAME (the alias
    record is the answer and is not followed), the `cname_map` of the records otherwise. -/
def followMap (rrs : List RR) (qtype : Nat) : NameMap :=
  if qtype == RT_CNAME then [] else buildMap rrs

theorem followMap_cname (rrs : List RR) : followMap rrs RT_CNAME = [] := rfl

theorem followMap_of_ne {qtype : Nat} (h : qtype ≠ RT_CNAME) (rrs : List RR) :
    followMap rrs qtype = buildMap rrs := by
  unfold followMap
  exact if_neg fun hq => h (beq_iff_eq.mp hq)

theorem followMap_eq_buildMap (rrs : List RR) (qtype : Nat) :
    followMap rrs qtype = buildMap (if qtype == RT_CNAME then [] else rrs) := by
  unfold followMap
  split <;> rfl

theorem followCnames_eq (rrs : List RR) (target : Name) (qtype : Nat) :
    followCnames rrs target qtype =
      match followLoop (followMap rrs qtype) ((followMap rrs qtype).length + 1) target [] [] with
      | none => none
      | some (finalName, seen, followed) =>
        if rrs.any (fun rr => rr.name == target && rtypeMatches rr.rtype qtype) || !seen.isEmpty
        then some (finalName, followed) else none := by
  unfold followCnames followMap buildMap
  rfl

theorem followCnames_stop {rrs : List RR} {target : Name} {qtype : Nat}
    (hg : nmGet (followMap rrs qtype) target = none) :
    followCnames rrs target qtype =
      if rrs.any (fun rr => rr.name == target && rtypeMatches rr.rtype qtype)
      then some (target, []) else none := by
  rw [followCnames_eq, followLoop_stop hg]
  simp only [List.isEmpty_nil, Bool.not_true, Bool.or_false]

theorem nmGet_cnStep (m : NameMap) (rr : RR) (a : Name) :
    nmGet (cnStep m rr) a = (if rr.name = a then cnameTarget rr else none).or (nmGet m a) := by
  unfold cnStep
  cases cnameTarget rr with
  | none =>
    rw [ite_self]
    rfl
  | some t =>
    rw [nmInsert_eq_al, nmGet_eq_al, AL.get_set_comm]
    split <;> rfl

/-- the `cname_map` after the records `rrs`: for each owner the target of its LAST CNAME record, else what
    was there. -/
theorem nmGet_foldl_cnStep (rrs : List RR) (m0 : NameMap) (a : Name) :
    nmGet (rrs.foldl cnStep m0) a =
      (rrs.reverse.findSome? fun rr => if rr.name = a then cnameTarget rr else none).or (nmGet m0 a) :=
  foldl_last_wins (nmGet · a) cnStep _ (fun m rr => nmGet_cnStep m rr a) rrs m0

theorem nmGet_buildMap_some {rrs : List RR} {a t : Name} (h : nmGet (buildMap rrs) a = some t) :
    ∃ rr ∈ rrs, rr.name = a ∧ cnameTarget rr = some t := by
  rw [buildMap, nmGet_foldl_cnStep, show nmGet [] a = none from rfl, Option.or_none] at h
  obtain ⟨rr, hr, hk⟩ := List.exists_of_findSome?_eq_some h
  split at hk
  · exact ⟨rr, List.mem_reverse.mp hr, ‹_›, hk⟩
  · cases hk

theorem nmGet_buildMap_none {rrs : List RR} {a : Name} (h : nmGet (buildMap rrs) a = none) :
    ∀ rr ∈ rrs, rr.name = a → cnameTarget rr = none := by
  rw [buildMap, nmGet_foldl_cnStep, show nmGet [] a = none from rfl, Option.or_none, List.findSome?_eq_none_iff] at h
  intro rr hr ha
  have := h rr (List.mem_reverse.mpr hr)
  rwa [if_pos ha] at this

theorem nmGet_followMap_some {rrs : List RR} {qtype : Nat} {a b : Name}
    (h : nmGet (followMap rrs qtype) a = some b) : ∃ rr ∈ rrs, rr.name = a ∧ cnameTarget rr = some b := by
  rw [followMap_eq_buildMap] at h
  obtain ⟨rr, hr, h1⟩ := nmGet_buildMap_some h
  split at hr
  · cases hr
  · exact ⟨rr, hr, h1⟩

/-- The alias chain `follow_cnames` walks from `target`, without fuel or bookkeeping: a chain of
    pairwise distinct names in the map actually followed (empty for a CNAME question) that ends at a
    name without alias; standing still needs a record of the asked type at `target`. -/
structure Followed (rrs : List RR) (target : Name) (qtype : Nat) (path : List Name) : Prop where
  chain : ChainFrom (followMap rrs qtype) target path
  nodup : (target :: path).Nodup
  stop : nmGet (followMap rrs qtype) (lastOr target path) = none
  hit : path = [] → rrs.any (fun rr => rr.name == target && rtypeMatches rr.rtype qtype) = true

theorem followCnames_some {rrs : List RR} {target : Name} {qtype : Nat} {fin : Name} {followed : NameMap}
    (h : followCnames rrs target qtype = some (fin, followed)) :
    ∃ path, Followed rrs target qtype path ∧ fin = lastOr target path ∧ followed = linksOf target path := by
  rw [followCnames_eq] at h
  split at h
  · cases h
  · rename_i fin' seen fol hfl
    split at h
    · rename_i hcond
      cases h
      obtain ⟨path, h2, hok, ⟨h4, hrun⟩ | ⟨_, hlast, hmem⟩⟩ :=
        followLoop_run (SeenOk.nil (followMap rrs qtype)) target
      · rw [hrun _ [] (Nat.lt_succ_of_le hok.length_le)] at hfl
        cases hfl
        have hnd : (target :: path).Nodup :=
          List.nodup_cons.mpr ⟨chainFrom_start_not_mem h2 hok.1 h4, hok.1⟩
        refine ⟨path, ⟨h2, hnd, h4, fun hnil => ?_⟩, rfl, ?_⟩
        · rwa [List.nil_append, hnil, List.isEmpty_nil, Bool.not_true, Bool.or_false] at hcond
        · rw [insertAll_linksOf hnd fun _ _ => List.not_mem_nil]
          rfl
      · rw [followLoop_none_of_loop h2 (fun _ _ => List.not_mem_nil) hok.1 hlast hmem] at hfl
        cases hfl
    · cases h

theorem followCnames_fin {rrs : List RR} {target : Name} {qtype : Nat} {fin : Name} {followed : NameMap}
    (h : followCnames rrs target qtype = some (fin, followed)) :
    fin = target ∨ ∃ rr ∈ rrs, cnameTarget rr = some fin := by
  obtain ⟨path, F, rfl, rfl⟩ := followCnames_some h
  refine (lastOr_eq_or_link target path).imp_right fun ⟨y, hy⟩ => ?_
  obtain ⟨rr, hr, _, ht⟩ := nmGet_followMap_some (chainFrom_iff_links.mp F.chain _ hy)
  exact ⟨rr, hr, ht⟩

end Resolved
