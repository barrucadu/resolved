/-
  The upstream filter model against the executable specification `USpec.checkValidated`: the zone the
  filter chooses is `USpec.bestZone`, the records of a followed CNAME chain form one of
  `USpec.simplePaths`, and each kind of result passes the check (`check_delegation`, `check_nodata`,
  `check_answer`, `check_cname`).
-/
import Resolved.Spec.UpstreamSpec
import Resolved.Proofs.UpstreamLemmas
import Resolved.Proofs.UpstreamFollow
import Resolved.Proofs.NameLemmas

namespace Resolved

open USpec

variable {q : Question} {mc : Nat} {resp : Message}

/-! ### bestZone -/

/-- the fold step of `USpec.bestZone`, named so that `bestZone_eq` is `rfl`. -/
def bzStep (best : Option Name) (rr : RR) : Option Name :=
  match best with
  | none => some rr.name
  | some b => if rr.name.labels.length > b.labels.length then some rr.name else some b

/-- the filter of `USpec.bestZone`. -/
def bzCand (q : Question) (mc : Nat) (rr : RR) : Bool :=
  (nsTarget rr).isSome && q.name.isSubdomainOf rr.name && rr.name.labels.length > mc

theorem bestZone_eq (q : Question) (mc : Nat) (resp : Message) :
    bestZone q mc resp = ((resp.answers ++ resp.authority).filter (bzCand q mc)).foldl bzStep none := rfl

theorem foldl_bzStep_of_le (l : List RR) (b : Name) (hl : ∀ r ∈ l, r.name.labels.length ≤ b.labels.length) :
    l.foldl bzStep (some b) = some b :=
  List.foldlRecOn (motive := (· = some b)) l _ rfl fun _ e r hr => by
    subst e; exact if_neg (Nat.not_lt.mpr (hl r hr))

/-- the fold keeps the FIRST record of maximal depth. -/
theorem foldl_bzStep_first_max (pre1 pre2 : List RR) (rr : RR) (init : Option Name)
    (h0 : ∀ b, init = some b → b.labels.length < rr.name.labels.length)
    (h1 : ∀ r ∈ pre1, r.name.labels.length < rr.name.labels.length)
    (h2 : ∀ r ∈ pre2, r.name.labels.length ≤ rr.name.labels.length) :
    (pre1 ++ rr :: pre2).foldl bzStep init = some rr.name := by
  induction pre1 generalizing init with
  | nil =>
    have : bzStep init rr = some rr.name := by
      cases init with
      | none => rfl
      | some b => exact if_pos (h0 b rfl)
    rw [List.nil_append, List.foldl_cons, this]
    exact foldl_bzStep_of_le pre2 rr.name h2
  | cons a pre1 ih =>
    refine ih (bzStep init a) (fun b hb => ?_) fun r hr => h1 r (List.mem_cons_of_mem _ hr)
    have ha := h1 a List.mem_cons_self
    cases init with
    | none => cases hb; exact ha
    | some b0 =>
      by_cases hd : a.name.labels.length > b0.labels.length
      · rw [show bzStep (some b0) a = some a.name from if_pos hd] at hb
        cases hb
        exact ha
      · rw [show bzStep (some b0) a = some b0 from if_neg hd] at hb
        cases hb
        exact h0 _ rfl

theorem bzCand_iff {rr : RR} :
    bzCand q mc rr = true ↔ IsCand q.name rr ∧ mc < rr.name.labels.length := by
  unfold bzCand IsCand
  simp only [Bool.and_eq_true, decide_eq_true_eq, gt_iff_lt]

theorem bestZone_of_spec {mn : Name} {ns : List Name}
    (sp : GbSpec (resp.answers ++ resp.authority) q.name mc mn ns) :
    bestZone q mc resp = some mn := by
  obtain ⟨pre1, rr, pre2, hp, hn, hc, hlt⟩ := sp.first
  rw [bestZone_eq, hp]
  subst hn
  have hrr : bzCand q mc rr = true := bzCand_iff.mpr ⟨hc, sp.closer⟩
  rw [List.filter_append, List.filter_cons_of_pos hrr]
  apply foldl_bzStep_first_max _ _ _ none (fun _ h => nomatch h)
  · intro r hr
    obtain ⟨hm, hk⟩ := List.mem_filter.mp hr
    exact hlt r hm (bzCand_iff.mp hk).1
  · intro r hr
    obtain ⟨hm, hk⟩ := List.mem_filter.mp hr
    apply sp.maxd r _ (bzCand_iff.mp hk).1
    rw [hp]
    exact List.mem_append_right _ (List.mem_cons_of_mem _ hm)

/-! ### referrals and negative answers -/

/-- Well-formedness of the names of a reply: a name is determined by its labels (in the Rust code
    `len` is computed from the labels; the model's `Name` carries it as an independent field). -/
def NamesConsistent (l : List RR) : Prop :=
  ∀ r ∈ l, ∀ r' ∈ l, r.name.labels = r'.name.labels → r.name = r'.name

theorem enclosing_same_depth {t a b : Name} (ha : t.isSubdomainOf a = true) (hb : t.isSubdomainOf b = true)
    (hl : a.labels.length = b.labels.length) : a.labels = b.labels :=
  (List.suffix_of_suffix_length_le (Name.isSubdomainOf_iff.mp ha) (Name.isSubdomainOf_iff.mp hb)
    (Nat.le_of_eq hl)).eq_of_length hl

theorem check_delegation {name : Name} {hs : List Name}
    (hwf : NamesConsistent (resp.answers ++ resp.authority))
    (sp : GbSpec (resp.answers ++ resp.authority) q.name mc name hs) :
    checkValidated q mc resp (some (.delegation (delegRrs resp name hs) hs name)) = none := by
  obtain ⟨pre1, rr0, pre2, hp, hn0, hc0, _⟩ := sp.first
  have hrr0 : rr0 ∈ resp.answers ++ resp.authority := by
    rw [hp]
    exact List.mem_append_right _ List.mem_cons_self
  have hne : hs.isEmpty = false := Bool.eq_false_iff.mpr (mt List.isEmpty_iff.mp sp.ne)
  have hcl : ¬ name.labels.length ≤ mc := Nat.not_le.mpr sp.closer
  -- the host names are exactly the NS targets of the records owned by the zone: an enclosing
  -- owner of the zone's depth has the zone's labels, hence (consistent names) is the zone
  have hhosts : ∀ n, n ∈ hs ↔ n ∈ ((resp.answers ++ resp.authority).filter
      (fun rr => (nsTarget rr).isSome && rr.name == name)).filterMap nsTarget := by
    intro n
    rw [sp.hosts n, List.mem_filterMap]
    simp only [List.mem_filter, Bool.and_eq_true, beq_iff_eq]
    constructor
    · rintro ⟨r, hr, h1, h2, h3⟩
      refine ⟨r, ⟨hr, by rw [h1]; rfl, ?_⟩, h1⟩
      rw [← hn0]
      exact hwf r hr rr0 hrr0 (enclosing_same_depth h2 hc0.2 (by rw [h3, hn0]))
    · rintro ⟨r, ⟨hm, _, hk⟩, h1⟩
      exact ⟨r, hm, h1, by rw [hk]; exact sp.sub, by rw [hk]⟩
  unfold checkValidated
  simp only [bestZone_of_spec sp, bne_self_eq_false, Bool.false_eq_true, if_false, sp.sub, Bool.not_true,
    hcl, hne]
  rw [if_neg, List.find?_eq_none.mpr]
  · -- every record passed on is an NS record of the zone or glue for one of the hosts
    intro rr hrr
    simp only [Bool.not_eq_true, Bool.not_eq_false', Bool.or_eq_true, Bool.and_eq_true, beq_iff_eq,
      List.contains_iff_mem, Option.isSome_iff_exists]
    rcases delegRrs_allowed hrr with ⟨t, h1, h2, _, h4⟩ | ⟨h1, h2, h3⟩
    · exact Or.inl ⟨⟨⟨t, h1⟩, h2⟩, h4⟩
    · exact Or.inr ⟨⟨h1, h2⟩, h3⟩
  · simp only [Bool.not_eq_true, Bool.not_eq_false', Bool.and_eq_true, List.all_eq_true,
      List.contains_iff_mem, ← hhosts, imp_self, implies_true, and_self]

theorem check_nodata {soa : RR}
    (h : getNxdomainNodataSoa q resp mc = some soa) :
    checkValidated q mc resp (some (.answer [] (some soa))) = none := by
  obtain ⟨h1, _, h3, h4, h5⟩ := getNxdomainNodataSoa_some h
  have hm := getNxdomainNodataSoa_mem h
  have hlt : ¬ soa.name.labels.length < mc := Nat.not_lt.mpr h5
  unfold checkValidated
  simp only [List.isEmpty_nil, if_true, List.contains_iff_mem.mpr hm.1, beq_iff_eq.mpr hm.2, Bool.and_self,
    Bool.not_true, Bool.false_eq_true, if_false, h4, hlt, h3, List.length_singleton, bne_self_eq_false,
    h1]

/-! ### CNAME paths -/

/-- `ls = [l₀, l₁, …]` are CNAME records of `cn` realising the chain `n ↦ t₁ ↦ t₂ ↦ …`: owner and
    target of `lᵢ` are the `i`-th link of the path. -/
def LinkRecs (cn : List RR) (n : Name) (path : List Name) (ls : List RR) : Prop :=
  (∀ l ∈ ls, l ∈ cn) ∧
  ls.map (fun l => (l.name, cnameTarget l)) = (linksOf n path).map (fun p => (p.1, some p.2))

section
variable {cn ls : List RR} {n : Name} {path : List Name}

theorem linkRecs_cons {cn : List RR} {n t : Name} {p : List Name} {ls : List RR} :
    LinkRecs cn n (t :: p) ls ↔
      ∃ l ls', ls = l :: ls' ∧ l ∈ cn ∧ l.name = n ∧ cnameTarget l = some t ∧ LinkRecs cn t p ls' := by
  unfold LinkRecs
  rw [linksOf_cons, List.map_cons, List.map_eq_cons_iff]
  constructor
  · rintro ⟨hsub, l, ls', rfl, hl, hmap⟩
    obtain ⟨h2, h3⟩ := Prod.mk.inj hl
    exact ⟨l, ls', rfl, hsub l List.mem_cons_self, h2, h3,
      fun x hx => hsub x (List.mem_cons_of_mem _ hx), hmap⟩
  · rintro ⟨l, ls', rfl, h1, h2, h3, hsub, hmap⟩
    refine ⟨fun x hx => ?_, l, ls', rfl, by rw [h2, h3], hmap⟩
    rcases List.mem_cons.mp hx with rfl | hx
    · exact h1
    · exact hsub x hx

/-- Over any map `m` whose bindings come from CNAME records of `answers` (`hm`), not over `followMap`: the
    case split on the question type inside `followMap` is not opened here (`nmGet_followMap_some` is `hm`). -/
theorem linkRecs_exists {answers : List RR} {m : NameMap}
    (hm : ∀ a t, nmGet m a = some t → ∃ rr ∈ answers, rr.name = a ∧ cnameTarget rr = some t)
    (hc : ChainFrom m n path) :
    ∃ ls, LinkRecs (answers.filter (fun rr => (cnameTarget rr).isSome)) n path ls := by
  induction path generalizing n with
  | nil => exact ⟨[], fun _ h => (List.not_mem_nil h).elim, rfl⟩
  | cons t p ih =>
    obtain ⟨hg, hc'⟩ := hc
    obtain ⟨ls, hls⟩ := ih hc'
    obtain ⟨rr, hr, h1, h2⟩ := hm n t hg
    exact ⟨rr :: ls, linkRecs_cons.mpr
      ⟨rr, ls, rfl, List.mem_filter.mpr ⟨hr, by rw [h2]; rfl⟩, h1, h2, hls⟩⟩

/-- the records realising a duplicate-free chain are pairwise different: their owners are. -/
theorem linkRecs_nodup (hnd : (n :: path).Nodup) (h : LinkRecs cn n path ls) : ls.Nodup := by
  have hkeys : (((linksOf n path).map (fun p => (p.1, some p.2))).map Prod.fst).Nodup := by
    rw [List.map_map]
    exact linksOf_keys_nodup hnd
  rw [← h.2, List.map_map] at hkeys
  exact List.Pairwise.of_map _ (fun a b hne hab => hne (congrArg _ hab)) hkeys

theorem linkRecs_cover (h : LinkRecs cn n path ls) {a b : Name} (hab : (a, b) ∈ linksOf n path) :
    ∃ l ∈ ls, l.name = a ∧ cnameTarget l = some b := by
  have : (a, some b) ∈ ls.map (fun l => (l.name, cnameTarget l)) := by
    rw [h.2]
    exact List.mem_map.mpr ⟨(a, b), hab, rfl⟩
  obtain ⟨l, hl, heq⟩ := List.mem_map.mp this
  obtain ⟨h1, h2⟩ := Prod.mk.inj heq
  exact ⟨l, hl, h1, h2⟩

end

theorem simplePaths_mem {cn : List RR} {fuel : Nat} {cur : Name} {visited : List Name}
    {path : List Name} {ls : List RR} (hl : LinkRecs cn cur path ls) (hlen : path.length ≤ fuel)
    (hnd : (cur :: path).Nodup) (hdis : ∀ x ∈ path, x ∉ visited) :
    (ls, lastOr cur path) ∈ simplePaths cn fuel cur visited := by
  induction path generalizing cur visited fuel ls with
  | nil =>
    rw [List.map_eq_nil_iff.mp hl.2]
    cases fuel <;> exact List.mem_cons_self
  | cons t p ih =>
    obtain ⟨l, ls, rfl, h1, h2, h3, h4⟩ := linkRecs_cons.mp hl
    cases fuel with
    | zero => exact absurd hlen (Nat.not_succ_le_zero _)
    | succ fuel =>
      obtain ⟨hcur, hnd'⟩ := List.nodup_cons.mp hnd
      have htv : t ∉ visited := hdis t List.mem_cons_self
      have htc : t ≠ cur := by intro h; subst h; exact hcur List.mem_cons_self
      have ih' := ih (cur := t) (visited := cur :: visited) (fuel := fuel) h4
        (Nat.le_of_succ_le_succ hlen) hnd' (by
          intro x hx hxv
          rcases List.mem_cons.mp hxv with h | h
          · subst h; exact hcur (List.mem_cons_of_mem _ hx)
          · exact hdis x (List.mem_cons_of_mem _ hx) h)
      unfold simplePaths
      refine List.mem_cons_of_mem _ (List.mem_flatMap.mpr
        ⟨l, List.mem_filter.mpr ⟨h1, beq_iff_eq.mpr h2⟩, ?_⟩)
      simp only [h3, List.contains_eq_mem, htv, decide_false, Bool.false_or, beq_iff_eq, htc, if_false]
      exact List.mem_map.mpr ⟨(ls, lastOr t p), ih', rfl⟩

/-- No link (owner and target) is carried by two different records.  `USpec.onPath` compares records where
    the filter compares (owner, target): two records for one link cannot both lie on one simple path. -/
def CnameLinksUnique (answers : List RR) : Prop :=
  ∀ r ∈ answers, ∀ r' ∈ answers, ∀ t, cnameTarget r = some t → cnameTarget r' = some t →
    r.name = r'.name → r = r'

/-- over any map `m`, as in `linkRecs_exists`. -/
theorem onPath_of_chain {answers : List RR} {m : NameMap} {start : Name} {path : List Name} {links : List RR}
    (huniq : CnameLinksUnique answers)
    (hm : ∀ a t, nmGet m a = some t → ∃ rr ∈ answers, rr.name = a ∧ cnameTarget rr = some t)
    (hc : ChainFrom m start path) (hnd : (start :: path).Nodup)
    (hlinks : ∀ rr ∈ links, rr ∈ answers ∧ ∃ t, cnameTarget rr = some t ∧ (rr.name, t) ∈ linksOf start path) :
    onPath answers start (lastOr start path) links = true := by
  obtain ⟨ls, hls⟩ := linkRecs_exists hm hc
  -- the fuel of `onPath` suffices: the distinct records `ls`, one per link, are among the CNAME records
  have hlen : path.length ≤ (answers.filter (fun rr => (cnameTarget rr).isSome)).length + 1 := by
    have h1 : ls.length = path.length := by
      have := congrArg List.length hls.2
      rwa [List.length_map, List.length_map, linksOf, List.length_zip, List.length_cons,
        Nat.min_eq_right (Nat.le_succ _)] at this
    rw [← h1]
    exact Nat.le_succ_of_le ((linkRecs_nodup hnd hls).length_le_of_subset fun x hx => hls.1 x hx)
  have hmem := simplePaths_mem (visited := []) hls hlen hnd (fun _ _ => List.not_mem_nil)
  unfold onPath
  simp only
  rw [List.any_eq_true]
  refine ⟨(ls, lastOr start path), hmem, ?_⟩
  simp only [beq_self_eq_true, Bool.true_and, List.all_eq_true]
  intro rr hrr
  obtain ⟨hra, t, ht, hab⟩ := hlinks rr hrr
  obtain ⟨l, hl, h1, h2⟩ := linkRecs_cover hls hab
  have hla : l ∈ answers := (List.mem_filter.mp (hls.1 l hl)).1
  have : rr = l := huniq rr hra l hla t ht h2 h1.symm
  subst this
  exact List.contains_iff_mem.mpr hl

/-- A kept record, in the words of the chain followed: of the asked type at its end, or the record of one
    of its links. -/
theorem mem_keptRrs_followed {path : List Name} {rr : RR}
    (h : rr ∈ keptRrs q resp (lastOr q.name path) (linksOf q.name path)) :
    rr ∈ resp.answers ∧
    ((rtypeMatches rr.rtype q.qtype = true ∧ rr.name = lastOr q.name path) ∨
     ∃ t, cnameTarget rr = some t ∧ (rr.name, t) ∈ linksOf q.name path) := by
  obtain ⟨ha, _, hk⟩ := mem_keptRrs.mp h
  exact ⟨ha, hk.imp_right fun ⟨t, ht, hg⟩ => ⟨t, ht, AL.mem_of_get (nmGet_eq_al ▸ hg)⟩⟩

theorem check_answer {fin : Name} {cm : NameMap}
    (huniq : CnameLinksUnique resp.answers)
    (hf : followCnames resp.answers q.name q.qtype = some (fin, cm))
    (hfin : hasFinal q resp fin = true) :
    checkValidated q mc resp (some (.answer (keptRrs q resp fin cm) none)) = none := by
  obtain ⟨path, F, rfl, rfl⟩ := followCnames_some hf
  -- a witness of the asked type at the final name
  obtain ⟨w, hwr, hw'⟩ := (hasFinal_iff (linksOf q.name path)).mp hfin
  have hmem : ∀ rr ∈ keptRrs q resp (lastOr q.name path) (linksOf q.name path), _ :=
    fun _ => mem_keptRrs_followed
  have hsub : USpec.subset (keptRrs q resp (lastOr q.name path) (linksOf q.name path)) resp.answers = true :=
    List.all_eq_true.mpr fun x hx => List.contains_iff_mem.mpr (hmem x hx).1
  generalize keptRrs q resp (lastOr q.name path) (linksOf q.name path) = rrs at hmem hwr hsub
  have hemp : rrs.isEmpty = false := Bool.eq_false_iff.mpr (mt List.isEmpty_iff.mp (List.ne_nil_of_mem hwr))
  -- a link owner has an alias in the map followed, the final name has none
  have hlink_ne : ∀ (rr : RR) (t : Name), (rr.name, t) ∈ linksOf q.name path → rr.name ≠ lastOr q.name path := by
    intro rr t hab heq
    have := chainFrom_iff_links.mp F.chain _ hab
    rw [heq, F.stop] at this
    cases this
  have hfinmem : lastOr q.name path ∈ q.name :: rrs.map (·.name) :=
    List.mem_cons_of_mem _ (List.mem_map.mpr ⟨w, hwr, hw'.2⟩)
  unfold checkValidated
  simp only [hemp, Bool.false_eq_true, if_false, Option.isSome_none, hsub, Bool.not_true]
  rw [if_pos]
  rw [List.any_eq_true]
  refine ⟨lastOr q.name path, hfinmem, ?_⟩
  simp only [Bool.and_eq_true, Bool.not_eq_true', List.all_eq_true]
  refine ⟨⟨?_, ?_⟩, ?_⟩
  · apply onPath_of_chain huniq (fun _ _ => nmGet_followMap_some) F.chain F.nodup
    intro rr hrr
    obtain ⟨hm, hk⟩ := List.mem_filter.mp hrr
    obtain ⟨hra, h | h⟩ := hmem rr hm
    · rw [h.2, bne_self_eq_false, Bool.and_false] at hk
      cases hk
    · exact ⟨hra, h⟩
  · refine Bool.eq_false_iff.mpr
      (mt List.isEmpty_iff.mp (List.ne_nil_of_mem (a := w) (List.mem_filter.mpr ⟨hwr, ?_⟩)))
    rw [hw'.2, bne_self_eq_false, Bool.and_false]
    rfl
  · intro rr hrr
    obtain ⟨hm, hk⟩ := List.mem_filter.mp hrr
    obtain ⟨_, h | ⟨t, ht, hab⟩⟩ := hmem rr hm
    · exact ⟨beq_iff_eq.mpr h.2, h.1⟩
    · rw [ht, bne_iff_ne.mpr (hlink_ne rr t hab)] at hk
      cases hk

theorem check_cname {fin : Name} {cm : NameMap}
    (huniq : CnameLinksUnique resp.answers)
    (hf : followCnames resp.answers q.name q.qtype = some (fin, cm))
    (hne : keptRrs q resp fin cm ≠ []) (hfin : hasFinal q resp fin = false) :
    checkValidated q mc resp (some (.cname (keptRrs q resp fin cm) fin)) = none := by
  obtain ⟨path, F, rfl, rfl⟩ := followCnames_some hf
  -- every kept record is a followed link, none is of the asked type at the final name
  have hlink : ∀ rr ∈ keptRrs q resp (lastOr q.name path) (linksOf q.name path),
      rr ∈ resp.answers ∧ ∃ t, cnameTarget rr = some t ∧ (rr.name, t) ∈ linksOf q.name path := by
    intro rr hrr
    obtain ⟨ha, h | h⟩ := mem_keptRrs_followed hrr
    · exact absurd ((hasFinal_iff _).mpr ⟨rr, hrr, h⟩) (Bool.eq_false_iff.mp hfin)
    · exact ⟨ha, h⟩
  have hemp : (keptRrs q resp (lastOr q.name path) (linksOf q.name path)).isEmpty = false :=
    Bool.eq_false_iff.mpr (mt List.isEmpty_iff.mp hne)
  generalize keptRrs q resp (lastOr q.name path) (linksOf q.name path) = rrs at hlink hemp
  have hsub : USpec.subset rrs resp.answers = true :=
    List.all_eq_true.mpr fun x hx => List.contains_iff_mem.mpr (hlink x hx).1
  have hall : rrs.all (fun rr => (cnameTarget rr).isSome) = true := by
    rw [List.all_eq_true]
    intro x hx
    obtain ⟨_, t, ht, _⟩ := hlink x hx
    rw [ht]
    rfl
  have hon : onPath resp.answers q.name (lastOr q.name path) rrs = true :=
    onPath_of_chain huniq (fun _ _ => nmGet_followMap_some) F.chain F.nodup hlink
  unfold checkValidated
  simp only [hsub, hall, hemp, hon, Bool.not_true, Bool.false_eq_true, if_false]

end Resolved
