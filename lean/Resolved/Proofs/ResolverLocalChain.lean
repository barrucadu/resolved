/-
  C10 for the local resolver: the records of every `ok` outcome of `resolve_local` form an alias
  chain starting at the question name followed by records of the asked type at the chain's end
  (`LocalWalk.chain`, by induction over the walk); the chain in index form and read by owners.
-/
import Resolved.Proofs.ResolverLocalWalk
import Resolved.Proofs.UpstreamLemmas

namespace Resolved

open Gen

/-- `IsChain n cs e`: `cs` are CNAME records, the first owned by `n`, each next one owned by the
    previous one's target, the last one pointing at `e` (`e = n` when `cs = []`). -/
inductive IsChain : Name → List RR → Name → Prop
  | nil (n : Name) : IsChain n [] n
  | cons (n t e : Name) (r : RR) (rest : List RR) :
      r.name = n → cnameTarget r = some t → IsChain t rest e → IsChain n (r :: rest) e

/-- The shape C10 asks of an answer to a question `(qn, qtype)`: an alias chain from `qn` with
    pairwise distinct owners, then only records of the asked type (themselves no aliases) owned by
    the chain's final target. -/
def ChainShaped (qn : Name) (qtype : Nat) (rrs : List RR) : Prop :=
  ∃ cs fs e, rrs = cs ++ fs ∧ IsChain qn cs e ∧ (cs.map (·.name)).Nodup ∧
    ∀ f ∈ fs, f.name = e ∧ f.rtype = qtype ∧ cnameTarget f = none

/-- the invariant carried through the recursion: additionally no link's owner is (as a question of
    the asked type and class) on the question stack. -/
structure ChainData (stack : List Question) (q : Question) (cs fs : List RR) (e : Name) : Prop where
  chain : IsChain q.name cs e
  nodup : (cs.map (·.name)).Nodup
  off : ∀ c ∈ cs, ({ name := c.name, qtype := q.qtype, qclass := q.qclass } : Question) ∉ stack
  final : ∀ f ∈ fs, f.name = e ∧ f.rtype = q.qtype ∧ cnameTarget f = none

/-- `ChainShaped` with the links' owners off the question stack. -/
def ChainShapedOff (stack : List Question) (q : Question) (rrs : List RR) : Prop :=
  ∃ cs fs e, rrs = cs ++ fs ∧ ChainData stack q cs fs e

theorem ChainShapedOff.shaped {stack : List Question} {q : Question} {rrs : List RR}
    (h : ChainShapedOff stack q rrs) : ChainShaped q.name q.qtype rrs := by
  obtain ⟨cs, fs, e, h1, h2⟩ := h
  exact ⟨cs, fs, e, h1, h2.chain, h2.nodup, h2.final⟩

/-- what the chain shape asks of each kind of result: of a finished or partial answer the shape, of an unfinished
    walk a non-empty pure chain ending at the name of the question to go on with, of a referral nothing. -/
def LocalChainOK (stack : List Question) (q : Question) : LocalResult → Prop
  | .delegation _ _ _ => True
  | .cname rrs cq =>
    ∃ e, rrs ≠ [] ∧ ChainData stack q rrs [] e ∧ cq = { name := e, qtype := q.qtype, qclass := q.qclass }
  | .done res => ChainShapedOff stack q res.rrs
  | .partialAnswer rrs => ChainShapedOff stack q rrs

/-- the records of a local outcome that are (part of) an answer; a referral carries NS records. -/
def LocalResult.answerRrs : LocalResult → Option (List RR)
  | .done res => some res.rrs
  | .partialAnswer rrs => some rrs
  | .cname rrs _ => some rrs
  | .delegation _ _ _ => none

theorem so_toResolved_rrs (r : LocalResult) (h : ∀ rs s d, r ≠ .delegation rs s d) :
    r.answerRrs = some r.toResolved.rrs := by
  cases r with
  | done res => rfl
  | partialAnswer rs => rfl
  | cname rs cq => rfl
  | delegation rs s d => exact absurd rfl (h rs s d)

theorem LocalChainOK.answers {stack : List Question} {q : Question} {r : LocalResult} {rrs : List RR}
    (h : LocalChainOK stack q r) (hr : r.answerRrs = some rrs) : ChainShapedOff stack q rrs := by
  cases r with
  | done res => cases hr; exact h
  | partialAnswer rs => cases hr; exact h
  | delegation rs s d => cases hr
  | cname rs cq =>
    cases hr
    obtain ⟨e, _, hd, _⟩ := h
    exact ⟨rrs, [], e, by simp, hd⟩

theorem ChainData.cons {stack : List Question} {q : Question} {c : Name} {rr : RR} {cs fs : List RR}
    {e : Name} (hn : rr.name = q.name) (ht : cnameTarget rr = some c) (hq : q ∉ stack)
    (h : ChainData (stack ++ [q]) { name := c, qtype := q.qtype, qclass := q.qclass } cs fs e) :
    ChainData stack q (rr :: cs) fs e := by
  have hqeq : ({ name := rr.name, qtype := q.qtype, qclass := q.qclass } : Question) = q := by
    rw [hn]
  refine ⟨IsChain.cons _ c e rr cs hn ht h.chain, ?_, ?_, h.final⟩
  · simp only [List.map_cons, List.nodup_cons]
    refine ⟨?_, h.nodup⟩
    intro hmem
    simp only [List.mem_map] at hmem
    obtain ⟨c', hc', hname⟩ := hmem
    have := h.off c' hc'
    simp only at this
    rw [hname, hqeq] at this
    exact this (by simp)
  · intro c' hc'
    simp only [List.mem_cons] at hc'
    rcases hc' with rfl | hc'
    · rw [hqeq]; exact hq
    · have := h.off c' hc'
      simp only at this
      intro hm; exact this (List.mem_append_left _ hm)

theorem ChainData.single {stack : List Question} {q : Question} {c : Name} {rr : RR}
    (hn : rr.name = q.name) (ht : cnameTarget rr = some c) (hq : q ∉ stack) :
    ChainData stack q [rr] [] c := by
  apply ChainData.cons hn ht hq
  exact ⟨IsChain.nil _, by simp, by simp, by simp⟩

theorem ChainData.finals {stack : List Question} {q : Question} {fs : List RR}
    (h : ∀ f ∈ fs, f.name = q.name ∧ f.rtype = q.qtype ∧ cnameTarget f = none) :
    ChainData stack q [] fs q.name :=
  ⟨IsChain.nil _, by simp, by simp, h⟩

theorem ChainShapedOff.finals {stack : List Question} {q : Question} {fs : List RR}
    (h5 : q.qtype ≠ RT_CNAME) (h : ∀ f ∈ fs, f.name = q.name ∧ f.rtype = q.qtype) :
    ChainShapedOff stack q fs :=
  ⟨[], fs, q.name, rfl, ChainData.finals (fun f hf =>
    ⟨(h f hf).1, (h f hf).2, cnameTarget_none_of_rtype (by rw [(h f hf).2]; exact h5)⟩)⟩

theorem ChainShapedOff.cons {stack : List Question} {q : Question} {c : Name} {rr : RR} {rrs : List RR}
    (hn : rr.name = q.name) (ht : cnameTarget rr = some c) (hq : q ∉ stack)
    (h : ChainShapedOff (stack ++ [q]) { name := c, qtype := q.qtype, qclass := q.qclass } rrs) :
    ChainShapedOff stack q ([rr] ++ rrs) := by
  obtain ⟨cs, fs, e, h1, h2⟩ := h
  exact ⟨rr :: cs, fs, e, by simp [h1], ChainData.cons hn ht hq h2⟩

theorem ChainShapedOff.single {stack : List Question} {q : Question} {c : Name} {rr : RR}
    (hn : rr.name = q.name) (ht : cnameTarget rr = some c) (hq : q ∉ stack) :
    ChainShapedOff stack q [rr] :=
  ⟨[rr], [], c, rfl, ChainData.single hn ht hq⟩

theorem zoneCnameAnswer_chain {stack : List Question} {q : Question} {c : Name} {rr : RR}
    {sub : Except ResolutionError LocalResult}
    (hn : rr.name = q.name) (ht : cnameTarget rr = some c) (hq : q ∉ stack)
    (hsub : ∀ r', sub = .ok r' →
      LocalChainOK (stack ++ [q]) { name := c, qtype := q.qtype, qclass := q.qclass } r') :
    LocalChainOK stack q (zoneCnameAnswer rr { name := c, qtype := q.qtype, qclass := q.qclass } sub) := by
  apply zoneCnameAnswer_cases (motive := LocalChainOK stack q)
  case nameError => exact fun _ _ => ChainShapedOff.single hn ht hq
  case cname =>
    intro rrs cq' hs
    obtain ⟨e, _, hd, hcq⟩ := hsub _ hs
    exact ⟨e, by simp, ChainData.cons hn ht hq hd, hcq⟩
  case stuck => exact fun _ => ⟨c, by simp, ChainData.single hn ht hq, rfl⟩
  all_goals intros; rename_i hs; exact ChainShapedOff.cons hn ht hq (hsub _ hs)

theorem LocalChainOK.viaCache {s : List Question} {q : Question} {w : LocalResult} (h : LocalChainOK s q w)
    (hnd : ∀ rs o d, w ≠ .delegation rs o d) (h255 : q.qtype ≠ QTYPE_WILDCARD) :
    LocalChainOK s q (finishOk q w.flat.1 w.flat.2) := by
  cases w with
  | done res => exact (finishOk_done h255 res.rrs).symm ▸ h
  | partialAnswer rrs => exact (finishOk_done h255 rrs).symm ▸ h
  | cname rrs cq => obtain ⟨e, hne, hd, rfl⟩ := h; exact ⟨e, hne, hd, rfl⟩
  | delegation rs o d => exact absurd rfl (hnd rs o d)

theorem LocalWalk.chain {zs : Zones} {get : Name → Nat → List RR} (hz : ZoneAnswersTyped zs)
    (hg : ∀ n t, ∀ rr ∈ get n t, rr.name = n ∧ (t ≠ QTYPE_WILDCARD → rr.rtype = t))
    {s : List Question} {q : Question} {r : LocalResult} (h : LocalWalk zs get s q r) :
    q.qtype ≠ RT_CNAME → q.qtype ≠ QTYPE_WILDCARD → LocalChainOK s q r := by
  have answer : ∀ {s q zone rrs}, zs.resolve q.name q.qtype = some (zone, some (.answer rrs)) →
      q.qtype ≠ RT_CNAME → q.qtype ≠ QTYPE_WILDCARD → ChainShapedOff s q rrs := fun hres h5 h255 =>
    .finals h5 fun f hf => ⟨(Zones.resolve_owned hres).answer _ rfl f hf, (hz _ _ _ _ hres).answer _ rfl h255 f hf⟩
  induction h with
  | answerAuth _ _ hres => exact answer hres
  | answerNonauth _ _ hres => exact answer hres
  | nameError => exact fun h5 _ => .finals h5 nofun
  | referral => exact fun _ _ => trivial
  | zoneAlias _ hq hres _ hr ih =>
    intro h5 h255
    obtain ⟨hn, hfld⟩ := (Zones.resolve_owned hres).cname _ _ rfl
    exact hr ▸ zoneCnameAnswer_chain hn (cnameTarget_eq_some_iff.mpr ⟨(hz _ _ _ _ hres).cname _ _ rfl, hfld⟩) hq
      fun r' hr' => ih r' hr' h5 h255
  | cacheAnswer _ _ hf _ _ hr =>
    intro h5 h255
    rw [hr, hf.nil_of_ne_any h255, prioritisingMerge_nil, finishOk_done h255]
    exact ChainShapedOff.finals h5 fun rr hrr => ⟨(hg _ _ rr hrr).1, (hg _ _ rr hrr).2 h255⟩
  | cacheAlias _ hq hf _ _ hc ht _ hw hr ih =>
    intro h5 h255
    rw [hr, hf.nil_of_ne_any h255, prioritisingMerge_nil]
    refine LocalChainOK.viaCache (hw ▸ ?_) (hw ▸ zoneCnameAnswer_ne_delegation _ _ _) h255
    exact zoneCnameAnswer_chain (hg _ _ _ (hc ▸ List.mem_cons_self)).1 ht hq fun r' hr' => ih r' hr' h5 h255

theorem resolveLocal_chain (fuel : Nat) (ctx : Ctx) (q : Question) (hz : ZoneAnswersTyped ctx.zones)
    (hc : CacheTyped ctx.cache) (h5 : q.qtype ≠ RT_CNAME) (h255 : q.qtype ≠ QTYPE_WILDCARD) (r : LocalResult)
    (h : (resolveLocal fuel ctx q).2 = .ok r) : LocalChainOK ctx.stack q r :=
  (resolveLocal_walk h).chain hz (fun n t rr hrr =>
    ⟨cacheGet_owner _ _ _ _ rr hrr, fun ht => (cacheGet_typed hc n t ctx.now).2 ht rr hrr⟩) h5 h255

/-- in authoritative-only mode the answer records of every reply but a converted referral have the shape. -/
theorem resolveAuthoritativeOnly_chain {ctx : Ctx} {q : Question} (hz : ZoneAnswersTyped ctx.zones)
    (hc : CacheTyped ctx.cache) (h5 : q.qtype ≠ RT_CNAME) (h255 : q.qtype ≠ QTYPE_WILDCARD) {res : ResolvedRecord}
    (hr : (resolveAuthoritativeOnly ctx q).2 = .ok res)
    (hnd : ∀ rs s d, (resolveLocal (RECURSION_LIMIT + 1) ctx q).2 ≠ .ok (.delegation rs s d)) :
    ChainShaped q.name q.qtype res.rrs := by
  obtain ⟨r, hl, rfl⟩ := resolveAuthoritativeOnly_ok hr
  have hr' : ∀ rs s d, r ≠ .delegation rs s d := fun rs s d e => hnd rs s d (e ▸ hl)
  exact ((resolveLocal_chain _ ctx q hz hc h5 h255 r hl).answers (so_toResolved_rrs r hr')).shaped

/-! ## index form of `IsChain` -/

theorem IsChain.head {n e : Name} {r : RR} {rest : List RR} (h : IsChain n (r :: rest) e) : r.name = n := by
  cases h; assumption

theorem IsChain.all_cname {n e : Name} {cs : List RR} (h : IsChain n cs e) :
    ∀ c ∈ cs, ∃ t, cnameTarget c = some t := by
  induction h with
  | nil => simp
  | cons n t e r rest _ ht _ ih =>
    intro c hc
    simp only [List.mem_cons] at hc
    rcases hc with rfl | hc
    · exact ⟨t, ht⟩
    · exact ih c hc

theorem IsChain.link {n e : Name} {cs : List RR} (h : IsChain n cs e) :
    ∀ i (hi : i + 1 < cs.length), cnameTarget (cs[i]'(by omega)) = some (cs[i + 1]'hi).name := by
  induction h with
  | nil => intro i hi; simp at hi
  | cons n t e r rest _ ht hrest ih =>
    intro i hi
    cases i with
    | zero =>
      cases rest with
      | nil => simp at hi
      | cons r2 rest2 => simp only [List.getElem_cons_zero, List.getElem_cons_succ]; rw [hrest.head]; exact ht
    | succ j =>
      simp only [List.getElem_cons_succ]
      exact ih j (by simpa using hi)

theorem IsChain.last {n e : Name} {cs : List RR} (h : IsChain n cs e) :
    (cs = [] → e = n) ∧ ∀ l, cs.getLast? = some l → cnameTarget l = some e := by
  induction h with
  | nil => simp
  | cons n t e r rest _ ht hrest ih =>
    refine ⟨by simp, ?_⟩
    intro l hl
    cases rest with
    | nil =>
      simp only [List.getLast?_singleton, Option.some.injEq] at hl
      subst hl
      rw [ih.1 rfl]; exact ht
    | cons r2 rest2 =>
      rw [List.getLast?_cons_cons] at hl
      exact ih.2 l hl

/-! ## `ChainShaped` read by owners and by position -/

theorem ChainShaped.nil (qn : Name) (qtype : Nat) : ChainShaped qn qtype [] :=
  ⟨[], [], qn, rfl, IsChain.nil qn, by simp, by simp⟩

theorem IsChain.earlier {n e : Name} {cs : List RR} (h : IsChain n cs e) (fs : List RR)
    (hfs : ∀ f ∈ fs, f.name = e) :
    ∀ (i : Nat) (rr : RR), (cs ++ fs)[i]? = some rr →
      rr.name = n ∨ ∃ j c, j < i ∧ (cs ++ fs)[j]? = some c ∧ cnameTarget c = some rr.name := by
  induction h with
  | nil n =>
    intro i rr hi
    left
    rw [List.nil_append] at hi
    exact hfs rr (List.mem_of_getElem? hi)
  | cons n t e r rest hn ht _ ih =>
    intro i rr hi
    cases i with
    | zero =>
      simp only [List.cons_append, List.getElem?_cons_zero, Option.some.injEq] at hi
      subst hi; exact Or.inl hn
    | succ k =>
      simp only [List.cons_append, List.getElem?_cons_succ] at hi
      rcases ih hfs k rr hi with h1 | ⟨j, c, hj, hc, hct⟩
      · right
        exact ⟨0, r, by omega, by simp, by rw [h1]; exact ht⟩
      · right
        exact ⟨j + 1, c, by omega, by simpa using hc, hct⟩

theorem ChainShaped.earlier {qn : Name} {qtype : Nat} {rrs : List RR} (h : ChainShaped qn qtype rrs) :
    ∀ (i : Nat) (rr : RR), rrs[i]? = some rr →
      rr.name = qn ∨ ∃ j c, j < i ∧ rrs[j]? = some c ∧ cnameTarget c = some rr.name := by
  obtain ⟨cs, fs, e, rfl, hc, _, hf⟩ := h
  exact IsChain.earlier hc fs (fun f hfm => (hf f hfm).1)

theorem ChainShaped.owner {qn : Name} {qtype : Nat} {rrs : List RR} (h : ChainShaped qn qtype rrs) :
    ∀ rr ∈ rrs, rr.name = qn ∨ ∃ c ∈ rrs, cnameTarget c = some rr.name := by
  intro rr hrr
  obtain ⟨i, hi, hget⟩ := List.getElem_of_mem hrr
  have hi' : rrs[i]? = some rr := by rw [List.getElem?_eq_getElem hi, hget]
  rcases ChainShaped.earlier h i rr hi' with h1 | ⟨j, c, _, hc, hct⟩
  · exact Or.inl h1
  · exact Or.inr ⟨c, List.mem_of_getElem? hc, hct⟩

theorem ChainShaped.types {qn : Name} {qtype : Nat} {rrs : List RR} (h : ChainShaped qn qtype rrs) :
    ∀ rr ∈ rrs, (∃ t, cnameTarget rr = some t) ∨ (rr.rtype = qtype ∧ cnameTarget rr = none) := by
  obtain ⟨cs, fs, e, rfl, hc, _, hf⟩ := h
  intro rr hrr
  rcases List.mem_append.mp hrr with h1 | h1
  · exact Or.inl (hc.all_cname rr h1)
  · exact Or.inr (hf rr h1).2

theorem ChainShaped.head {qn : Name} {qtype : Nat} {first : RR} {rest : List RR}
    (hna : cnameTarget first = none) (h : ChainShaped qn qtype (first :: rest)) :
    first.name = qn ∧ first.rtype = qtype := by
  obtain ⟨cs, fs, e, heq, hc, _, hf⟩ := h
  cases cs with
  | nil =>
    have he : e = qn := hc.last.1 rfl
    simp only [List.nil_append] at heq
    have := hf first (by rw [← heq]; simp)
    exact ⟨this.1.trans he, this.2.1⟩
  | cons c cs' =>
    simp only [List.cons_append, List.cons.injEq] at heq
    obtain ⟨t, ht⟩ := hc.all_cname c (by simp)
    rw [← heq.1, hna] at ht; cases ht

end Resolved
