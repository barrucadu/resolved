/-
  C07 over consistent universes: a faithful server's reply matches the request, and
  completeness of the reply filter for answers, NODATA / NXDOMAIN, referrals (one or several NS
  records, `A` and `AAAA` glue) and aliases (`uni_validate_*`).
-/
import Resolved.Spec.UniverseSpec
import Resolved.Proofs.UpstreamLemmas
import Resolved.Proofs.UpstreamFollow
import Resolved.Proofs.QueryType

namespace Resolved

open Gen

set_option autoImplicit false

/-! ## Records without aliases: `follow_cnames` and `get_ip` -/

theorem followCnames_noCname (rrs : List RR) (target : Name) (qtype : Nat)
    (h : qtype = RT_CNAME ∨ ∀ rr ∈ rrs, rr.rtype ≠ RT_CNAME) :
    followCnames rrs target qtype =
      if rrs.any (fun rr => rr.name == target && rtypeMatches rr.rtype qtype) then some (target, []) else none := by
  refine followCnames_stop ?_
  rcases h with rfl | h
  · rfl
  · cases hl : nmGet (followMap rrs qtype) target with
    | none => rfl
    | some t =>
      obtain ⟨rr, hr, _, hc⟩ := nmGet_followMap_some hl
      exact nomatch (cnameTarget_none_of_rtype (h rr hr)).symm.trans hc

theorem followCnames_nil (target : Name) (qtype : Nat) : followCnames [] target qtype = none := by
  rw [followCnames_noCname [] target qtype (Or.inr (by simp))]
  rfl

theorem uni_getIp (rrs : List RR) (host : Name) (x : Nat) (hne : rrs ≠ [])
    (hall : ∀ rr ∈ rrs, rr.name = host ∧ rr.rtype = RT_A ∧ rr.fields = [.a x]) :
    getIp rrs host RT_A = some (.a x) := by
  have hf := followCnames_noCname rrs host QTYPE_WILDCARD
    (Or.inr (fun rr hr => by rw [(hall rr hr).2.1]; decide))
  cases rrs with
  | nil => exact absurd rfl hne
  | cons r rest =>
    obtain ⟨h1, h2, h3⟩ := hall r List.mem_cons_self
    have hm : rtypeMatches RT_A QTYPE_WILDCARD = true := rfl
    unfold getIp
    rw [hf]
    simp only [List.any_cons, h1, beq_self_eq_true, h2, hm, Bool.and_self, Bool.true_or, if_true, getRecord,
      List.find?_cons]
    simp [h3]

/-! ## The reply of a faithful server matches the request -/

theorem uni_matches_hdr (q : Question) (rd aa : Bool) (rc : Nat) (a b c : List RR)
    (hrc : rc = RCODE_NOERROR ∨ rc = RCODE_NAMEERROR) :
    responseMatchesRequest (requestFor q rd)
      { header := replyHeader rd aa rc, questions := [q], answers := a, authority := b, additional := c } = true :=
  (responseMatchesRequest_iff _ _).mpr ⟨rfl, rfl, rfl, rfl, hrc, rfl⟩

theorem uni_authReply_matches {U : Universe} {E : UEntry} {q : Question} {rd : Bool} {m : Message}
    (h : authReply U E q rd = some m) : responseMatchesRequest (requestFor q rd) m = true := by
  unfold authReply at h
  split at h
  · split at h
    · split at h <;> (cases h; exact uni_matches_hdr _ _ _ _ _ _ _ (Or.inl rfl))
    · cases h
  · split at h
    · cases h; exact uni_matches_hdr _ _ _ _ _ _ _ (Or.inr rfl)
    · cases h
  · cases h; exact uni_matches_hdr _ _ _ _ _ _ _ (Or.inl rfl)
  · cases h; exact uni_matches_hdr _ _ _ _ _ _ _ (Or.inl rfl)
  · cases h

/-! ## The reply filter accepts faithful replies -/

theorem uni_any_of_all {α : Type} {l : List α} {p : α → Bool} (hne : l ≠ []) (h : ∀ a ∈ l, p a = true) :
    l.any p = true := by
  obtain ⟨a, l', rfl⟩ := List.exists_cons_of_ne_nil hne
  simp [h a List.mem_cons_self]

theorem uni_validate_answer (q : Question) (m : Message) (mc : Nat)
    (hq : lookupNat queryTypeFromU16 q.qtype = none) (hne : m.answers ≠ [])
    (hall : ∀ rr ∈ m.answers, rr.name = q.name ∧ rr.rtype = q.qtype ∧ rrIsUnknown rr = false) :
    validateNameserverResponse q m mc = some (.answer m.answers none) := by
  have hmatch : ∀ rr ∈ m.answers, rtypeMatches rr.rtype q.qtype = true := by
    intro rr hr
    rw [rtypeMatches_of_recordType hq, (hall rr hr).2.1, beq_self_eq_true]
  have hf : followCnames m.answers q.name q.qtype = some (q.name, []) := by
    have hc : q.qtype = RT_CNAME ∨ ∀ rr ∈ m.answers, rr.rtype ≠ RT_CNAME := by
      by_cases hcn : q.qtype = RT_CNAME
      · exact Or.inl hcn
      · exact Or.inr (fun rr hr => by rw [(hall rr hr).2.1]; exact hcn)
    rw [followCnames_noCname _ _ _ hc,
      uni_any_of_all hne (fun rr hr => by simp [(hall rr hr).1, hmatch rr hr])]
    rfl
  have hk : knownOf m = m.answers := List.filter_eq_self.mpr (fun rr hr => by simp [(hall rr hr).2.2])
  have hkeep : m.answers.filter (ansKeep q q.name []) = m.answers :=
    List.filter_eq_self.mpr (fun rr hr => ansKeep_iff.mpr (Or.inl ⟨hmatch rr hr, (hall rr hr).1⟩))
  rw [validate_of_follow_some mc hf, keptRrs, hasFinal, hk, hkeep,
    uni_any_of_all hne (fun rr hr => by simp [(hall rr hr).1, hmatch rr hr]),
    List.isEmpty_eq_false_iff.mpr hne]
  rfl

theorem uni_validate_nodata (q : Question) (m : Message) (mc : Nat) (soa : RR)
    (hans : m.answers = []) (hauth : m.authority = [soa]) (hsoa : soa.rtype = RT_SOA)
    (hrc : m.header.rcode = RCODE_NOERROR ∨ m.header.rcode = RCODE_NAMEERROR)
    (hsub : q.name.isSubdomainOf soa.name = true) (hmc : mc ≤ soa.name.labels.length) :
    validateNameserverResponse q m mc = some (.answer [] (some soa)) := by
  have hns : nsTarget soa = none := by
    unfold nsTarget; simp [hsoa, RT_SOA, RT_NS]
  have hg : getBetterNsNames [soa] q.name mc = none := by
    rw [getBetterNsNames_eq]
    simp only [List.foldl_cons, List.foldl_nil, gbStep, hns, Option.map_none]
  have hsoa' : getNxdomainNodataSoa q m mc = some soa := by
    unfold getNxdomainNodataSoa
    have hrc' : (m.header.rcode == RCODE_NAMEERROR || m.header.rcode == RCODE_NOERROR) = true := by
      rcases hrc with h | h <;> simp [h]
    simp [hans, hauth, hsoa, hrc', hsub, Nat.not_lt.mpr hmc]
  rw [validate_of_follow_none mc (by rw [hans]; exact followCnames_nil _ _), hans, hauth, hg, hsoa']
  rfl

theorem uni_validate_cname (q : Question) (m : Message) (mc : Nat) (rr : RR) (tn : Name)
    (hq : lookupNat queryTypeFromU16 q.qtype = none) (hcn : q.qtype ≠ RT_CNAME)
    (hans : m.answers = [rr]) (hn : rr.name = q.name) (ht : rr.rtype = RT_CNAME) (hf : rr.fields = [.name tn])
    (hk : rrIsUnknown rr = false) (hne : tn ≠ q.name) :
    validateNameserverResponse q m mc = some (.cname [rr] tn) := by
  have hct : cnameTarget rr = some tn := cnameTarget_eq_some_iff.mpr ⟨ht, hf⟩
  have hmatch : rtypeMatches rr.rtype q.qtype = false := by
    rw [rtypeMatches_of_recordType hq, ht]
    exact beq_false_of_ne (Ne.symm hcn)
  -- the map followed is the single link `q.name ↦ tn`: one step, then the loop stops at `tn`
  have hmap : followMap [rr] q.qtype = [(q.name, tn)] := by
    rw [followMap_of_ne hcn]
    simp only [buildMap, List.foldl_cons, List.foldl_nil, cnStep, hct, hn, nmInsert]
  have hf' : followCnames m.answers q.name q.qtype = some (tn, [(q.name, tn)]) := by
    have hg1 : nmGet [(q.name, tn)] q.name = some tn := by simp [nmGet]
    have hg2 : nmGet [(q.name, tn)] tn = none := by simp [nmGet, Ne.symm hne]
    rw [hans, followCnames_eq, hmap, List.length_singleton, followLoop_step hg1 List.not_mem_nil,
      followLoop_stop hg2]
    simp only [List.nil_append, List.isEmpty_cons, Bool.not_false, Bool.or_true, if_true, nmInsert]
  have hkn : knownOf m = [rr] := by rw [knownOf, hans]; simp [hk]
  have hkeep : [rr].filter (ansKeep q tn [(q.name, tn)]) = [rr] :=
    List.filter_eq_self.mpr (fun r hr => by
      rw [List.mem_singleton.mp hr]
      exact ansKeep_iff.mpr (Or.inr ⟨tn, hct, by simp [nmGet, hn]⟩))
  rw [validate_of_follow_some mc hf', keptRrs, hasFinal, hkn, hkeep]
  simp [hmatch]

/-! ## Referrals: NS sets of several name servers -/

theorem uni_mem_nsHosts {nsRrs : List RR} {x : Name} :
    x ∈ nsHosts nsRrs ↔ ∃ rr ∈ nsRrs, nsTarget rr = some x := by
  unfold nsHosts
  rw [mem_foldl_insertSet]
  simp [List.mem_filterMap]

theorem uni_getBetter_same_owner (target : Name) (mc : Nat) (zone : Name)
    (hsub : target.isSubdomainOf zone = true) (hmc : mc < zone.labels.length) (nsRrs : List RR) (hne : nsRrs ≠ [])
    (hall : ∀ rr ∈ nsRrs, rr.name = zone ∧ (nsTarget rr).isSome = true) :
    getBetterNsNames nsRrs target mc = some (zone, nsHosts nsRrs) := by
  -- once the zone is the match, every further record adds its host
  have hrest : ∀ (l : List RR) (acc : List Name), (∀ rr ∈ l, rr.name = zone ∧ (nsTarget rr).isSome = true) →
      l.foldl (gbStep target) (acc, zone.labels.length, some zone) =
        ((l.filterMap nsTarget).foldl insertSet acc, zone.labels.length, some zone) := by
    intro l
    induction l with
    | nil => intro acc _; rfl
    | cons r l ih =>
      intro acc hl
      obtain ⟨hn, ht⟩ := hl r List.mem_cons_self
      obtain ⟨t, htt⟩ := Option.isSome_iff_exists.mp ht
      rw [List.foldl_cons, List.filterMap_cons, htt, List.foldl_cons,
        ← ih (insertSet acc t) (fun rr hr => hl rr (List.mem_cons_of_mem _ hr))]
      simp only [gbStep, htt, hn, hsub, if_true, gt_iff_lt, Nat.lt_irrefl, if_false]
  obtain ⟨r, l, rfl⟩ := List.exists_cons_of_ne_nil hne
  obtain ⟨hn, ht⟩ := hall r List.mem_cons_self
  obtain ⟨t, htt⟩ := Option.isSome_iff_exists.mp ht
  have h1 : gbStep target ([], mc, none) r = ([t], zone.labels.length, some zone) := by
    simp only [gbStep, htt, hn, hsub, if_true, gt_iff_lt, hmc]
  rw [getBetterNsNames_eq, List.foldl_cons, h1, hrest l [t] (fun rr hr => hall rr (List.mem_cons_of_mem _ hr))]
  simp [nsHosts, htt, insertSet]

theorem uni_validate_referral_multi (q : Question) (m : Message) (mc : Nat) (zone : Name)
    (hans : m.answers = []) (hne : m.authority ≠ [])
    (hns : ∀ rr ∈ m.authority, rr.name = zone ∧ (nsTarget rr).isSome = true)
    (hglue : ∀ g ∈ m.additional, (g.rtype = RT_A ∨ g.rtype = RT_AAAA) ∧ g.name ∈ nsHosts m.authority)
    (hsub : q.name.isSubdomainOf zone = true) (hmc : mc < zone.labels.length) :
    validateNameserverResponse q m mc =
      some (.delegation (m.authority ++ m.additional) (nsHosts m.authority) zone) := by
  have hauth : m.authority.filter (isNsOf zone (nsHosts m.authority)) = m.authority :=
    List.filter_eq_self.mpr (fun rr hr => by
      obtain ⟨t, ht⟩ := Option.isSome_iff_exists.mp (hns rr hr).2
      exact isNsOf_iff.mpr ⟨t, ht, (hns rr hr).1, uni_mem_nsHosts.mpr ⟨rr, hr, ht⟩⟩)
  have hadd : m.additional.filter (isGlueOf (nsHosts m.authority)) = m.additional :=
    List.filter_eq_self.mpr (fun g hg => isGlueOf_iff.mpr (hglue g hg))
  rw [validate_of_follow_none mc (by rw [hans]; exact followCnames_nil _ _),
    uni_getBetter_same_owner q.name mc zone hsub hmc m.authority hne hns, hans]
  simp only [getBetterNsNames_eq, List.foldl_nil, Option.map_none, chooseNs, delegRrs, hans, List.filter_nil,
    List.nil_append, hauth, hadd]

end Resolved
