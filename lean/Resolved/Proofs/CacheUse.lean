/-
  What Props/C05 needs about `resolve_local`: the records of a zone verdict are stored records of a configured
  zone (`cu_FromZones`), the list of all records of a local result under the names the C05 statements use, and
  the situation in which a cached alias is followed (`cu_FollowsCachedCname`).
-/
import Resolved.Proofs.ResolverLocalWalk

namespace Resolved

open PCache Gen

/-! ## where the records of a zone verdict come from -/

/-- `r` is a record stored in the tree `node`: a zone record `zr` of the exact-name map or of the
    wildcard map of one of its nodes, reported under an owner name (the query name — exact match
    or wildcard synthesis — or the node's own name for a referral). -/
def cu_NodeStored (node : ZNode) (r : RR) : Prop :=
  ∃ p n recs kv zr owner, node.descend p = some n ∧ (recs = n.this ∨ n.wildcards = some recs) ∧
    kv ∈ recs ∧ zr ∈ kv.2 ∧ r = zr.toRR owner

/-- `r` stems from the local zones: the SOA record or a stored record of a configured zone. -/
def cu_FromZones (zs : Zones) (r : RR) : Prop :=
  ∃ k z, Zones.lookup zs.zones k = some z ∧ (z.soaRR = some r ∨ cu_NodeStored z.records r)

theorem cu_zones_resolve_fromZones {zs : Zones} {name : Name} {qtype : Nat} {z : Zone} {zr : ZoneResult}
    (h : zs.resolve name qtype = some (z, some zr)) :
    (∀ rr ∈ zr.rrs, cu_FromZones zs rr) ∧ (∀ soa, z.soaRR = some soa → cu_FromZones zs soa) := by
  obtain ⟨hg, recs, nsd, ⟨p, n, hd, hr⟩, hv⟩ := Zones.resolve_from h
  obtain ⟨k, hk⟩ := Zones.get_mem hg
  refine ⟨fun rr hrr => ⟨k, z, hk, .inr ?_⟩, fun soa hs => ⟨k, z, hk, .inl hs⟩⟩
  cases zr with
  | answer rrs =>
    obtain ⟨k, zrs, z, h1, h2, h3, _⟩ := hv.answer rrs rfl rr hrr
    exact ⟨p, n, recs, (k, zrs), z, name, hd, hr, h1, h2, h3⟩
  | cname c r =>
    obtain ⟨z, zs, hg, _, he, _⟩ := hv.cname c r rfl
    exact ⟨p, n, recs, (RT_CNAME, z :: zs), z, name, hd, hr, RecMap.get_mem hg, List.mem_cons_self,
      (List.mem_singleton.mp hrr).trans he⟩
  | delegation rrs =>
    obtain ⟨z, zs, hg, rfl⟩ := hv.delegation _ rfl
    obtain ⟨z', hz', rfl⟩ := List.mem_map.mp hrr
    exact ⟨p, n, recs, (RT_NS, z :: zs), z', nsd, hd, hr, RecMap.get_mem hg, hz', rfl⟩
  | nameError => cases hrr
  | panic => cases hrr

/-! ## all records of a result -/

/-- `ResolvedRecord.allRrs` under the name the C05 statements use. -/
def cu_resolvedRrs (r : ResolvedRecord) : List RR := r.rrs ++ r.soaRR.toList

/-- `LocalResult.allRrs` under the name the C05 statements use (`cu_localRrs_eq`). -/
def cu_localRrs : LocalResult → List RR
  | .done r => cu_resolvedRrs r
  | .partialAnswer rrs => rrs
  | .delegation rrs soa _ => rrs ++ soa.toList
  | .cname rrs _ => rrs

theorem cu_localRrs_eq (r : LocalResult) : cu_localRrs r = r.allRrs := by
  cases r <;> rfl

/-! ## the cached alias `resolve_local` follows -/

/-- `resolve_local` at `(ctx, q)` (with `fuel + 1` units) follows the cached alias `cnameRR → cname`.
    `C05_cached_cname_follow_is_the_recursive_call` shows that this is exactly the situation in which the model
    makes the recursive call for a cached alias. -/
structure cu_FollowsCachedCname (fuel : Nat) (ctx : Ctx) (q : Question) (cnameRR : RR) (cname : Name) : Prop where
  notLimit : ctx.atRecursionLimit = false
  notDup : ctx.isDuplicate q = false
  zoneFalls : ∃ rz, zonePart (resolveLocal fuel) ctx q = (ctx, .inr rz)
  firstEmpty : (ctx.cacheGet q.name q.qtype).2 = []
  notCname : q.qtype ≠ CNAME_QTYPE
  head : ∃ rest, ((ctx.cacheGet q.name q.qtype).1.cacheGet q.name CNAME_QTYPE).2 = cnameRR :: rest
  target : cnameTarget cnameRR = some cname

/-- its premises are those of `LocalWalk.cacheAlias` and of `resolveLocal_cache_alias_eq`: the stack guards and
    the two lookups as the given context answers them (`ZoneFalls` is `ZoneFalls.of_zonePart` of its third field). -/
theorem cu_FollowsCachedCname.premises {fuel : Nat} {ctx : Ctx} {q : Question} {cnameRR : RR} {cname : Name}
    (hf : cu_FollowsCachedCname fuel ctx q cnameRR cname) :
    ctx.stack.length ≠ RECURSION_LIMIT ∧ q ∉ ctx.stack ∧
      ctx.reads q.name q.qtype = [] ∧ ∃ rest, ctx.reads q.name CNAME_QTYPE = cnameRR :: rest := by
  obtain ⟨rest, hhead⟩ := hf.head
  refine ⟨Ctx.atRecursionLimit_eq_false.mp hf.notLimit, Ctx.isDuplicate_eq_false.mp hf.notDup, hf.firstEmpty, rest, ?_⟩
  rw [← (ctx.cacheGet_looked q.name q.qtype).reads]; exact hhead

end Resolved
