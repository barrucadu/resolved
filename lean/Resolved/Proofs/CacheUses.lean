/-
  Which lookups are a USE of a name (refresh `last_read` and the access queue), and that operations which only
  MISS a name — along a whole history — leave its partition and queue entry (`useView`) alone: what Props/C15 says
  about "least recently USED".
-/
import Resolved.Proofs.CacheStore
import Resolved.Proofs.CachePruneSpec

namespace Resolved

open PCache Gen

theorem cacheGetUnchecked_of_noKey {c : PCache} {name : Name} {t : Nat} (now : Nat)
    (ht : t ≠ QTYPE_WILDCARD) (h : NoKey c name t) :
    cacheGetUnchecked c name t now = (c, []) := by
  rcases qtype_cases t with ⟨hq, _⟩ | ⟨hq, _⟩ | ⟨s, hq, hs, _⟩
  · rw [cacheGetUnchecked_typed now hq, getTouch_miss now h]; rfl
  · exact absurd (lookupNat_qt_eq_wildcard_iff.mp hq) ht
  · exact cacheGetUnchecked_other now hq hs

theorem cacheGetUnchecked_queryOnly {c : PCache} {name : Name} {t : Nat} (now : Nat)
    (ht : t = 252 ∨ t = 253 ∨ t = 254) : cacheGetUnchecked c name t now = (c, []) := by
  rcases ht with rfl | rfl | rfl
  · exact cacheGetUnchecked_other (s := "AXFR") now (by decide) (by decide)
  · exact cacheGetUnchecked_other (s := "MAILB") now (by decide) (by decide)
  · exact cacheGetUnchecked_other (s := "MAILA") now (by decide) (by decide)

theorem cacheGetUnchecked_hit {c : PCache} {name : Name} {t : Nat} {p : Partition} {ts : Tuples}
    (now : Nat) (hq : lookupNat queryTypeFromU16 t = none)
    (hp : PCache.getPartition c.partitions name = some p) (hts : PCache.getTuples p.records t = some ts) :
    cacheGetUnchecked c name t now = (c.touch name p now, toRRs name now ts) := by
  rw [cacheGetUnchecked_typed now hq, getTouch_hit now hp hts]; rfl

theorem cacheGetUnchecked_any_hit {c : PCache} {name : Name} {p : Partition} (now : Nat)
    (hp : PCache.getPartition c.partitions name = some p) :
    cacheGetUnchecked c name QTYPE_WILDCARD now =
      (c.touch name p now, p.records.flatMap (fun r => toRRs name now r.2)) := by
  rw [cacheGetUnchecked_wild (qtype := QTYPE_WILDCARD) now rfl, getPartitionTouch_hit now hp]; rfl

theorem cacheGetUnchecked_any_absent {c : PCache} {name : Name} (now : Nat)
    (hp : PCache.getPartition c.partitions name = none) :
    cacheGetUnchecked c name QTYPE_WILDCARD now = (c, []) := by
  rw [cacheGetUnchecked_wild (qtype := QTYPE_WILDCARD) now rfl, getPartitionTouch_absent now hp]; rfl

/-- what a use of `k` changes: `k`'s partition (its `last_read` with it) and `k`'s access-queue entry -/
def useView (c : PCache) (k : Name) : Option Partition × Option Nat :=
  (PCache.getPartition c.partitions k, AL.get c.accessPriority k)

theorem useView_upsert_of_ne (c : PCache) (k : Name) (rk : Nat) (v : CRec) (ttl now : Nat) {k' : Name}
    (hne : k' ≠ k) : useView (c.upsert k rk v ttl now) k' = useView c k' := by
  obtain ⟨p', hps, _, haq⟩ := upsert_store c k rk v ttl now
  unfold useView
  rw [getPartition_eq, getPartition_eq, hps, haq, AL.get_set, if_neg hne]
  split
  · rw [AL.get_change]; simp [hne]
  · rw [AL.get_set, if_neg hne]

theorem Touched.useView_of_ne {c c' : PCache} {name k : Name} {now : Nat} (h : Touched c c' name now)
    (hne : name ≠ k) : useView c' k = useView c k := by
  rcases h with rfl | ⟨p, _, rfl⟩
  · rfl
  · have hk : ¬ k = name := fun e => hne e.symm
    simp only [useView, PCache.touch, getPartition_eq, AL.get_set, AL.get_change, hk, if_false, false_and]

/-- the touched state in the model's spelling and what a use changes: the clauses `C15_typed_hit_is_a_use` and
    `C15_any_lookup_is_a_use` list one by one; they take this apart -/
theorem touch_view {c : PCache} {k : Name} {p : Partition} (hp : PCache.getPartition c.partitions k = some p)
    (now : Nat) :
    c.touch k p now = { c with partitions := PCache.setPartition c.partitions k { p with lastRead := now }
                               accessPriority := c.accessPriority.change k now } ∧
    PCache.getPartition (c.touch k p now).partitions k = some { p with lastRead := now } ∧
    (∀ k', k' ≠ k →
      PCache.getPartition (c.touch k p now).partitions k' = PCache.getPartition c.partitions k' ∧
      AL.get (c.touch k p now).accessPriority k' = AL.get c.accessPriority k') ∧
    (Inv c → AL.get (c.touch k p now).accessPriority k = some now) := by
  rw [getPartition_eq] at hp
  refine ⟨?_, ?_, fun k' hk => Prod.mk.inj (Touched.useView_of_ne (Or.inr ⟨p, hp, rfl⟩) (Ne.symm hk)), fun hinv => ?_⟩
  · simp only [PCache.touch, setPartition_eq, PQ_change_eq]
  · rw [getPartition_eq]; exact (AL.get_set _ _ _ _).trans (if_pos rfl)
  · exact (AL.get_change _ _ _ _).trans (if_pos ⟨rfl, by rw [hinv.aq_get_of hp]; rfl⟩)

/-! ### misses along a history -/

/-- `op` misses `k`, whose partition is `po`.  A prune never counts: it may purge or drop `k`'s partition.  The
    partition is an argument because a whole history is judged against `k`'s partition at the start
    (`useView_runFrom_of_misses`: it never changes). -/
def cu_MissesPart (po : Option Partition) (k : Name) : CacheOp → Prop
  | .get name qtype _ => name ≠ k ∨ (qtype ≠ QTYPE_WILDCARD ∧ ∀ p, po = some p → PCache.getTuples p.records qtype = none)
  | .getUnchecked name qtype _ =>
    name ≠ k ∨ (qtype ≠ QTYPE_WILDCARD ∧ ∀ p, po = some p → PCache.getTuples p.records qtype = none)
  | .insert rr _ => rr.name ≠ k
  | .insertAll rrs _ => ∀ rr ∈ rrs, rr.name ≠ k
  | .prune _ => False

def cu_Misses (c : PCache) (k : Name) (op : CacheOp) : Prop :=
  cu_MissesPart (PCache.getPartition c.partitions k) k op

theorem useView_sharedInsert_of_ne (c : PCache) (rr : RR) (now : Nat) {k : Name} (hne : rr.name ≠ k) :
    useView (sharedInsert c rr now) k = useView c k :=
  sharedInsert_cases (P := fun c' => useView c' k = useView c k) c rr now
    (fun _ => useView_upsert_of_ne c rr.name _ _ _ now (Ne.symm hne)) fun _ => rfl

theorem useView_sharedInsertAll_of_ne (rrs : List RR) (now : Nat) {k : Name} (c : PCache) (h : ∀ rr ∈ rrs, rr.name ≠ k) :
    useView (sharedInsertAll c rrs now) k = useView c k :=
  sharedInsertAll_induct (P := fun c' => useView c' k = useView c k)
    (fun c' rr hr h' => (useView_sharedInsert_of_ne c' rr now (h rr hr)).trans h') rfl

theorem useView_lookup_of_miss {c : PCache} {k name : Name} {qtype : Nat} (now : Nat)
    (h : name ≠ k ∨ (qtype ≠ QTYPE_WILDCARD ∧
      ∀ p, PCache.getPartition c.partitions k = some p → PCache.getTuples p.records qtype = none)) :
    useView (cacheGetUnchecked c name qtype now).1 k = useView c k := by
  by_cases hn : name = k
  · subst hn
    rw [cacheGetUnchecked_of_noKey now (h.resolve_left fun hne => hne rfl).1 (h.resolve_left fun hne => hne rfl).2]
  · exact Touched.useView_of_ne (cacheGetUnchecked_touched_step c name qtype now) hn

theorem useView_apply_of_misses {c : PCache} {k : Name} {op : CacheOp} (h : cu_Misses c k op) :
    useView (op.apply c) k = useView c k := by
  cases op with
  | insert rr now => exact useView_sharedInsert_of_ne c rr now h
  | insertAll rrs now => exact useView_sharedInsertAll_of_ne rrs now c h
  | get name qtype now => exact useView_lookup_of_miss now h
  | getUnchecked name qtype now => exact useView_lookup_of_miss now h
  | prune now => exact absurd h (by simp [cu_Misses, cu_MissesPart])

/-- the misses are judged against `k`'s partition at the start: it never changes -/
theorem useView_runFrom_of_misses (k : Name) (ops : List CacheOp) (c : PCache) (h : ∀ op ∈ ops, cu_Misses c k op) :
    useView (runFrom c ops) k = useView c k :=
  List.foldlRecOn (motive := fun c' => useView c' k = useView c k) ops _ rfl fun c' e op hop =>
    have hp : PCache.getPartition c'.partitions k = PCache.getPartition c.partitions k := congrArg Prod.fst e
    (useView_apply_of_misses (show cu_Misses c' k op by unfold cu_Misses; rw [hp]; exact h op hop)).trans e

end Resolved
