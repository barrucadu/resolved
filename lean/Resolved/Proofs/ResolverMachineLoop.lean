/-
  The candidate loop one iteration at a time: `LoopNext` relates the arguments of an invocation to
  those of the invocation it tail-calls; every iteration ends the loop or makes such a step; each
  referral is strictly closer to the question name (C07); a measure every step decreases; every `ok` result of
  the machines is the finished local result or non-authoritative (C01).
-/
import Resolved.Proofs.ResolverMachineSteps

namespace Resolved

open Gen

/-! ## One iteration of the loop -/

/-- the loop variables of `candidateLoop` (the question and `combined_rrs` never change). -/
structure LoopArgs where
  st : St
  mc : Nat
  cands : List Name
  next : List Name
  locally : Bool

/-- the iteration with variables `a` goes on with `a'`; the state in `a'` is left free (`candidateLoop_next`
    gives the one for which the equation holds). -/
inductive LoopNext (cfg : RecCfg) (q : Question) : LoopArgs → LoopArgs → Prop
  /-- no address held locally for the candidate: it is set aside, more fast candidates remain -/
  | skipFast (a : LoopArgs) (st1 : St) (cand : Name) : a.locally = true → a.cands.getLast? = some cand →
      a.cands.dropLast.isEmpty = false →
      LoopNext cfg q a ⟨st1, a.mc, a.cands.dropLast, a.next ++ [cand], true⟩
  /-- … no fast candidate remains: restart with the ones set aside, resolving them recursively -/
  | switchSlow (a : LoopArgs) (st1 : St) (cand : Name) : a.locally = true → a.cands.getLast? = some cand →
      a.cands.dropLast.isEmpty = true →
      LoopNext cfg q a ⟨st1, a.mc, a.next ++ [cand], [], false⟩
  /-- a candidate that does not resolve recursively either is dropped -/
  | dropSlow (a : LoopArgs) (st1 : St) (cand : Name) : a.locally = false → a.cands.getLast? = some cand →
      LoopNext cfg q a ⟨st1, a.mc, a.cands.dropLast, a.next, false⟩
  /-- a referral is followed: it is for a zone that encloses the question name and has strictly
      more labels than the delegation in use; its (non-empty) host set replaces the candidates -/
  | referral (a : LoopArgs) (st3 : St) (zone : Name) (hosts : List Name) :
      zone.labels.length > a.mc → q.name.isSubdomainOf zone = true → hosts ≠ [] →
      LoopNext cfg q a ⟨st3, zone.labels.length, cfg.hostOrder hosts, [], true⟩

/-- the iteration ends the loop: with an error, an answer, or by handing over to
    `resolveCombined` for an alias. -/
def LoopEnds (cfg : RecCfg) (fuel : Nat) (q : Question) (r : St × Except ResolutionError ResolvedRecord) : Prop :=
  (∃ st', r = (st', .error .timeout)) ∨ (∃ st', r = (st', .error (.deadEnd q))) ∨
  (∃ st' rrs soa, r = (st', .ok (.nonAuthoritative rrs soa))) ∨
  (∃ st3 rrs cname, r = resolveCombined cfg fuel st3 rrs { name := cname, qclass := q.qclass, qtype := q.qtype })

theorem candidateLoop_next (cfg : RecCfg) (fuel : Nat) (q : Question) (combined : List RR) (a : LoopArgs) :
    LoopEnds cfg fuel q (candidateLoop cfg (fuel + 1) a.st q combined a.mc a.cands a.next a.locally) ∨
    ∃ a', LoopNext cfg q a a' ∧
      candidateLoop cfg (fuel + 1) a.st q combined a.mc a.cands a.next a.locally =
        candidateLoop cfg fuel a'.st q combined a'.mc a'.cands a'.next a'.locally := by
  obtain ⟨st, mc, cands, next, locally⟩ := a
  apply candidateLoop_cases (motive := fun out => LoopEnds cfg fuel q out ∨ ∃ a', LoopNext cfg q ⟨st, mc, cands, next, locally⟩ a' ∧
    out = candidateLoop cfg fuel a'.st q combined a'.mc a'.cands a'.next a'.locally)
  case timedOut => exact fun _ => .inl (.inl ⟨_, rfl⟩)
  case noCandidate => exact fun _ _ => .inl (.inr (.inl ⟨_, rfl⟩))
  case lookupTimedOut => exact fun _ _ _ _ _ _ _ => .inl (.inl ⟨_, rfl⟩)
  case queryTimedOut => exact fun _ _ _ _ _ _ _ _ => .inl (.inl ⟨_, rfl⟩)
  case noAddr =>
    intro cand st1 _ hcand _ _
    cases locally with
    | false => exact .inr ⟨_, .dropSlow ⟨st, mc, cands, next, false⟩ st1 cand rfl hcand, rfl⟩
    | true =>
      cases he : cands.dropLast.isEmpty with
      | true => exact .inr ⟨_, .switchSlow ⟨st, mc, cands, next, true⟩ st1 cand rfl hcand he, loopNoAddr_switchSlow he⟩
      | false => exact .inr ⟨_, .skipFast ⟨st, mc, cands, next, true⟩ st1 cand rfl hcand he, loopNoAddr_skipFast he⟩
  case reply =>
    intro cand st1 addr _ _ _ _ _
    cases hresp : (queryNameserver cfg.oracle st1.run addr cfg.port q false).2.bind
        (fun res => validateNameserverResponse q res mc) with
    | none => exact .inl (.inr (.inl ⟨_, rfl⟩))
    | some resp =>
      cases resp with
      | answer rrs soa => exact .inl (.inr (.inr (.inl ⟨_, _, _, rfl⟩)))
      | cname rrs c => exact .inl (.inr (.inr (.inr ⟨_, _, _, rfl⟩)))
      | delegation rrs hs zone =>
        cases hg : glueFor q rrs with
        | some rr => rw [loopAfterReply_glue _ _ _ _ hs zone hg]; exact .inl (.inr (.inr (.inl ⟨_, _, _, rfl⟩)))
        | none =>
          obtain ⟨closer, sub, ne⟩ := query_validated_referral hresp
          exact .inr ⟨_, LoopNext.referral ⟨st, mc, cands, next, locally⟩ _ zone hs closer sub ne,
            loopAfterReply_follow _ _ _ _ hs zone hg⟩

/-! ## A measure every iteration decreases -/

/-- iterations left before the candidates of the current delegation are used up: while addresses are
    looked up locally a candidate costs one iteration now and, set aside, one more when it is resolved
    recursively (`2 · cands`), those already set aside one each (`next`); the `+ 1` is slack. -/
def LoopArgs.width (a : LoopArgs) : Nat :=
  if a.locally then 2 * a.cands.length + a.next.length + 1 else a.cands.length

/-- `(labels − mc) · (2H + 2) + width`: with at most `H` hosts per referral it strictly decreases with
    every iteration. -/
def LoopArgs.measure (L H : Nat) (a : LoopArgs) : Nat := (L - a.mc) * (2 * H + 2) + a.width

theorem LoopNext.cases {cfg : RecCfg} {q : Question} {a a' : LoopArgs} (h : LoopNext cfg q a a') :
    (a'.mc = a.mc ∧ a'.width < a.width) ∨
    (a.mc < a'.mc ∧ a'.mc ≤ q.name.labels.length ∧ a'.width = 2 * a'.cands.length + 1 ∧
      (∃ hosts, a'.cands = cfg.hostOrder hosts) ∧
      ∃ zone : Name, a'.mc = zone.labels.length ∧ q.name.isSubdomainOf zone = true) := by
  cases h with
  | skipFast st1 cand hl hc he =>
    refine Or.inl ⟨rfl, ?_⟩
    cases hcs : a.cands with
    | nil => rw [hcs] at hc; cases hc
    | cons x xs =>
      simp only [LoopArgs.width, hl, hcs, if_true, List.length_dropLast, List.length_append, List.length_cons,
        List.length_nil, Nat.zero_add, Nat.add_sub_cancel]
      rw [Nat.mul_succ, Nat.add_right_comm (2 * xs.length) 2]
      exact Nat.lt_succ_self _
  | switchSlow st1 cand hl hc he =>
    refine Or.inl ⟨rfl, ?_⟩
    cases hcs : a.cands with
    | nil => rw [hcs] at hc; cases hc
    | cons x xs =>
      simp only [LoopArgs.width, hl, hcs, if_true, Bool.false_eq_true, if_false, List.length_append,
        List.length_cons, List.length_nil, Nat.zero_add]
      rw [Nat.mul_succ, Nat.add_right_comm (2 * xs.length) 2]
      exact Nat.succ_lt_succ (Nat.lt_succ_of_le (Nat.le_succ_of_le (Nat.le_add_left _ _)))
  | dropSlow st1 cand hl hc =>
    refine Or.inl ⟨rfl, ?_⟩
    cases hcs : a.cands with
    | nil => rw [hcs] at hc; cases hc
    | cons x xs =>
      simp only [LoopArgs.width, hl, hcs, Bool.false_eq_true, if_false, List.length_dropLast, List.length_cons,
        Nat.add_sub_cancel]
      exact Nat.lt_succ_self _
  | referral st3 zone hosts h1 h2 h3 =>
    exact Or.inr ⟨h1, (Name.isSubdomainOf_iff.mp h2).length_le, rfl, ⟨hosts, rfl⟩, zone, rfl, h2⟩

theorem loopMeasure_fresh {d X H h : Nat} (hd : d ≤ X) (hh : h ≤ H) :
    d * (2 * H + 2) + (2 * h + 1) < (X + 1) * (2 * H + 2) := by
  rw [Nat.succ_mul X]
  exact Nat.add_lt_add_of_le_of_lt (Nat.mul_le_mul_right _ hd)
    (Nat.succ_lt_succ (Nat.lt_succ_of_le (Nat.mul_le_mul_left 2 hh)))

/-- of the host order only the bound on the host set a referral step actually starts on is needed. -/
theorem LoopNext.measure_lt_of {cfg : RecCfg} {q : Question} {a a' : LoopArgs} (H : Nat)
    (h : LoopNext cfg q a a') (hH : a.mc < a'.mc → a'.cands.length ≤ H) :
    a'.measure q.name.labels.length H < a.measure q.name.labels.length H := by
  show (_ - a'.mc) * _ + a'.width < (_ - a.mc) * _ + a.width
  rcases h.cases with ⟨hm, hw⟩ | ⟨h1, h2, hw, _⟩
  · rw [hm]; exact Nat.add_lt_add_left hw _
  · rw [hw]
    exact Nat.lt_of_lt_of_le (loopMeasure_fresh (Nat.le_refl _) (hH h1))
      (Nat.le_trans (Nat.mul_le_mul_right _ (Nat.sub_lt_sub_left (Nat.lt_of_lt_of_le h1 h2) h1))
        (Nat.le_add_right _ _))

theorem LoopNext.measure_lt {cfg : RecCfg} {q : Question} {a a' : LoopArgs} (H : Nat)
    (hH : ∀ hs, (cfg.hostOrder hs).length ≤ H) (h : LoopNext cfg q a a') :
    a'.measure q.name.labels.length H < a.measure q.name.labels.length H := by
  refine h.measure_lt_of H fun hlt => ?_
  rcases h.cases with ⟨hm, _⟩ | ⟨_, _, _, ⟨hosts, hc⟩, _⟩
  · exact absurd hlt (hm ▸ Nat.lt_irrefl _)
  · rw [hc]; exact hH hosts

/-! ## The depth of the delegation in use; runs of steps -/

theorem LoopNext.mc_mono {cfg : RecCfg} {q : Question} {a a' : LoopArgs} (h : LoopNext cfg q a a') :
    a.mc ≤ a'.mc ∧ (a.mc ≤ q.name.labels.length → a'.mc ≤ q.name.labels.length) := by
  rcases h.cases with ⟨hm, _⟩ | ⟨h1, h2, _⟩
  · rw [hm]; exact ⟨Nat.le_refl _, id⟩
  · exact ⟨Nat.le_of_lt h1, fun _ => h2⟩

/-- runs of steps, uncounted (the statement of `C07_match_count_increases`); `LoopChain` below is the counted form,
    built from the front, that `candidateLoop_chain` produces; every such chain is a run of steps
    (`LoopChain.steps`). -/
inductive LoopSteps (cfg : RecCfg) (q : Question) : LoopArgs → LoopArgs → Prop
  | refl (a : LoopArgs) : LoopSteps cfg q a a
  | step {a b c : LoopArgs} : LoopSteps cfg q a b → LoopNext cfg q b c → LoopSteps cfg q a c

inductive LoopChain (cfg : RecCfg) (q : Question) : LoopArgs → Nat → LoopArgs → Prop
  | nil (a : LoopArgs) : LoopChain cfg q a 0 a
  | cons {a b c : LoopArgs} {k : Nat} : LoopNext cfg q a b → LoopChain cfg q b k c → LoopChain cfg q a (k + 1) c

theorem LoopSteps.head {cfg : RecCfg} {q : Question} {a b c : LoopArgs} (h : LoopNext cfg q a b)
    (hs : LoopSteps cfg q b c) : LoopSteps cfg q a c := by
  induction hs with
  | refl => exact .step (.refl a) h
  | step _ hn ih => exact .step ih hn

theorem LoopChain.steps {cfg : RecCfg} {q : Question} {a c : LoopArgs} {k : Nat} (h : LoopChain cfg q a k c) :
    LoopSteps cfg q a c := by
  induction h with
  | nil a => exact .refl a
  | cons hn _ ih => exact ih.head hn

theorem LoopChain.length_le {cfg : RecCfg} {q : Question} {a c : LoopArgs} {k : Nat} (H : Nat)
    (hH : ∀ hs, (cfg.hostOrder hs).length ≤ H) (h : LoopChain cfg q a k c) :
    k + c.measure q.name.labels.length H ≤ a.measure q.name.labels.length H := by
  induction h with
  | nil a => exact Nat.le_of_eq (Nat.zero_add _)
  | cons hn _ ih =>
    rw [Nat.add_right_comm]
    exact Nat.le_trans (Nat.succ_le_succ ih) (hn.measure_lt H hH)

theorem candidateLoop_chain (cfg : RecCfg) (q : Question) (combined : List RR) : ∀ (n : Nat) (a : LoopArgs),
    ∃ (k : Nat) (a' : LoopArgs), k ≤ n ∧ LoopChain cfg q a k a' ∧
      candidateLoop cfg n a.st q combined a.mc a.cands a.next a.locally =
        candidateLoop cfg (n - k) a'.st q combined a'.mc a'.cands a'.next a'.locally ∧
      (n - k = 0 ∨ ∃ m, n - k = m + 1 ∧
        LoopEnds cfg m q (candidateLoop cfg (m + 1) a'.st q combined a'.mc a'.cands a'.next a'.locally)) := by
  intro n
  induction n with
  | zero => intro a; exact ⟨0, a, Nat.le_refl _, LoopChain.nil a, rfl, Or.inl rfl⟩
  | succ n ih =>
    intro a
    rcases candidateLoop_next cfg n q combined a with hend | ⟨a1, hn, he⟩
    · exact ⟨0, a, Nat.zero_le _, LoopChain.nil a, rfl, Or.inr ⟨n, rfl, hend⟩⟩
    · obtain ⟨k, a', hk, hc, hv, hfin⟩ := ih a1
      refine ⟨k + 1, a', Nat.succ_le_succ hk, LoopChain.cons hn hc, ?_, ?_⟩
      · rw [he, hv, Nat.add_sub_add_right]
      · rw [Nat.add_sub_add_right]
        exact hfin

/-! ## Every authoritative result is the finished result of the local lookup (C01) -/

def ResolvedRecord.isNonAuth : ResolvedRecord → Prop
  | .nonAuthoritative _ _ => True
  | _ => False

theorem resolveCombined_ok_nonauth (cfg : RecCfg) (fuel : Nat) (st : St) (rrs : List RR) (q : Question)
    {r : ResolvedRecord} (h : (resolveCombined cfg fuel st rrs q).2 = .ok r) : r.isNonAuth := by
  cases fuel with
  | zero => rw [resolveCombined_zero] at h; cases h
  | succ n =>
    rw [resolveCombined_succ] at h
    obtain ⟨_, _, rfl⟩ := combinedResult_ok h
    trivial

theorem candidateLoop_ok_nonauth (cfg : RecCfg) (fuel : Nat) (st : St) (q : Question) (combined : List RR)
    (mc : Nat) (cands next : List Name) (locally : Bool) {r : ResolvedRecord}
    (h : (candidateLoop cfg fuel st q combined mc cands next locally).2 = .ok r) : r.isNonAuth := by
  obtain ⟨k, a', _, _, hv, hfin⟩ := candidateLoop_chain cfg q combined fuel ⟨st, mc, cands, next, locally⟩
  rw [show candidateLoop cfg fuel st q combined mc cands next locally = _ from hv] at h
  rcases hfin with h0 | ⟨m, hm, he⟩
  · rw [h0, candidateLoop_zero] at h; cases h
  · rw [hm] at h
    rcases he with ⟨_, e⟩ | ⟨_, e⟩ | ⟨_, _, _, e⟩ | ⟨_, _, _, e⟩ <;> rw [e] at h
    · cases h
    · cases h
    · cases h; trivial
    · exact resolveCombined_ok_nonauth _ _ _ _ _ h

theorem resolveRec_ok (cfg : RecCfg) (fuel : Nat) (st : St) (q : Question) {r : ResolvedRecord}
    (h : (resolveRec cfg fuel st q).2 = .ok r) :
    (resolveLocal (RECURSION_LIMIT + 1) st.ctx q).2 = .ok (.done r) ∨ r.isNonAuth := by
  cases fuel with
  | zero => rw [resolveRec_zero] at h; cases h
  | succ n =>
    rw [resolveRec_succ] at h
    revert h
    apply machineEntry_cases (motive := fun x => x.2 = .ok r → _ ∨ r.isNonAuth)
    case done => exact fun _ _ hloc h => .inl (Except.ok.inj h ▸ hloc)
    case goOn =>
      refine fun _ _ _ => ⟨fun _ _ _ h => .inr (resolveCombined_ok_nonauth _ _ _ _ _ h), fun _ _ => ?_⟩
      rcases recUpstream_cases cfg n _ q _ with ⟨_, _, e⟩ | ⟨_, _, _, e⟩ <;> rw [e]
      · nofun
      · exact fun h => .inr (candidateLoop_ok_nonauth _ _ _ _ _ _ _ _ _ h)
    -- the three guards end in an error
    all_goals intros; rename_i h; cases h

theorem resolveFwd_ok (cfg : FwdCfg) (fuel : Nat) (st : St) (q : Question) {r : ResolvedRecord}
    (h : (resolveFwd cfg fuel st q).2 = .ok r) :
    (resolveLocal (RECURSION_LIMIT + 1) st.ctx q).2 = .ok (.done r) ∨ r.isNonAuth := by
  cases fuel with
  | zero => rw [resolveFwd_zero] at h; cases h
  | succ n =>
    rw [resolveFwd_succ] at h
    revert h
    apply machineEntry_cases (motive := fun x => x.2 = .ok r → _ ∨ r.isNonAuth)
    case done => exact fun _ _ hloc h => .inl (Except.ok.inj h ▸ hloc)
    case goOn =>
      refine fun _ _ _ => ⟨fun _ _ _ h => ?_, fun _ _ => ?_⟩
      · obtain ⟨_, _, rfl⟩ := combinedResult_ok h
        exact .inr trivial
      · rcases fwdUpstream_cases cfg _ q _ with ⟨_, e⟩ | ⟨_, e⟩ | ⟨_, _, _, e⟩ <;> rw [e]
        · nofun
        · nofun
        · exact fun h => .inr (Except.ok.inj h ▸ trivial)
    -- the three guards end in an error
    all_goals intros; rename_i h; cases h

theorem resolveRecursive_ok (cfg : RecCfg) (ctx : Ctx) (q : Question) (r : ResolvedRecord)
    (h : (resolveRecursive cfg ctx q).2 = .ok r) :
    (resolveLocal (RECURSION_LIMIT + 1) ctx q).2 = .ok (.done r) ∨ r.isNonAuth :=
  resolveRec_ok cfg REC_FUEL ⟨ctx, Run.empty⟩ q (resolveRecursive_of_ok h ▸ h)

theorem resolveForwarding_ok (cfg : FwdCfg) (ctx : Ctx) (q : Question) (r : ResolvedRecord)
    (h : (resolveForwarding cfg ctx q).2 = .ok r) :
    (resolveLocal (RECURSION_LIMIT + 1) ctx q).2 = .ok (.done r) ∨ r.isNonAuth :=
  resolveFwd_ok cfg REC_FUEL ⟨ctx, Run.empty⟩ q (resolveForwarding_of_ok h ▸ h)

end Resolved
