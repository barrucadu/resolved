/-
  What the two local data sources hand to `resolve_local` (C01 / C10): zone verdicts are owned by the
  query name and, when the record maps are keyed consistently (`ZNode.Typed`), typed as asked; cache
  reads (owned by the looked-up name: `cacheGet_owner`, CacheStore) are typed as asked under I6
  (`CacheTyped`, kept by insertions and reads).
-/
import Resolved.Proofs.ZoneBasics
import Resolved.Proofs.CacheStore

namespace Resolved

open Gen

/-! ## zones -/

/-- the record sets under key `k` hold records of type `k` (as `insert` / `merge` build them). -/
def RecMapTyped (m : RecMap) : Prop := ∀ k zrs, m.get k = some zrs → ∀ zr ∈ zrs, zr.rtype = k

def ZNode.Typed (node : ZNode) : Prop :=
  ∀ p n, node.descend p = some n → RecMapTyped n.this ∧ ∀ ws, n.wildcards = some ws → RecMapTyped ws

def ZoneResult.rrs : ZoneResult → List RR
  | .answer rrs => rrs
  | .cname _ rr => [rr]
  | .delegation rrs => rrs
  | .nameError => []
  | .panic => []

/-- the shape every zone verdict has: answers and aliases are owned by the query name. -/
structure ZoneResultOwned (name : Name) (zr : ZoneResult) : Prop where
  answer : ∀ rrs, zr = .answer rrs → ∀ rr ∈ rrs, rr.name = name
  cname : ∀ c rr, zr = .cname c rr → rr.name = name ∧ rr.fields = [.name c]
  delegation : ∀ rrs, zr = .delegation rrs → rrs ≠ [] ∧ ∀ rr ∈ rrs, ∀ rr' ∈ rrs, rr.name = rr'.name

/-- the record types a zone verdict carries when the record maps are keyed consistently (`VerdictFrom.typed`). -/
structure ZoneResultTyped (qtype : Nat) (zr : ZoneResult) : Prop where
  answer : ∀ rrs, zr = .answer rrs → qtype ≠ QTYPE_WILDCARD → ∀ rr ∈ rrs, rr.rtype = qtype
  cname : ∀ c rr, zr = .cname c rr → rr.rtype = RT_CNAME
  delegation : ∀ rrs, zr = .delegation rrs → ∀ rr ∈ rrs, rr.rtype = RT_NS

theorem VerdictFrom.owned {recs : RecMap} {name nsd : Name} {qtype : Nat} {zr : ZoneResult}
    (hv : VerdictFrom recs name qtype nsd zr) : ZoneResultOwned name zr := by
  refine ⟨fun rrs h rr hrr => ?_, fun c rr h => ?_, fun rrs h => ?_⟩
  · obtain ⟨_, _, z, _, _, he, _⟩ := hv.answer rrs h rr hrr
    rw [he]; rfl
  · obtain ⟨z, zs, _, hf, he, _⟩ := hv.cname c rr h
    rw [he]; exact ⟨rfl, hf⟩
  · obtain ⟨z, zs, _, rfl⟩ := hv.delegation rrs h
    refine ⟨by simp, fun rr hrr rr' hrr' => ?_⟩
    obtain ⟨a, _, rfl⟩ := List.mem_map.mp hrr
    obtain ⟨b, _, rfl⟩ := List.mem_map.mp hrr'
    rfl

theorem ZNode.typed_iff_stores {node : ZNode} :
    node.Typed ↔ ∀ recs, node.Stores recs → RecMapTyped recs :=
  ZNode.forall_stores_iff.symm

/-- the record maps are keyed consistently when a check over all nodes says so (for literal trees:
    `by decide`). -/
theorem ZNode.typed_of_nodeAll {node : ZNode}
    (h : fb_nodeAll (fun m => m.all fun kv => kv.2.all (·.rtype == kv.1)) node = true) : node.Typed :=
  ZNode.typed_iff_stores.mpr fun recs hs k zrs hg zr hzr => beq_iff_eq.mp
    (List.all_eq_true.mp (List.all_eq_true.mp (fb_nodeAll_stores h recs hs) (k, zrs) (RecMap.get_mem hg)) zr hzr)

theorem VerdictFrom.typed {recs : RecMap} {name nsd : Name} {qtype : Nat} {zr : ZoneResult}
    (hrt : RecMapTyped recs) (hv : VerdictFrom recs name qtype nsd zr) : ZoneResultTyped qtype zr := by
  refine ⟨fun rrs h hq rr hrr => ?_, fun c rr h => ?_, fun rrs h rr hrr => ?_⟩
  · rcases qtype_cases qtype with ⟨h0, _⟩ | ⟨h0, _⟩ | ⟨s, _, _, h0⟩
    · obtain ⟨zrs, hg, rfl⟩ := hv.answerTyped rrs h h0 (List.ne_nil_of_mem hrr)
      obtain ⟨z, hz, rfl⟩ := List.mem_map.mp hrr
      exact hrt qtype zrs hg z hz
    · exact absurd (lookupNat_qt_eq_wildcard_iff.mp h0) hq
    · obtain ⟨k, _, _, _, _, _, hm⟩ := hv.answer rrs h rr hrr
      rw [h0] at hm; cases hm
  · obtain ⟨z, zs, hg, _, he, _⟩ := hv.cname c rr h
    rw [he]; exact hrt RT_CNAME _ hg z List.mem_cons_self
  · obtain ⟨z, zs, hg, rfl⟩ := hv.delegation rrs h
    obtain ⟨a, ha, rfl⟩ := List.mem_map.mp hrr
    exact hrt RT_NS _ hg a ha

def ZonesTyped (zs : Zones) : Prop := ∀ name z, zs.get name = some z → z.records.Typed

/-- the hypothesis of `C10_local_chain` on the zones: answers carry records of the asked type, alias
    verdicts carry a CNAME record, referrals NS records. -/
def ZoneAnswersTyped (zs : Zones) : Prop :=
  ∀ name qtype z zr, zs.resolve name qtype = some (z, some zr) → ZoneResultTyped qtype zr

theorem Zones.resolve_owned {zs : Zones} {name : Name} {qtype : Nat} {z : Zone} {zr : ZoneResult}
    (h : zs.resolve name qtype = some (z, some zr)) : ZoneResultOwned name zr :=
  have ⟨_, _, _, _, hv⟩ := Zones.resolve_from h
  hv.owned

theorem Zones.resolve_no_cname {zs : Zones} {name : Name} {qtype : Nat} {z : Zone} {c : Name} {rr : RR}
    (hq : rtypeMatches RT_CNAME qtype = true) : zs.resolve name qtype ≠ some (z, some (.cname c rr)) := by
  intro h
  obtain ⟨_, _, _, _, hv⟩ := Zones.resolve_from h
  obtain ⟨_, _, _, _, _, hm⟩ := hv.cname c rr rfl
  rw [hq] at hm; cases hm

theorem zoneAnswersTyped_of_typed {zs : Zones} (h : ZonesTyped zs) : ZoneAnswersTyped zs := by
  intro name qtype z zr hz
  obtain ⟨hg, recs, _, hs, hv⟩ := Zones.resolve_from hz
  exact hv.typed (ZNode.typed_iff_stores.mp (h name z hg) recs hs)

/-! ## cache -/

/-- the hypothesis of `C10_local_chain` on the cache: clause I6 of the cache invariant (`Inv`,
    Proofs/CacheInv), the tuples stored under record key `rk` hold records of type `rk`. -/
def CacheTyped (c : PCache) : Prop :=
  ∀ k p, PCache.getPartition c.partitions k = some p →
    ∀ rk ts, PCache.getTuples p.records rk = some ts → ∀ t ∈ ts, t.1.rtype = rk

theorem cacheTyped_iff (c : PCache) :
    CacheTyped c ↔ ∀ k rk, ∀ t ∈ tuplesAt c k rk, t.1.rtype = rk := by
  constructor
  · intro h k rk t ht
    cases hp : AL.get c.partitions k with
    | none => rw [tuplesAt_of_none hp] at ht; cases ht
    | some p =>
      rw [tuplesAt_of_get hp] at ht
      cases hts : AL.get p.records rk with
      | none => rw [hts] at ht; cases ht
      | some ts => rw [hts] at ht; exact h k p (by rwa [getPartition_eq]) rk ts (by rwa [getTuples_eq]) t ht
  · intro h k p hp rk ts hts t ht
    rw [getPartition_eq] at hp
    rw [getTuples_eq] at hts
    exact h k rk t (by rw [tuplesAt_of_get hp, hts]; exact ht)

theorem Inv.cacheTyped {c : PCache} (h : Inv c) : CacheTyped c :=
  (cacheTyped_iff c).mpr h.tuplesAt_rtype

theorem cacheTyped_new (n : Nat) : CacheTyped (PCache.new n) := by
  intro k p h; simp [PCache.new] at h

theorem sharedInsertAll_typed (rrs : List RR) (now : Nat) : ∀ {c : PCache}, CacheTyped c →
    CacheTyped (sharedInsertAll c rrs now) := fun {c} h =>
  (cacheTyped_iff _).mpr
    (Stored.sharedInsertAll (P := fun _ rk t => t.1.rtype = rk) ((cacheTyped_iff c).mp h) fun _ _ _ => rfl)

theorem cacheGet_typed {c : PCache} (h : CacheTyped c) (name : Name) (qtype now : Nat) :
    CacheTyped (cacheGet c name qtype now).1 ∧
      (qtype ≠ QTYPE_WILDCARD → ∀ rr ∈ (cacheGet c name qtype now).2, rr.rtype = qtype) := by
  have hst := (cacheTyped_iff c).1 h
  refine ⟨(cacheTyped_iff _).2 (Stored.touches (P := fun _ rk t => t.1.rtype = rk) hst
    (cacheGetUnchecked_touches c name qtype now)), fun hne rr hrr => ?_⟩
  obtain ⟨t, ht, _, rfl⟩ := mem_cacheGet.mp hrr
  rcases qtype_cases qtype with ⟨hq, _⟩ | ⟨hq, _⟩ | ⟨s, hq, hs, _⟩
  · exact hst name qtype t (hits_typed hq ▸ ht)
  · exact absurd (lookupNat_qt_eq_wildcard_iff.mp hq) hne
  · rw [hits_other hq hs] at ht; cases ht

end Resolved
