/-
  Encoder/decoder round trip (C04): RDATA fields, resource records (with the RDLENGTH back-patch),
  questions and sections are read back by the decoder; what a successful `encodeMessage` went
  through (`encodeMessage_ok_iff`), its twelve header octets, and that every encoder step only appends.
  The round trip of the whole message is `C04_roundtrip` (Props/C04.lean).
-/
import Resolved.Proofs.WireEncodeName

namespace Resolved

open Gen

/-- `dec`, started at the old end of `b` on the octets of `b'` or on any extension of them, returns `a` and stops at
    the end of `b'`.  The `∀ post` is the point: what was written reads back whatever is written after it, so the
    read-back of a part carries over to the whole message (`Reads.ext`). -/
def Reads {α} (dec : List UInt8 → Nat → Except DErr (α × Nat)) (b b' : WBuf) (a : α) : Prop :=
  ∀ post, dec (b'.octets ++ post) b.octets.length = .ok (a, b'.octets.length)

theorem Reads.ext {α} {dec : List UInt8 → Nat → Except DErr (α × Nat)} {b b' b'' : WBuf} {a : α}
    (h : Reads dec b b' a) (he : Ext b' b'') (post : List UInt8) :
    dec (b''.octets ++ post) b.octets.length = .ok (a, b'.octets.length) := by
  obtain ⟨y, hy⟩ := he
  rw [hy, List.append_assoc]; exact h _

/-! ## Integers written by the encoder -/

theorem writeU16_length (b : WBuf) (v : Nat) :
    (b.writeU16 v).octets.length = b.octets.length + 2 := List.length_append
theorem writeU32_length (b : WBuf) (v : Nat) :
    (b.writeU32 v).octets.length = b.octets.length + 4 := List.length_append

theorem nextU16_ext (b : WBuf) (v : Nat) (hv : v < 65536) {b' : WBuf} (he : Ext (b.writeU16 v) b')
    (post : List UInt8) :
    nextU16 (b'.octets ++ post) b.octets.length = some (v, b.octets.length + 2) := by
  obtain ⟨y, hy⟩ := he
  rw [hy, List.append_assoc]
  exact nextU16_at _ _ _ hv

theorem nextU32_ext (b : WBuf) (v : Nat) (hv : v < 4294967296) {b' : WBuf}
    (he : Ext (b.writeU32 v) b') (post : List UInt8) :
    nextU32 (b'.octets ++ post) b.octets.length = some (v, b.octets.length + 4) := by
  obtain ⟨y, hy⟩ := he
  rw [hy, List.append_assoc]
  exact nextU32_at _ _ _ hv

/-! ## IPv6 groups; the three shapes of `encodeField` -/

def groupBytes : List Nat → List UInt8
  | [] => []
  | g :: gs => u16Bytes g ++ groupBytes gs

theorem groupBytes_length (gs : List Nat) : (groupBytes gs).length = 2 * gs.length := by
  induction gs with
  | nil => rfl
  | cons g gs ih => simp [groupBytes, ih]; omega

theorem writeGroups_eq (b : WBuf) (gs : List Nat) :
    writeGroups b gs = ⟨b.octets ++ groupBytes gs, b.namePointers⟩ := by
  induction gs generalizing b with
  | nil => simp [writeGroups, groupBytes]
  | cons g gs ih => simp [writeGroups, groupBytes, ih, WBuf.writeU16, WBuf.writeOctets]

theorem decodeGroups_at (id : Nat) (gs : List Nat) :
    ∀ (pre post : List UInt8), (∀ g ∈ gs, g < 65536) →
    decodeGroups id (pre ++ groupBytes gs ++ post) gs.length pre.length
      = .ok (gs, pre.length + 2 * gs.length) := by
  induction gs with
  | nil => intro pre post _; rfl
  | cons g gs ih =>
    intro pre post h
    have ih' := ih (pre ++ u16Bytes g) post (fun x hx => h x (List.mem_cons_of_mem _ hx))
    rw [List.length_append, u16Bytes_length] at ih'
    have e : pre ++ groupBytes (g :: gs) ++ post = pre ++ u16Bytes g ++ groupBytes gs ++ post := by
      simp only [groupBytes, List.append_assoc]
    rw [e] at ⊢
    rw [List.length_cons, decodeGroups, List.append_assoc (pre ++ u16Bytes g),
      nextU16_at pre _ g (h g List.mem_cons_self)]
    simp only
    rw [← List.append_assoc, ih', Nat.mul_add, Nat.add_assoc, Nat.add_comm 2]

/-- For any `f`, `v`: nothing is written (the value does not fit the field), or octets that do not depend on the
    buffer, or `encodeName`.  `encodeField_wf_shape` is the refinement on well-formed values. -/
theorem encodeField_shape (f : Field) (v : FieldVal) :
    (∀ b, encodeField b f v = b) ∨ (∃ x, ∀ b, encodeField b f v = b.writeOctets x) ∨
    (∃ n c, ∀ b, encodeField b f v = encodeName b n c) := by
  induction f, v using encodeField.fun_cases with
  | case1 n | case2 n | case3 n | case5 bs => exact .inr (.inl ⟨_, fun _ => rfl⟩)
  | case4 gs => exact .inr (.inl ⟨_, fun b => writeGroups_eq b gs⟩)
  | case6 c n => exact .inr (.inr ⟨n, c, fun _ => rfl⟩)
  | case7 f v h1 h2 h3 h4 h5 h6 => exact .inl fun b => encodeField.eq_7 b f v h1 h2 h3 h4 h5 h6

/-! ## One RDATA field -/

theorem encodeName_reads (b : WBuf) (n : Name) (c : Bool) (hinv : NameInv b) (hwf : NameWF n)
    (id : Nat) : Reads (decodeName id) b (encodeName b n c) n :=
  fun post => decodeNameLoop_of_wireName id (encodeName_wireName b n c hinv hwf post) hwf.len_le

/-- What a well-formed field value writes: a name, or octets that do not depend on the buffer, are at most
    `fieldMaxLen f` many, and read back as the value wherever they stand. -/
theorem encodeField_wf_shape {f : Field} {v : FieldVal} (hwf : FieldValWF f v) :
    (∃ n c, NameWF n ∧ f = .name c ∧ v = .name n) ∨
    ∃ x, (∀ b, encodeField b f v = b.writeOctets x) ∧ x.length ≤ fieldMaxLen f ∧
      ∀ id rdl pre post, (f = .opaque → rdl = x.length) →
        decodeField id (pre ++ x ++ post) rdl f pre.length = .ok (v, pre.length + x.length) := by
  induction f, v using FieldValWF.fun_cases with
  | case1 n =>
    exact .inr ⟨u16Bytes n, fun _ => rfl, Nat.le_refl _, fun id rdl pre post _ => by
      simp only [decodeField, nextU16_at pre post n hwf, orRRShort, Except.map, u16Bytes_length]⟩
  | case2 n | case3 n =>
    exact .inr ⟨u32Bytes n, fun _ => rfl, Nat.le_refl _, fun id rdl pre post _ => by
      simp only [decodeField, nextU32_at pre post n hwf, orRRShort, Except.map, u32Bytes_length]⟩
  | case4 gs =>
    refine .inr ⟨groupBytes gs, fun b => writeGroups_eq b gs, by rw [groupBytes_length, hwf.1]; decide,
      fun id rdl pre post _ => ?_⟩
    have := decodeGroups_at id gs pre post hwf.2
    rw [hwf.1] at this
    simp only [decodeField, this, Except.map, groupBytes_length, hwf.1]
  | case5 bs =>
    refine .inr ⟨bs, fun _ => rfl, Nat.le_of_lt_succ hwf, fun id rdl pre post hrdl => ?_⟩
    rw [hrdl rfl]
    simp only [decodeField, takeN_at, orRRShort, Except.map]
  | case6 c n => exact .inl ⟨n, c, hwf, rfl, rfl⟩
  | case7 f v h1 h2 h3 h4 h5 h6 => exact (FieldValWF.eq_7 f v h1 h2 h3 h4 h5 h6 ▸ hwf).elim

theorem encodeField_roundtrip (b : WBuf) (f : Field) (v : FieldVal) (hinv : NameInv b)
    (hwf : FieldValWF f v) :
    NameInv (encodeField b f v) ∧
    ∀ id rdl, (f = .opaque → rdl = (encodeField b f v).octets.length - b.octets.length) →
      Reads (fun buf pos => decodeField id buf rdl f pos) b (encodeField b f v) v := by
  rcases encodeField_wf_shape hwf with ⟨n, c, hn, rfl, rfl⟩ | ⟨x, hx, _, hread⟩
  · exact ⟨hinv.encodeName hn c, fun id rdl _ post => by
      simp only [encodeField, decodeField, encodeName_reads b n c hinv hn id post, Except.map]⟩
  · rw [hx]
    refine ⟨hinv.writeOctets x, fun id rdl hrdl post => ?_⟩
    have := hread id rdl b.octets post fun h => by
      rw [hrdl h]; simp only [WBuf.writeOctets, List.length_append, Nat.add_sub_cancel_left]
    simpa only [WBuf.writeOctets, List.length_append] using this

/-! ## The encoder looks at the octets written so far only through their number

This is what makes the RDLENGTH back-patch harmless: writing the RDATA after a `00 00`
placeholder and patching, or after the final RDLENGTH, gives the same octets and table. -/

/-- two buffers the encoder cannot tell apart: same pointer table, same number of octets -/
def Sim (b1 b2 : WBuf) : Prop :=
  b1.namePointers = b2.namePointers ∧ b1.octets.length = b2.octets.length

def SimRes (b1 b2 b1' b2' : WBuf) : Prop :=
  ∃ x, b1'.octets = b1.octets ++ x ∧ b2'.octets = b2.octets ++ x ∧
    b1'.namePointers = b2'.namePointers

theorem SimRes.sim {b1 b2 b1' b2' : WBuf} (h : Sim b1 b2) (r : SimRes b1 b2 b1' b2') :
    Sim b1' b2' := by
  obtain ⟨x, h1, h2, h3⟩ := r
  exact ⟨h3, by rw [h1, h2, List.length_append, List.length_append, h.2]⟩

theorem SimRes.trans {b1 b2 b1' b2' b1'' b2'' : WBuf} (r : SimRes b1 b2 b1' b2')
    (r' : SimRes b1' b2' b1'' b2'') : SimRes b1 b2 b1'' b2'' := by
  obtain ⟨x, h1, h2, _⟩ := r
  obtain ⟨y, h1', h2', h3'⟩ := r'
  exact ⟨x ++ y, by rw [h1', h1, List.append_assoc], by rw [h2', h2, List.append_assoc], h3'⟩

theorem SimRes.refl {b1 b2 : WBuf} (h : Sim b1 b2) : SimRes b1 b2 b1 b2 :=
  ⟨[], by simp, by simp, h.1⟩

theorem sim_writeOctets {b1 b2 : WBuf} (h : Sim b1 b2) (x : List UInt8) :
    SimRes b1 b2 (b1.writeOctets x) (b2.writeOctets x) := ⟨x, rfl, rfl, h.1⟩

theorem sim_memoiseName {b1 b2 : WBuf} (h : Sim b1 b2) (n : Name) :
    (b1.memoiseName n).namePointers = (b2.memoiseName n).namePointers := by
  unfold WBuf.memoiseName WBuf.index
  rw [h.1, h.2]
  split
  · split <;> simp only [h.1]
  · exact h.1

theorem sim_encodeName {b1 b2 : WBuf} (h : Sim b1 b2) (n : Name) (c : Bool) :
    SimRes b1 b2 (encodeName b1 n c) (encodeName b2 n c) := by
  rw [encodeName_eq, encodeName_eq]
  unfold WBuf.namePointer
  rw [h.1]
  split
  · exact ⟨_, rfl, rfl, rfl⟩
  · exact ⟨_, rfl, rfl, sim_memoiseName h n⟩

theorem sim_encodeField {b1 b2 : WBuf} (h : Sim b1 b2) (f : Field) (v : FieldVal) :
    SimRes b1 b2 (encodeField b1 f v) (encodeField b2 f v) := by
  rcases encodeField_shape f v with e | ⟨x, e⟩ | ⟨n, c, e⟩ <;> rw [e b1, e b2]
  · exact SimRes.refl h
  · exact sim_writeOctets h x
  · exact sim_encodeName h n c

theorem sim_encodeFields (fs : List Field) :
    ∀ (vs : List FieldVal) {b1 b2 : WBuf}, Sim b1 b2 →
    SimRes b1 b2 (encodeFields b1 fs vs) (encodeFields b2 fs vs) := by
  intro vs b1
  fun_induction encodeFields b1 fs vs with
  | case1 b1 f fs v vs ih =>
    intro b2 h
    have r := sim_encodeField h f v
    exact r.trans (ih (r.sim h))
  | case2 fs b1 vs hne =>
    intro b2 h
    rw [encodeFields.eq_2 _ _ _ hne]
    exact SimRes.refl h

/-- The fields only append: `SimRes b b b' b'`, the simulation of a buffer against itself, contains `Ext b b'`. -/
theorem Ext.encodeFields (b : WBuf) (fs : List Field) (vs : List FieldVal) :
    Ext b (encodeFields b fs vs) :=
  let ⟨x, h, _⟩ := sim_encodeFields fs vs (b1 := b) (b2 := b) ⟨rfl, rfl⟩
  ⟨x, h⟩

/-! ## The RDATA fields of a layout -/

theorem NameInv.encodeFields (fs : List Field) :
    ∀ (vs : List FieldVal) {b : WBuf}, NameInv b → FieldsWF fs vs →
      NameInv (encodeFields b fs vs) := by
  intro vs b
  fun_induction Resolved.encodeFields b fs vs with
  | case1 b f fs v vs ih => exact fun h hwf => ih (encodeField_roundtrip b f v h hwf.1).1 hwf.2
  | case2 => exact fun h _ => h

theorem LayoutOK.tail {f : Field} {fs : List Field} (h : LayoutOK (f :: fs)) :
    LayoutOK fs ∧ (f = .opaque → fs = []) ∧ fs ≠ [.opaque] := by
  rcases h with h | h
  · cases h; exact ⟨Or.inr List.not_mem_nil, fun _ => rfl, fun h => nomatch h⟩
  · exact ⟨Or.inr fun hm => h (List.mem_cons_of_mem _ hm),
      fun hf => absurd (hf ▸ List.mem_cons_self) h,
      fun hfs => h (hfs ▸ List.mem_cons_of_mem _ List.mem_cons_self)⟩

theorem encodeFields_reads (fs : List Field) (vs : List FieldVal) (b : WBuf) :
    NameInv b → FieldsWF fs vs → LayoutOK fs →
    ∀ id rdl, (fs = [.opaque] → rdl = (encodeFields b fs vs).octets.length - b.octets.length) →
      Reads (fun buf pos => decodeFields id buf rdl fs pos) b (encodeFields b fs vs) vs := by
  fun_induction encodeFields b fs vs with
  | case1 b f fs v vs ih =>
    intro hinv hwf hok id rdl hrdl post
    obtain ⟨hok', hop, hne⟩ := hok.tail
    obtain ⟨hinv1, hread1⟩ := encodeField_roundtrip b f v hinv hwf.1
    have hf : f = Field.opaque → rdl = (encodeField b f v).octets.length - b.octets.length := by
      intro h
      cases hop h
      cases vs with
      | nil => exact hrdl (h ▸ rfl)
      | cons _ _ => exact hwf.2.elim
    have h1 := (hread1 id rdl hf).ext (Ext.encodeFields _ fs vs) post
    have h2 := ih hinv1 hwf.2 hok' id rdl (fun h => absurd h hne) post
    simp only [decodeFields] at h1 h2 ⊢
    rw [h1]; simp only; rw [h2]
  | case2 fs b vs hne =>
    intro _ hwf _ id rdl _ post
    cases fs with
    | nil =>
      cases vs with
      | nil => rfl
      | cons _ _ => exact hwf.elim
    | cons f fs =>
      cases vs with
      | nil => exact hwf.elim
      | cons v vs => exact (hne f fs v vs rfl rfl).elim

/-! ## Resource records: the record up to RDLENGTH, the back-patch -/

theorem patchU16_placeholder (pre x : List UInt8) (a c : UInt8) (v : Nat) :
    patchU16 (pre ++ [a, c] ++ x) pre.length v = pre ++ u16Bytes v ++ x := by
  simp [patchU16, u16Bytes]

theorem patchU16_length (os : List UInt8) (i v : Nat) : (patchU16 os i v).length = os.length := by
  simp [patchU16]

/-- The buffer just before the RDATA of `rr` is written: NAME TYPE CLASS TTL and `rdlength`.  `encodeRR` writes 0
    there and patches it afterwards (`encodeRR_ok_iff`); `encodeRR_eq_encodeFields` shows that the final RDLENGTH might as well
    have stood there from the start. -/
def rrPrefix (b : WBuf) (rr : RR) (rdlength : Nat) : WBuf :=
  ((((encodeName b rr.name rrNameCompress).writeU16 rr.rtype).writeU16 rr.rclass).writeU32
    rr.ttl).writeU16 rdlength

theorem rrPrefix_length (b : WBuf) (rr : RR) (v : Nat) :
    (rrPrefix b rr v).octets.length = (encodeName b rr.name rrNameCompress).octets.length + 10 := by
  simp only [rrPrefix, writeU16_length, writeU32_length]

theorem rrPrefix_octets (b : WBuf) (rr : RR) (v : Nat) :
    ∃ pre, (rrPrefix b rr v).octets.length = pre.length + 2 ∧
      ∀ w, (rrPrefix b rr w).octets = pre ++ u16Bytes w :=
  ⟨_, List.length_append, fun _ => rfl⟩

theorem rrPrefix_sim (b : WBuf) (rr : RR) (v w : Nat) : Sim (rrPrefix b rr v) (rrPrefix b rr w) :=
  ⟨rfl, by rw [rrPrefix_length, rrPrefix_length]⟩

theorem Ext.rrPrefix_of_name (b : WBuf) (rr : RR) (v : Nat) :
    Ext (Resolved.encodeName b rr.name rrNameCompress) (rrPrefix b rr v) :=
  (((Ext.writeOctets _ _).trans (Ext.writeOctets _ _)).trans (Ext.writeOctets _ _)).trans (Ext.writeOctets _ _)

theorem Ext.rrPrefix (b : WBuf) (rr : RR) (v : Nat) : Ext b (rrPrefix b rr v) :=
  (Ext.encodeName b rr.name rrNameCompress).trans (Ext.rrPrefix_of_name b rr v)

theorem TableInv.rrPrefix {b : WBuf} (h : TableInv b) (rr : RR) (v : Nat) : TableInv (rrPrefix b rr v) :=
  ((((h.encodeName rr.name rrNameCompress).writeU16 _).writeU16 _).writeU32 _).writeU16 _

theorem NameInv.rrPrefix {b : WBuf} (h : NameInv b) {rr : RR} (hwf : NameWF rr.name) (v : Nat) :
    NameInv (rrPrefix b rr v) :=
  ((((h.encodeName hwf rrNameCompress).writeU16 _).writeU16 _).writeU32 _).writeU16 _

/-- `p1` (where the owner name ended) is a variable with its equation, so that the positions `p1 + 2`, … come out
    as `decodeRR_ok_iff` writes them. -/
theorem rrPrefix_reads (b : WBuf) (rr : RR) (v : Nat) (htype : rr.rtype < 65536) (hclass : rr.rclass < 65536)
    (httl : rr.ttl < 4294967296) (hv : v < 65536) {b' : WBuf} (he : Ext (rrPrefix b rr v) b') (post : List UInt8)
    (p1 : Nat) (hp1 : p1 = (encodeName b rr.name rrNameCompress).octets.length) :
    nextU16 (b'.octets ++ post) p1 = some (rr.rtype, p1 + 2) ∧
    nextU16 (b'.octets ++ post) (p1 + 2) = some (rr.rclass, p1 + 4) ∧
    nextU32 (b'.octets ++ post) (p1 + 4) = some (rr.ttl, p1 + 8) ∧
    nextU16 (b'.octets ++ post) (p1 + 8) = some (v, p1 + 10) := by
  subst hp1
  unfold rrPrefix at he
  generalize encodeName b rr.name rrNameCompress = b1 at he ⊢
  have e4 := (Ext.writeOctets _ _).trans he
  have e3 := (Ext.writeOctets _ _).trans e4
  have e2 := (Ext.writeOctets _ _).trans e3
  have h3 := nextU16_ext _ rr.rclass hclass e3 post
  have h4 := nextU32_ext _ rr.ttl httl e4 post
  have h5 := nextU16_ext _ v hv he post
  simp only [writeU16_length, writeU32_length] at h3 h4 h5
  exact ⟨nextU16_ext b1 rr.rtype htype e2 post, h3, h4, h5⟩

/-- `F` (the buffer before the patch) is a variable with its equation because the term occurs four times on the
    right. -/
theorem encodeRR_ok_iff (b : WBuf) (rr : RR) (b' : WBuf) :
    encodeRR b rr = .ok b' ↔
      ∃ F, F = encodeFields (rrPrefix b rr 0) (encodeLayoutOf rr.rtype) rr.fields ∧
        F.octets.length - (rrPrefix b rr 0).octets.length < 65536 ∧
        b' = ⟨patchU16 F.octets ((rrPrefix b rr 0).octets.length - 2)
          (F.octets.length - (rrPrefix b rr 0).octets.length), F.namePointers⟩ := by
  have hP : rrPrefix b rr 0 = ((((encodeName b rr.name rrNameCompress).writeU16 rr.rtype).writeU16
      rr.rclass).writeU32 rr.ttl).writeU16 0 := rfl
  unfold encodeRR
  simp only
  generalize (((encodeName b rr.name rrNameCompress).writeU16 rr.rtype).writeU16
    rr.rclass).writeU32 rr.ttl = X at hP ⊢
  rw [hP]
  generalize encodeFields (X.writeU16 0) (encodeLayoutOf rr.rtype) rr.fields = F
  have hn : F.index - X.index - 2 = F.octets.length - (X.writeU16 0).octets.length := by
    rw [writeU16_length, Nat.sub_sub]; rfl
  have hi : X.index = (X.writeU16 0).octets.length - 2 := by
    rw [writeU16_length, Nat.add_sub_cancel]; rfl
  rw [hn, hi]
  unfold usizeToU16
  by_cases hlt : F.octets.length - (X.writeU16 0).octets.length < 65536
  · rw [if_pos hlt]
    exact ⟨fun h => ⟨F, rfl, hlt, (Except.ok.inj h).symm⟩, fun ⟨_, hF, _, hb'⟩ => by rw [hb', hF]⟩
  · rw [if_neg hlt]
    exact ⟨fun h => (nomatch h), fun ⟨_, hF, hlt', _⟩ => absurd (hF ▸ hlt') hlt⟩

theorem encodeRR_eq_encodeFields (b : WBuf) (rr : RR) (b' : WBuf) (h : encodeRR b rr = .ok b') :
    ∃ rdl, rdl < 65536 ∧
      b' = encodeFields (rrPrefix b rr rdl) (encodeLayoutOf rr.rtype) rr.fields ∧
      rdl = b'.octets.length - (rrPrefix b rr rdl).octets.length := by
  obtain ⟨F, hF, hlt, rfl⟩ := (encodeRR_ok_iff b rr b').mp h
  obtain ⟨pre, hpre, hoct⟩ := rrPrefix_octets b rr 0
  -- the fields written behind the placeholder and behind the final RDLENGTH: the same octets `x`, the same table
  obtain ⟨x, h1, h2, h3⟩ := sim_encodeFields (encodeLayoutOf rr.rtype) rr.fields
    (rrPrefix_sim b rr 0 (F.octets.length - (rrPrefix b rr 0).octets.length))
  rw [← hF] at h1 h3
  have hx : F.octets.length - (rrPrefix b rr 0).octets.length = x.length := by
    rw [h1, List.length_append, Nat.add_sub_cancel_left]
  rw [hx] at h2 h3 hlt ⊢
  refine ⟨x.length, hlt, ?_, ?_⟩
  · generalize encodeFields (rrPrefix b rr x.length) (encodeLayoutOf rr.rtype) rr.fields = R at h2 h3
    cases R
    simp only at h2 h3
    simp only [WBuf.mk.injEq]
    refine ⟨?_, h3⟩
    rw [h2, hpre, Nat.add_sub_cancel, h1, hoct, hoct]
    exact patchU16_placeholder pre x _ _ _
  · simp only [patchU16_length, h1, List.length_append, rrPrefix_length, Nat.add_sub_cancel_left]

/-! ## The encoder only appends -/

theorem Ext.encodeRR {b b' : WBuf} {rr : RR} (h : encodeRR b rr = .ok b') : Ext b b' := by
  obtain ⟨rdl, _, rfl, _⟩ := encodeRR_eq_encodeFields b rr b' h
  exact (Ext.rrPrefix b rr rdl).trans (Ext.encodeFields _ _ _)

theorem Ext.encodeRRs {b b' : WBuf} {rrs : List RR} (h : Resolved.encodeRRs b rrs = .ok b') :
    Ext b b' := by
  revert h
  fun_induction Resolved.encodeRRs b rrs with
  | case1 b => intro h; cases h; exact Ext.refl _
  | case2 => exact fun h => nomatch h
  | case3 b r rrs b1 hb1 ih => exact fun h => (Ext.encodeRR hb1).trans (ih h)

theorem Ext.encodeQuestion (b : WBuf) (q : Question) : Ext b (encodeQuestion b q) :=
  ((Ext.encodeName b q.name questionNameCompress).trans (Ext.writeOctets _ _)).trans (Ext.writeOctets _ _)

theorem Ext.foldl_encodeQuestion (qs : List Question) (b : WBuf) :
    Ext b (qs.foldl Resolved.encodeQuestion b) :=
  List.foldlRecOn qs _ (Ext.refl b) fun b' h q _ => h.trans (Ext.encodeQuestion b' q)

/-! ## Resource records and questions -/

theorem encodeRR_roundtrip (b : WBuf) (rr : RR) (b' : WBuf) (hinv : NameInv b) (hwf : RRWF rr)
    (h : encodeRR b rr = .ok b') :
    NameInv b' ∧ ∀ id, Reads (decodeRR id) b b' rr := by
  obtain ⟨hname, htype, hclass, httl, hfields⟩ := hwf
  obtain ⟨rdl, hrdl, hb', hrdleq⟩ := encodeRR_eq_encodeFields b rr b' h
  have hext := Ext.encodeFields (rrPrefix b rr rdl) (encodeLayoutOf rr.rtype) rr.fields
  have hinv' := NameInv.encodeFields _ rr.fields (hinv.rrPrefix hname rdl) hfields
  have hread := encodeFields_reads _ rr.fields _ (hinv.rrPrefix hname rdl) hfields (encodeLayoutOf_ok rr.rtype)
  rw [← hb'] at hext hinv' hread
  refine ⟨hinv', fun id post => ?_⟩
  obtain ⟨h2, h3, h4, h5⟩ := rrPrefix_reads b rr rdl htype hclass httl hrdl hext post _ rfl
  have h6 := hread id rdl (fun _ => hrdleq) post
  have hle := hext.length_le
  rw [rrPrefix_length] at h6 hle hrdleq
  exact (decodeRR_ok_iff _ _ _ _ _).mpr ⟨_, rdl,
    (encodeName_reads b rr.name _ hinv hname id).ext ((Ext.rrPrefix_of_name b rr rdl).trans hext) post,
    h2, h3, h4, h5, decodeLayoutOf_eq _ ▸ h6, by omega⟩

theorem encodeQuestion_roundtrip (b : WBuf) (q : Question) (hinv : NameInv b) (hwf : QuestionWF q) :
    NameInv (encodeQuestion b q) ∧
    ∀ id, Reads (decodeQuestion id) b (encodeQuestion b q) q := by
  obtain ⟨hname, htype, hclass⟩ := hwf
  unfold encodeQuestion
  generalize hb1 : encodeName b q.name questionNameCompress = b1
  have hinv1 : NameInv b1 := hb1 ▸ hinv.encodeName hname _
  have hread1 : ∀ id, Reads (decodeName id) b b1 q.name :=
    fun id => hb1 ▸ encodeName_reads b q.name _ hinv hname id
  have e3 := Ext.refl ((b1.writeU16 q.qtype).writeU16 q.qclass)
  have e2 := (Ext.writeOctets _ _).trans e3
  have e1 := (Ext.writeOctets _ _).trans e2
  refine ⟨(hinv1.writeU16 _).writeU16 _, ?_⟩
  intro id post
  have h3 := nextU16_ext _ q.qclass hclass e3 post
  simp only [writeU16_length] at h3 ⊢
  exact (decodeQuestion_ok_iff _ _ _ _ _).mpr ⟨_, (hread1 id).ext e1 post,
    nextU16_ext b1 q.qtype htype e2 post, h3, rfl⟩

/-! ## Sections -/

/-- a section of `k` items, as a decoder in the sense of `Reads` -/
abbrev decodeSection {α : Type} (dec : List UInt8 → Nat → Except DErr (α × Nat)) (k : Nat) :
    List UInt8 → Nat → Except DErr (List α × Nat) :=
  fun buf pos => decodeMany (dec buf) k pos

theorem Reads.decodeSection_cons {α : Type} {dec : List UInt8 → Nat → Except DErr (α × Nat)} {b b1 b' : WBuf}
    {a : α} {as : List α} {k : Nat} (h1 : Reads dec b b1 a) (he : Ext b1 b')
    (h2 : Reads (decodeSection dec k) b1 b' as) : Reads (decodeSection dec (k + 1)) b b' (a :: as) :=
  fun post => decodeMany_succ_ok_iff.mpr ⟨a, _, as, h1.ext he post, h2 post, rfl⟩

theorem encodeQuestions_roundtrip (qs : List Question) :
    ∀ (b : WBuf), NameInv b → (∀ q ∈ qs, QuestionWF q) →
    NameInv (qs.foldl encodeQuestion b) ∧
    ∀ id, Reads (decodeSection (decodeQuestion id) qs.length) b (qs.foldl encodeQuestion b) qs := by
  induction qs with
  | nil =>
    intro b hinv _
    exact ⟨hinv, fun id post => rfl⟩
  | cons q qs ih =>
    intro b hinv hwf
    obtain ⟨hinv1, hread1⟩ := encodeQuestion_roundtrip b q hinv (hwf q List.mem_cons_self)
    obtain ⟨hinv2, hread2⟩ := ih (encodeQuestion b q) hinv1 (fun x hx => hwf x (List.mem_cons_of_mem _ hx))
    exact ⟨hinv2, fun id => (hread1 id).decodeSection_cons (Ext.foldl_encodeQuestion qs _) (hread2 id)⟩

theorem encodeRRs_roundtrip (rrs : List RR) :
    ∀ (b b' : WBuf), NameInv b → (∀ r ∈ rrs, RRWF r) → encodeRRs b rrs = .ok b' →
    NameInv b' ∧ ∀ id, Reads (decodeSection (decodeRR id) rrs.length) b b' rrs := by
  intro b b'
  fun_induction encodeRRs b rrs with
  | case1 b =>
    intro hinv _ h
    cases h
    exact ⟨hinv, fun id post => rfl⟩
  | case2 => exact fun _ _ h => nomatch h
  | case3 b r rrs b1 hb1 ih =>
    intro hinv hwf h
    obtain ⟨hinv1, hread1⟩ := encodeRR_roundtrip b r b1 hinv (hwf r List.mem_cons_self) hb1
    obtain ⟨hinv2, hread2⟩ := ih hinv1 (fun x hx => hwf x (List.mem_cons_of_mem _ hx)) h
    exact ⟨hinv2, fun id => (hread1 id).decodeSection_cons (Ext.encodeRRs h) (hread2 id)⟩

/-! ## Whole message -/

theorem usizeToU16_ok {c v : Nat} (h : usizeToU16 c = .ok v) : v = c ∧ c < 65536 := by
  unfold usizeToU16 at h
  split at h
  · rename_i hlt; cases h; exact ⟨rfl, hlt⟩
  · cases h

/-- the header and the four section counts as `Message::to_octets` writes them first -/
def header12 (h : Header) (qd an ns ar : Nat) : List UInt8 :=
  headerBytes h ++ u16Bytes qd ++ u16Bytes an ++ u16Bytes ns ++ u16Bytes ar

theorem header12_length (h : Header) (qd an ns ar : Nat) : (header12 h qd an ns ar).length = 12 := by
  simp [header12, headerBytes]

/-- Stated on a free `buf` with its equation, so that the seven conclusions do not each carry the term
    `header12 … ++ rest`. -/
theorem header12_reads (h : Header) (hwf : HeaderWF h) (qd an ns ar : Nat)
    (hqd : qd < 65536) (han : an < 65536) (hns : ns < 65536) (har : ar < 65536)
    (rest buf : List UInt8) (hbuf : buf = header12 h qd an ns ar ++ rest) :
    nextU16 buf 0 = some (h.id, 2) ∧
    nextU8 buf 2 = some
      (flagOctet1 h.isResponse h.opcode h.isAuthoritative h.isTruncated h.recursionDesired, 3) ∧
    nextU8 buf 3 = some (flagOctet2 h.recursionAvailable h.rcode, 4) ∧
    nextU16 buf 4 = some (qd, 6) ∧ nextU16 buf 6 = some (an, 8) ∧
    nextU16 buf 8 = some (ns, 10) ∧ nextU16 buf 10 = some (ar, 12) := by
  obtain ⟨n1, n2, n3⟩ := headerBytes_reads h hwf
    (u16Bytes qd ++ (u16Bytes an ++ (u16Bytes ns ++ (u16Bytes ar ++ rest))))
  have n4 := nextU16_at (headerBytes h) (u16Bytes an ++ (u16Bytes ns ++ (u16Bytes ar ++ rest))) qd hqd
  have n5 := nextU16_at (headerBytes h ++ u16Bytes qd) (u16Bytes ns ++ (u16Bytes ar ++ rest)) an han
  have n6 := nextU16_at (headerBytes h ++ u16Bytes qd ++ u16Bytes an) (u16Bytes ar ++ rest) ns hns
  have n7 := nextU16_at (headerBytes h ++ u16Bytes qd ++ u16Bytes an ++ u16Bytes ns) rest ar har
  simp only [List.append_assoc] at n4 n5 n6 n7
  rw [header12, List.append_assoc, List.append_assoc, List.append_assoc, List.append_assoc] at hbuf
  rw [← hbuf] at n1 n2 n3 n4 n5 n6 n7
  exact ⟨n1, n2, n3, n4, n5, n6, n7⟩

theorem encodeMessage_ok_iff (m : Message) (bs : List UInt8) :
    encodeMessage m = .ok bs ↔ ∃ bA bN bR : WBuf,
      m.questions.length < 65536 ∧ m.answers.length < 65536 ∧ m.authority.length < 65536 ∧
      m.additional.length < 65536 ∧
      encodeRRs (m.questions.foldl encodeQuestion
        (((((encodeHeader WBuf.empty m.header).writeU16 m.questions.length).writeU16
          m.answers.length).writeU16 m.authority.length).writeU16 m.additional.length))
        m.answers = .ok bA ∧
      encodeRRs bA m.authority = .ok bN ∧ encodeRRs bN m.additional = .ok bR ∧ bR.octets = bs := by
  constructor
  · fun_cases encodeMessage m with
    | case8 qd hqd an han ns hns ar har _ _ _ bA hbA bN hbN bR hbR =>
      intro h
      obtain ⟨rfl, cqd⟩ := usizeToU16_ok hqd
      obtain ⟨rfl, can⟩ := usizeToU16_ok han
      obtain ⟨rfl, cns⟩ := usizeToU16_ok hns
      obtain ⟨rfl, car⟩ := usizeToU16_ok har
      exact ⟨bA, bN, bR, cqd, can, cns, car, hbA, hbN, hbR, Except.ok.inj h⟩
    | _ => exact fun h => nomatch h
  · rintro ⟨bA, bN, bR, cqd, can, cns, car, hbA, hbN, hbR, rfl⟩
    simp only [encodeMessage, usizeToU16, if_pos cqd, if_pos can, if_pos cns, if_pos car, hbA, hbN, hbR]

theorem encodeHeader_counts (h : Header) (qd an ns ar : Nat) :
    ((((encodeHeader WBuf.empty h).writeU16 qd).writeU16 an).writeU16 ns).writeU16 ar
      = ⟨header12 h qd an ns ar, []⟩ := by
  simp [encodeHeader_eq, WBuf.writeU16, WBuf.writeOctets, WBuf.empty, header12]

theorem encodeMessage_header12 {m : Message} {bs : List UInt8} (h : encodeMessage m = .ok bs) :
    ∃ rest, bs = header12 m.header m.questions.length m.answers.length m.authority.length
      m.additional.length ++ rest := by
  obtain ⟨bA, bN, bR, _, _, _, _, hbA, hbN, hbR, rfl⟩ := (encodeMessage_ok_iff m bs).mp h
  rw [encodeHeader_counts] at hbA
  exact (((Ext.foldl_encodeQuestion m.questions _).trans (Ext.encodeRRs hbA)).trans
    (Ext.encodeRRs hbN)).trans (Ext.encodeRRs hbR)

theorem encodeMessage_length_ge {m : Message} {bs : List UInt8} (h : encodeMessage m = .ok bs) :
    12 ≤ bs.length := by
  obtain ⟨rest, hr⟩ := encodeMessage_header12 h
  rw [hr, List.length_append, header12_length]
  exact Nat.le_add_right 12 _

/-- holds whatever the opcode, also one that does not fit four bits (`flagOctet1_lt`, `flagOctet1_flags` ask nothing
    of it) -/
theorem encodeMessage_tc {m : Message} {bs : List UInt8} (h : encodeMessage m = .ok bs) :
    ∃ b, bs[2]? = some b ∧ testBit b.toNat HEADER_MASK_TC = m.header.isTruncated := by
  obtain ⟨rest, hr⟩ := encodeMessage_header12 h
  have hlt := flagOctet1_lt m.header.isResponse m.header.opcode m.header.isAuthoritative m.header.isTruncated
    m.header.recursionDesired
  have htc := (flagOctet1_flags m.header.isResponse m.header.opcode m.header.isAuthoritative m.header.isTruncated
    m.header.recursionDesired).2.2.1
  refine ⟨u8 (flagOctet1 m.header.isResponse m.header.opcode m.header.isAuthoritative
    m.header.isTruncated m.header.recursionDesired), ?_, by rw [u8_toNat _ hlt, htc]⟩
  rw [hr]
  rfl

theorem encodeMessage_questions_only (m : Message) (hq : m.questions.length < 65536)
    (ha : m.answers = []) (hn : m.authority = []) (hr : m.additional = []) :
    ∃ bs, encodeMessage m = .ok bs := by
  -- three empty sections: counts 0, and `encodeRRs b [] = .ok b` by `rfl`
  exact ⟨_, (encodeMessage_ok_iff m _).mpr ⟨_, _, _, hq, by rw [ha]; decide, by rw [hn]; decide,
    by rw [hr]; decide, by rw [ha]; rfl, by rw [hn]; rfl, by rw [hr]; rfl, rfl⟩⟩

theorem encodeMessage_too_many_answers {m : Message} (hq : m.questions.length < 65536)
    (ha : 65536 ≤ m.answers.length) :
    encodeMessage m = .error (.counterTooLarge m.answers.length 16) := by
  unfold encodeMessage usizeToU16
  rw [if_pos hq, if_neg (Nat.not_lt.mpr ha)]

end Resolved
