/-
  Helper for C04: `Decidable` instances for the well-formedness predicates of `Spec/Wire.lean` (and `DecidableEq`
  of `Except`), so that non-vacuity examples on concrete messages are closed by `decide`, and the test vector of
  C04: the name `C04ex.name`, the message `C04ex.msg` and its 58 octets `C04ex.bytes`.
-/
import Resolved.Spec.Wire

namespace Resolved

open Gen

/-- `Except` has no `DecidableEq` instance in core; named so that it cannot clash. -/
instance instDecidableEqExceptC04 {ε α : Type} [DecidableEq ε] [DecidableEq α] :
    DecidableEq (Except ε α)
  | .ok a, .ok b =>
    if h : a = b then isTrue (h ▸ rfl) else isFalse (fun h' => h (Except.ok.inj h'))
  | .error a, .error b =>
    if h : a = b then isTrue (h ▸ rfl) else isFalse (fun h' => h (Except.error.inj h'))
  | .ok _, .error _ => isFalse (fun h => nomatch h)
  | .error _, .ok _ => isFalse (fun h => nomatch h)

instance (n : Name) : Decidable (NameWF n) := by unfold NameWF; infer_instance

instance instDecidableFieldValWF (f : Field) (v : FieldVal) : Decidable (FieldValWF f v) :=
  match f, v with
  | .u16, .u16 n => inferInstanceAs (Decidable (n < 65536))
  | .u32, .u32 n => inferInstanceAs (Decidable (n < 4294967296))
  | .a, .a n => inferInstanceAs (Decidable (n < 4294967296))
  | .aaaa, .aaaa gs => inferInstanceAs (Decidable (gs.length = 8 ∧ ∀ g ∈ gs, g < 65536))
  | .opaque, .opaque bs => inferInstanceAs (Decidable (bs.length < 65536))
  | .name _, .name n => inferInstanceAs (Decidable (NameWF n))
  | .u16, .u32 _ | .u16, .a _ | .u16, .aaaa _ | .u16, .opaque _ | .u16, .name _
  | .u32, .u16 _ | .u32, .a _ | .u32, .aaaa _ | .u32, .opaque _ | .u32, .name _
  | .a, .u16 _ | .a, .u32 _ | .a, .aaaa _ | .a, .opaque _ | .a, .name _
  | .aaaa, .u16 _ | .aaaa, .u32 _ | .aaaa, .a _ | .aaaa, .opaque _ | .aaaa, .name _
  | .opaque, .u16 _ | .opaque, .u32 _ | .opaque, .a _ | .opaque, .aaaa _ | .opaque, .name _
  | .name _, .u16 _ | .name _, .u32 _ | .name _, .a _ | .name _, .aaaa _ | .name _, .opaque _ =>
    inferInstanceAs (Decidable False)

instance instDecidableFieldsWF : (fs : List Field) → (vs : List FieldVal) → Decidable (FieldsWF fs vs)
  | [], [] => inferInstanceAs (Decidable True)
  | f :: fs, v :: vs =>
    have := instDecidableFieldsWF fs vs
    inferInstanceAs (Decidable (FieldValWF f v ∧ FieldsWF fs vs))
  | [], _ :: _ => inferInstanceAs (Decidable False)
  | _ :: _, [] => inferInstanceAs (Decidable False)

instance (r : RR) : Decidable (RRWF r) := by unfold RRWF; infer_instance
instance (q : Question) : Decidable (QuestionWF q) := by unfold QuestionWF; infer_instance
instance (h : Header) : Decidable (HeaderWF h) := by unfold HeaderWF; infer_instance
instance (m : Message) : Decidable (WfMsg m) := by unfold WfMsg; infer_instance

/-! ## Example data for the non-vacuity examples of Props/C04.lean -/

/-- `a.bc.` -/
def C04ex.name : Name := ⟨[[97], [98, 99], []], 6⟩

/-- response, id 0x1234, RD RA AA, rcode 3; one question and two answers (A and MX), all with the
    same owner name, the MX exchange being that name again. -/
def C04ex.msg : Message :=
  { header := ⟨0x1234, true, 0, true, false, true, true, 3⟩
    questions := [⟨C04ex.name, 1, 1⟩]
    answers := [⟨C04ex.name, 1, [.a 0x7f000001], 1, 300⟩,
                ⟨C04ex.name, 15, [.u16 10, .name C04ex.name], 1, 300⟩]
    authority := []
    additional := [] }

/-- its encoding: the owner names of both answers are the pointer `C0 0C` (192, 12) to offset 12;
    the MX exchange (RDATA names are written with `compress = false`) is spelled out; RDLENGTHs 4
    and 8 were back-patched. -/
def C04ex.bytes : List UInt8 :=
  [18, 52, 133, 131, 0, 1, 0, 2, 0, 0, 0, 0,
   1, 97, 2, 98, 99, 0, 0, 1, 0, 1,
   192, 12, 0, 1, 0, 1, 0, 0, 1, 44, 0, 4, 127, 0, 0, 1,
   192, 12, 0, 15, 0, 1, 0, 0, 1, 44, 0, 8, 0, 10, 1, 97, 2, 98, 99, 0]

end Resolved
