/-
  What a zone lists, under the names the statements of Props/C13 use (`FlatRec`, `FlatWild`, `OnlyOwnSoa`), and the
  insertion phase of `Zone::deserialise` as `Zone.build`: the two insertion loops are `applyOps` on a fresh zone
  (`insertAll_eq`, `insertBoth_new_ok_iff`); on `NameOK` owners they build a zone when every record lies under the apex
  (`insertBoth_new_isOk`) and end in `NotSubdomainOfApex` otherwise (`insertBoth_new_outside`; a loop does not panic:
  `insertAll_no_panic`); what the zone they build lists is `Zone.lists_build` of Proofs/ZoneBuild.lean (`insertBoth_lists`).
-/
import Resolved.Proofs.ZoneBuild
import Resolved.Proofs.ZoneTextBasics
import Resolved.Proofs.ZoneTextOK

namespace Resolved.ZoneText

open Resolved Gen ZNode

/-- `all_records()` lists record `zr` under owner `n`; `FlatWild`: `all_wildcard_records()`.  By definition these are
    `z.Lists false n zr` and `z.Lists true n zr` of Proofs/ZoneBuild.lean: the statements of Props/C13 use these two so
    that they read on the Rust's two functions alone; the proofs pass to `Zone.Lists`, whose Boolean lets one argument
    serve both listings.  `recordsOf m d` (Proofs/ZoneTextZone.lean), the list `Zone::serialise` looks up for the owner
    `d`, has the same members when the listing has one entry per owner (`mem_recordsOf`, there). -/
def FlatRec (z : Zone) (n : Name) (zr : ZoneRecord) : Prop := ∃ zrs, (n, zrs) ∈ z.allRecords ∧ zr ∈ zrs

def FlatWild (z : Zone) (n : Name) (zr : ZoneRecord) : Prop :=
  ∃ zrs, (n, zrs) ∈ z.allWildcardRecords ∧ zr ∈ zrs

theorem flatRec_iff_lists {z : Zone} {n : Name} {zr : ZoneRecord} : FlatRec z n zr ↔ z.Lists false n zr := Iff.rfl

theorem flatWild_iff_lists {z : Zone} {n : Name} {zr : ZoneRecord} : FlatWild z n zr ↔ z.Lists true n zr := Iff.rfl

/-- `Zone::serialise` writes the SOA line from `z.soa` and skips every SOA-typed record: any other than the zone's own
    would be lost in the text. -/
def OnlyOwnSoa (z : Zone) : Prop :=
  ∀ n zr, FlatRec z n zr → zr.rtype = RT_SOA → n = z.apex ∧ ∃ s, z.soa = some s ∧ zr = Zone.soaRecord s

theorem TextName.nameOK {n : Name} (h : TextName n) : NameOK n := h.1

/-! ## the insertion phase of `Zone::deserialise` -/

/-- the insertion `Zone::deserialise` performs for a collected record (`wild`: `insert_wildcard`). -/
def toOp (wild : Bool) (rr : RR) : ZoneOp := ⟨rr.name, rr.rtype, rr.fields, rr.ttl, wild⟩

def opsOf (R W : List RR) : List ZoneOp := R.map (toOp false) ++ W.map (toOp true)

theorem mem_opsOf {R W : List RR} {op : ZoneOp} :
    op ∈ opsOf R W ↔ ∃ w rr, rr ∈ (bif w then W else R) ∧ op = toOp w rr := by
  unfold opsOf
  simp only [List.mem_append, List.mem_map]
  constructor
  · rintro (⟨rr, h, rfl⟩ | ⟨rr, h, rfl⟩)
    · exact ⟨false, rr, h, rfl⟩
    · exact ⟨true, rr, h, rfl⟩
  · rintro ⟨w, rr, h, rfl⟩
    cases w
    · exact Or.inl ⟨rr, h, rfl⟩
    · exact Or.inr ⟨rr, h, rfl⟩

theorem mem_or_of_mem_cond {R W : List RR} {w : Bool} {rr : RR} (h : rr ∈ (bif w then W else R)) :
    rr ∈ R ∨ rr ∈ W := by
  cases w
  · exact Or.inl h
  · exact Or.inr h

theorem takeWhile_eq_self {α : Type} {p : α → Bool} {l : List α} (h : ∀ x ∈ l, p x = true) : l.takeWhile p = l := by
  induction l with
  | nil => rfl
  | cons a l ih =>
    rw [List.takeWhile_cons, h a List.mem_cons_self, ih (fun x hx => h x (List.mem_cons_of_mem _ hx))]
    rfl

/-- `for rr in rrs { if !rr.name.is_subdomain_of(apex) { return Err(..) } zone.insert(..) }`: a panic inside `insert`
    is a panic of the loop. -/
theorem insertAll_eq (wild : Bool) (rrs : List RR) : ∀ z : Zone,
    insertAll wild z rrs =
      match z.applyOps ((rrs.takeWhile (·.name.isSubdomainOf z.apex)).map (toOp wild)) with
      | none => .panic
      | some z' => if rrs.all (·.name.isSubdomainOf z.apex) then .ok z' else .err .notSubdomainOfApex := by
  induction rrs with
  | nil => intro z; rfl
  | cons rr rest ih =>
    intro z
    cases hsub : rr.name.isSubdomainOf z.apex with
    | false => simp [insertAll, hsub, Zone.applyOps]
    | true =>
      simp only [insertAll, hsub, Bool.not_true, Bool.false_eq_true, if_false, List.takeWhile_cons, if_true,
        List.map_cons, Zone.applyOps, List.all_cons, Bool.true_and]
      have : z.applyOp (toOp wild rr) = z.insert rr.name rr.rtype rr.fields rr.ttl wild := rfl
      rw [this]
      cases hi : z.insert rr.name rr.rtype rr.fields rr.ttl wild with
      | none => rfl
      | some z1 => simp only [ih z1, (Zone.insert_cases _ _ _ _ _ _ _ hi).1]

theorem insertAll_ok_iff (wild : Bool) (rrs : List RR) (z z' : Zone) :
    insertAll wild z rrs = .ok z' ↔
      (∀ rr ∈ rrs, rr.name.isSubdomainOf z.apex = true) ∧ z.applyOps (rrs.map (toOp wild)) = some z' := by
  rw [insertAll_eq]
  constructor
  · intro h
    split at h
    · cases h
    · rename_i z1 hz1
      split at h
      · rename_i hall
        have hsub := List.all_eq_true.mp hall
        rw [takeWhile_eq_self hsub] at hz1
        exact ⟨hsub, hz1.trans (congrArg some (DResult.ok.inj h))⟩
      · cases h
  · rintro ⟨hsub, hz⟩
    rw [takeWhile_eq_self hsub, hz]
    exact if_pos (List.all_eq_true.mpr hsub)

theorem insertBoth_ok_iff (z0 : Zone) (R W : List RR) (z : Zone) :
    insertBoth z0 R W = .ok z ↔
      (∀ rr, rr ∈ R ∨ rr ∈ W → rr.name.isSubdomainOf z0.apex = true) ∧ z0.applyOps (opsOf R W) = some z := by
  -- the second loop runs on the zone the first ends with
  have h1 : insertBoth z0 R W = .ok z ↔ ∃ z1, insertAll false z0 R = .ok z1 ∧ insertAll true z1 W = .ok z := by
    unfold insertBoth
    cases insertAll false z0 R with
    | ok z1 => exact ⟨fun h => ⟨z1, rfl, h⟩, fun ⟨_, e, h⟩ => by cases e; exact h⟩
    | err e => exact ⟨nofun, fun ⟨_, e, _⟩ => nomatch e⟩
    | panic => exact ⟨nofun, fun ⟨_, e, _⟩ => nomatch e⟩
    | outOfFuel => exact ⟨nofun, fun ⟨_, e, _⟩ => nomatch e⟩
  rw [h1, opsOf, Zone.applyOps_append]
  constructor
  · rintro ⟨z1, ha, hb⟩
    obtain ⟨hR, h1⟩ := (insertAll_ok_iff _ _ _ _).mp ha
    obtain ⟨hW, h2⟩ := (insertAll_ok_iff _ _ _ _).mp hb
    rw [(Zone.applyOps_apex_soa _ _ _ h1).1] at hW
    exact ⟨fun rr hrr => hrr.elim (hR rr) (hW rr), by rw [h1]; exact h2⟩
  · rintro ⟨hsub, h⟩
    obtain ⟨z1, h1, h2⟩ := Option.bind_eq_some_iff.mp h
    exact ⟨z1, (insertAll_ok_iff _ _ _ _).mpr ⟨fun rr h => hsub rr (.inl h), h1⟩,
      (insertAll_ok_iff _ _ _ _).mpr ⟨fun rr h => (Zone.applyOps_apex_soa _ _ _ h1).1 ▸ hsub rr (.inr h), h2⟩⟩

theorem insertBoth_new_ok_iff (apex : Name) (soa : Option SOA) (R W : List RR) (z : Zone) :
    insertBoth (Zone.new apex soa) R W = .ok z ↔
      (∀ rr, rr ∈ R ∨ rr ∈ W → rr.name.isSubdomainOf apex = true) ∧ Zone.build apex soa (opsOf R W) = some z := by
  rw [insertBoth_ok_iff, (Zone.new_apex_soa apex soa).1]
  rfl

theorem insertAll_cons_outside (wild : Bool) (z : Zone) (rr : RR) (rest : List RR)
    (h : rr.name.isSubdomainOf z.apex = false) : insertAll wild z (rr :: rest) = .err .notSubdomainOfApex := by
  simp [insertAll, h]

theorem insertBoth_new_isOk {apex : Name} {soa : Option SOA} {R W : List RR} (hap : NameOK apex)
    (hn : ∀ rr, rr ∈ R ∨ rr ∈ W → NameOK rr.name)
    (hsub : ∀ rr, rr ∈ R ∨ rr ∈ W → rr.name.isSubdomainOf apex = true) :
    ∃ z, insertBoth (Zone.new apex soa) R W = .ok z := by
  obtain ⟨z, hz⟩ := Zone.exists_build (soa := soa) (ops := opsOf R W) hap (fun op hop => by
    obtain ⟨w, rr, hrr, rfl⟩ := mem_opsOf.mp hop
    exact hn rr (mem_or_of_mem_cond hrr))
  exact ⟨z, (insertBoth_new_ok_iff apex soa R W z).mpr ⟨hsub, hz⟩⟩

/-- on a zone whose node names spell their paths a loop over `NameOK` owners does not panic: it ends in `Ok` or at the
    first owner outside the apex. -/
theorem insertAll_no_panic {wild : Bool} {z : Zone} {rrs : List RR} (hz : z.NamedFromApex)
    (hn : ∀ rr ∈ rrs, NameOK rr.name) :
    ∃ z', z.applyOps ((rrs.takeWhile (·.name.isSubdomainOf z.apex)).map (toOp wild)) = some z' ∧
      insertAll wild z rrs = if rrs.all (·.name.isSubdomainOf z.apex) then .ok z' else .err .notSubdomainOfApex := by
  obtain ⟨z', hz'⟩ := Option.isSome_iff_exists.mp (Zone.applyOps_isSome
    ((rrs.takeWhile (·.name.isSubdomainOf z.apex)).map (toOp wild)) (fun op hop => by
      obtain ⟨rr, hrr, rfl⟩ := List.mem_map.mp hop
      exact hn rr ((List.takeWhile_sublist _).subset hrr)) z hz)
  exact ⟨z', hz', by rw [insertAll_eq, hz']⟩

theorem insertBoth_new_outside {apex : Name} {soa : Option SOA} {R W : List RR} (hap : NameOK apex)
    (hn : ∀ rr, rr ∈ R ∨ rr ∈ W → NameOK rr.name)
    (hout : ∃ rr, (rr ∈ R ∨ rr ∈ W) ∧ rr.name.isSubdomainOf apex = false) :
    insertBoth (Zone.new apex soa) R W = .err .notSubdomainOfApex := by
  -- each loop is `insertAll_no_panic`: the fresh zone is `Zone.build apex soa []`, the zone after the first loop is
  -- `Zone.build apex soa` of the insertions made, and a built zone is named from its apex
  have ha := (Zone.new_apex_soa apex soa).1
  obtain ⟨z1, h1, e1⟩ := insertAll_no_panic (wild := false)
    (Zone.namedFromApex_build (soa := soa) (ops := []) hap rfl) (fun rr h => hn rr (.inl h))
  unfold insertBoth
  rw [e1, ha]
  by_cases hR : R.all (·.name.isSubdomainOf apex) = true
  · -- the first loop goes through; the record outside the apex is among the wildcard records
    obtain ⟨z2, -, e2⟩ := insertAll_no_panic (wild := true) (Zone.namedFromApex_build hap h1)
      (fun rr h => hn rr (.inr h))
    rw [(Zone.applyOps_apex_soa _ _ _ h1).1, ha] at e2
    obtain ⟨rr, hrr, hbad⟩ := hout
    have hW : ¬ W.all (·.name.isSubdomainOf apex) = true := fun hW => by
      have := hrr.elim (List.all_eq_true.mp hR rr) (List.all_eq_true.mp hW rr)
      rw [hbad] at this
      cases this
    simp only [hR, if_true, e2, if_neg hW]
  · simp only [hR, Bool.false_eq_true, if_false]

theorem insertBoth_lists {apex : Name} {soa : Option SOA} {R W : List RR} {z : Zone} (hap : NameOK apex)
    (hn : ∀ rr, rr ∈ R ∨ rr ∈ W → NameOK rr.name) (h : insertBoth (Zone.new apex soa) R W = .ok z)
    (w : Bool) (n : Name) (zr : ZoneRecord) :
    z.Lists w n zr ↔
      (w = false ∧ n = apex ∧ ∃ s, soa = some s ∧ zr = Zone.soaRecord s) ∨
      ∃ rr ∈ (bif w then W else R), n = rr.name ∧ zr = ⟨rr.rtype, rr.fields, Zone.clampTtl soa rr.ttl⟩ := by
  obtain ⟨hsub, hb⟩ := (insertBoth_new_ok_iff apex soa R W z).mp h
  refine (Zone.lists_build hap hb w n zr).trans (or_congr Iff.rfl ?_)
  constructor
  · rintro ⟨op, hop, rfl, hadd⟩
    obtain ⟨w, rr, hrr, rfl⟩ := mem_opsOf.mp hop
    obtain ⟨rfl, -, rfl⟩ := (Zone.adds_iff_of_nameOK (op := toOp w rr) (hn rr (mem_or_of_mem_cond hrr)) n zr).mp hadd
    exact ⟨rr, hrr, rfl, rfl⟩
  · rintro ⟨rr, hrr, rfl, rfl⟩
    exact ⟨toOp w rr, mem_opsOf.mpr ⟨w, rr, hrr, rfl⟩, rfl,
      (Zone.adds_iff_of_nameOK (op := toOp w rr) (hn rr (mem_or_of_mem_cond hrr)) _ _).mpr ⟨rfl, hsub rr (mem_or_of_mem_cond hrr), rfl⟩⟩

end Resolved.ZoneText
