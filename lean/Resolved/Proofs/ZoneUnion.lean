/-
  C12 at the specification level: the merged tree represents the union of the two entry lists
  (the receiver's apex SOA record set dropped when the merged-in zone brings an SOA; with the
  flat-list lemmas for that filter, `keepNonApexSoa`).  Then `Zones.KeyedByApex`, which
  `Zones::insert` / `insert_merge` keep (Props/C12), and `Zones::insert_merge` in one statement
  (`Zones.insertMerge_spec`).
-/
import Resolved.Proofs.ZoneBuild

namespace Resolved

open ZSpec

/-- `merge_zrs_helper` on represented maps.  Only the merged-in list must be duplicate-free:
    `mergeEntries` de-duplicates what it appends against the receiver, not the receiver. -/
theorem recRepr_mergeZrs (m1 m2 : RecMap) (z1 z2 : List ZoneRecord) (h1 : RecRepr m1 z1)
    (h2 : RecRepr m2 z2) (hn : z2.Nodup) : RecRepr (mergeZrs m1 m2) (mergeEntries z1 z2) := by
  refine ⟨RecMap.keys_nodup_mergeZrs m1 m2 h1.1, ?_⟩
  intro k
  rw [RecMap.get_mergeZrs m1 m2 k h2.1, ofType_mergeEntries, h1.2 k, h2.2 k]
  by_cases e1 : ofType z1 k = [] <;> by_cases e2 : ofType z2 k = []
  · simp [e1, e2, mergeEntries]
  · simp only [e1, e2, if_true, if_false]
    rw [mergeEntries_nil_left_nodup _ (ofType_nodup z2 k hn)]
    simp [e2]
  · simp only [e1, e2, if_true, if_false, mergeEntries_nil_right]
  · simp only [e1, e2, if_false]
    rw [if_neg]
    rw [mergeEntries_eq_nil_iff]; exact fun h => e1 h.1

theorem wildRepr_mergeWild (w1 w2 : Option RecMap) (z1 z2 : List ZoneRecord) (h1 : WildRepr w1 z1)
    (h2 : WildRepr w2 z2) (hn : z2.Nodup) :
    WildRepr (ZNode.mergeWild w1 w2) (mergeEntries z1 z2) := by
  cases w2 with
  | none =>
    rw [WildRepr.none_iff.mp h2]
    simpa [ZNode.mergeWild, mergeEntries_nil_right] using h1
  | some ow =>
    obtain ⟨hne, hr⟩ := h2
    cases w1 with
    | none =>
      rw [WildRepr.none_iff.mp h1]
      simp only [ZNode.mergeWild, mergeEntries_nil_left_nodup z2 hn]
      exact ⟨hne, hr⟩
    | some mw =>
      simp only [ZNode.mergeWild]
      refine ⟨?_, recRepr_mergeZrs mw ow z1 z2 h1.2 hr hn⟩
      rw [Ne, mergeEntries_eq_nil_iff]; exact fun h => hne h.2

theorem viewRepr_merge (v1 v2 : RecMap × Option RecMap) (es1 es2 : List Entry) (rel : List Label)
    (h1 : ViewRepr v1 es1 rel) (h2 : ViewRepr v2 es2 rel) :
    ViewRepr (mergeZrs v1.1 v2.1, ZNode.mergeWild v1.2 v2.2) (es1 ++ es2) rel := by
  unfold ViewRepr
  rw [recordsAt_append, recordsAt_append]
  exact ⟨recRepr_mergeZrs _ _ _ _ h1.1 h2.1 (recordsAt_nodup _ _ _),
    wildRepr_mergeWild _ _ _ _ h1.2 h2.2 (recordsAt_nodup _ _ _)⟩

/-- `ZoneRecords::merge` on represented trees.  Only the merged-in tree needs distinct child labels:
    `descend_merge` looks each label up in `b` once. -/
theorem treeRepr_merge (a b : ZNode) (es1 es2 : List Entry) (ha : TreeRepr a es1) (hb : TreeRepr b es2)
    (hname : a.nsdname = b.nsdname) (hk : ZNode.KeysNodup b) :
    TreeRepr (ZNode.merge a b) (es1 ++ es2) := by
  refine ⟨?_, ?_, ?_⟩
  · intro p n hp
    rw [ZNode.descend_merge p a b hk] at hp
    rw [ZNode.merge_nsdname]
    cases hda : a.descend p with
    | none =>
      cases hdb : b.descend p with
      | none => simp [hda, hdb] at hp
      | some y =>
        simp only [hda, hdb, Option.some.injEq] at hp; subst hp
        rw [hname]; exact hb.names p _ hdb
    | some x =>
      have hx := ha.names p x hda
      cases hdb : b.descend p with
      | none => simp only [hda, hdb, Option.some.injEq] at hp; subst hp; exact hx
      | some y =>
        simp only [hda, hdb, Option.some.injEq] at hp; subst hp
        rw [ZNode.merge_nsdname]; exact hx
  · intro p
    rw [ZNode.descend_merge p a b hk, existsNode_append, ← ha.exist p, ← hb.exist p]
    cases a.descend p <;> cases b.descend p <;> rfl
  · intro p
    have h1 := ha.recs p
    have h2 := hb.recs p
    have hm := viewRepr_merge _ _ es1 es2 p.reverse h1 h2
    unfold ZNode.baseView at h1 h2 hm ⊢
    rw [ZNode.descend_merge p a b hk]
    cases hda : a.descend p with
    | none =>
      cases hdb : b.descend p with
      | none => simpa [hda, hdb, mergeZrs, ZNode.mergeWild] using hm
      | some y =>
        simp only [hda, hdb] at h1 h2 ⊢
        have e1 := h1.1.nil_right
        have e2 : recordsAt es1 p.reverse true = [] := h1.2
        unfold ViewRepr at h2 ⊢
        rw [recordsAt_append, recordsAt_append, e1, e2,
          mergeEntries_nil_left_nodup _ (recordsAt_nodup _ _ _),
          mergeEntries_nil_left_nodup _ (recordsAt_nodup _ _ _)]
        exact h2
    | some x =>
      cases hdb : b.descend p with
      | none => simpa [hda, hdb, mergeZrs, ZNode.mergeWild] using hm
      | some y => simpa [hda, hdb, ZNode.view] using hm

/-- the entries that survive `dropApexSoa`: everything but SOA records owned by the apex itself. -/
def keepNonApexSoa (e : Entry) : Bool := !(e.rel.isEmpty && !e.wild && e.zr.rtype == RT_SOA)

theorem recRepr_filter_ne (m : RecMap) (zrs : List ZoneRecord) (k0 : Nat) (h : RecRepr m zrs) :
    RecRepr (m.filter (fun kv => kv.1 != k0)) (zrs.filter (fun z => z.rtype != k0)) := by
  refine ⟨?_, ?_⟩
  · have : (RecMap.keys (m.filter (fun kv => kv.1 != k0))).Sublist m.keys := by
      unfold RecMap.keys
      exact List.Sublist.map _ List.filter_sublist
    exact h.1.sublist this
  · intro k
    rw [RecMap.get_filter_ne, ofType_filter_ne]
    by_cases hk : k = k0
    · simp [hk]
    · simp only [hk, if_false]; exact h.2 k

theorem recordsAt_filter (p : Entry → Bool) (q : ZoneRecord → Bool) (es : List Entry) (rel : List Label)
    (wild : Bool) (h : ∀ e : Entry, e.rel = rel → e.wild = wild → p e = q e.zr) :
    recordsAt (es.filter p) rel wild = (recordsAt es rel wild).filter q := by
  unfold recordsAt
  rw [← eraseDups_filter, List.filter_map, List.filter_filter, List.filter_filter]
  congr 2
  apply List.filter_congr
  intro e _
  by_cases he : e.rel = rel ∧ e.wild = wild
  · rw [Function.comp, h e he.1 he.2, he.1, he.2, beq_self_eq_true, beq_self_eq_true, Bool.and_self,
      Bool.true_and, Bool.and_true]
  · have : (e.rel == rel && e.wild == wild) = false := by
      rw [Bool.and_eq_false_iff, beq_eq_false_iff_ne, beq_eq_false_iff_ne]
      exact Classical.not_and_iff_not_or_not.mp he
    rw [this, Bool.false_and, Bool.and_false]

theorem recordsAt_filter_keep (es : List Entry) (rel : List Label) (wild : Bool) :
    recordsAt (es.filter keepNonApexSoa) rel wild =
      if rel = [] ∧ wild = false then (recordsAt es rel wild).filter (fun z => z.rtype != RT_SOA)
      else recordsAt es rel wild := by
  split
  · rename_i h
    obtain ⟨rfl, rfl⟩ := h
    apply recordsAt_filter
    intro e h1 h2
    rw [keepNonApexSoa, h1, h2]; rfl
  · rename_i h
    rw [recordsAt_filter keepNonApexSoa (fun _ => true) es rel wild, List.filter_eq_self.mpr (fun _ _ => rfl)]
    intro e h1 h2
    rw [keepNonApexSoa]
    cases hr : e.rel with
    | cons _ _ => rfl
    | nil =>
      cases hw : e.wild with
      | true => rfl
      | false => exact absurd ⟨h1 ▸ hr, h2 ▸ hw⟩ h

theorem existsNode_filter_keep (es : List Entry) (rel : List Label) :
    existsNode (es.filter keepNonApexSoa) rel = existsNode es rel := by
  rw [Bool.eq_iff_iff, existsNode_iff, existsNode_iff]
  constructor
  · rintro (h | ⟨e, he, hs⟩)
    · exact Or.inl h
    · exact Or.inr ⟨e, (List.mem_filter.mp he).1, hs⟩
  · rintro (h | ⟨e, he, hs⟩)
    · exact Or.inl h
    · by_cases hk : keepNonApexSoa e = true
      · exact Or.inr ⟨e, List.mem_filter.mpr ⟨he, hk⟩, hs⟩
      · left
        cases hrel : e.rel with
        | nil => rw [hrel] at hs; exact List.suffix_nil.mp hs
        | cons x xs => simp [keepNonApexSoa, hrel] at hk

theorem dropApexSoa_descend (root : ZNode) (p : List Label) (hp : p ≠ []) :
    (Zone.dropApexSoa root).descend p = root.descend p := by
  cases root with
  | mk nsd this wild ch =>
    cases p with
    | nil => exact absurd rfl hp
    | cons l rest => simp [ZNode.descend_cons, Zone.dropApexSoa]

theorem dropApexSoa_nsdname (root : ZNode) : (Zone.dropApexSoa root).nsdname = root.nsdname := by
  cases root; rfl

theorem treeRepr_dropApexSoa (root : ZNode) (es : List Entry) (h : TreeRepr root es) :
    TreeRepr (Zone.dropApexSoa root) (es.filter keepNonApexSoa) := by
  have hnsd := dropApexSoa_nsdname root
  refine ⟨?_, ?_, ?_⟩
  · intro p n hp
    rw [hnsd]
    by_cases hpe : p = []
    · subst hpe
      simp only [ZNode.descend_nil, Option.some.injEq] at hp
      subst hp
      rw [hnsd]; exact h.names [] root rfl
    · rw [dropApexSoa_descend root p hpe] at hp
      exact h.names p n hp
  · intro p
    rw [existsNode_filter_keep, ← h.exist p]
    by_cases hpe : p = []
    · subst hpe; rfl
    · rw [dropApexSoa_descend root p hpe]
  · intro p
    have h1 := h.recs p
    unfold ViewRepr at h1 ⊢
    rw [recordsAt_filter_keep, recordsAt_filter_keep]
    by_cases hpe : p = []
    · subst hpe
      simp only [List.reverse_nil, true_and, if_true, Bool.true_eq_false, if_false]
      cases root with
      | mk nsd this wild ch =>
        simp only [ZNode.baseView, ZNode.descend_nil, ZNode.view, Zone.dropApexSoa, ZNode.this_mk,
          ZNode.wildcards_mk, List.reverse_nil] at h1 ⊢
        exact ⟨recRepr_filter_ne _ _ RT_SOA h1.1, h1.2⟩
    · have : ¬ p.reverse = [] := by simpa using hpe
      simp only [this, false_and, if_false]
      unfold ZNode.baseView at h1 ⊢
      rw [dropApexSoa_descend root p hpe]
      exact h1

/-- the entry list of `z.merge o`: the receiver's entries (minus its apex SOA records when the
    merged-in zone brings an SOA) followed by the merged-in zone's. -/
def unionEntries (es1 es2 : List Entry) (otherHasSoa : Bool) : List Entry :=
  (if otherHasSoa then es1.filter keepNonApexSoa else es1) ++ es2

theorem Zone.merge_eq (z o : Zone) :
    z.merge o =
      if z.apex = o.apex then
        some { apex := z.apex, soa := if o.soa.isSome then o.soa else z.soa,
               records := (if o.soa.isSome then Zone.dropApexSoa z.records else z.records).merge o.records }
      else none := by
  unfold Zone.merge
  by_cases h : z.apex = o.apex
  · rw [if_neg (not_not_intro h), if_pos h]; split <;> rfl
  · rw [if_pos h, if_neg h]

theorem Zone.repr_merge (z o m : Zone) (apex : Name) (s1 s2 : Option SOA) (es1 es2 : List Entry)
    (hz : Zone.Repr z apex s1 es1) (ho : Zone.Repr o apex s2 es2) (hk : ZNode.KeysNodup o.records)
    (hm : z.merge o = some m) :
    Zone.Repr m apex (if s2.isSome then s2 else s1) (unionEntries es1 es2 s2.isSome) := by
  rw [Zone.merge_eq, if_pos (hz.apex_eq.trans ho.apex_eq.symm), ho.soa_eq] at hm
  cases hm
  have hdn := dropApexSoa_nsdname z.records
  unfold unionEntries
  cases s2 with
  | some s =>
    exact ⟨hz.apex_eq, rfl, (ZNode.merge_nsdname _ _).trans (hdn.trans hz.root_name),
      treeRepr_merge _ _ _ _ (treeRepr_dropApexSoa _ _ hz.tree) ho.tree
        (hdn.trans (hz.root_name.trans ho.root_name.symm)) hk⟩
  | none =>
    exact ⟨hz.apex_eq, hz.soa_eq, (ZNode.merge_nsdname _ _).trans hz.root_name,
      treeRepr_merge _ _ _ _ hz.tree ho.tree (hz.root_name.trans ho.root_name.symm) hk⟩

namespace Zones

/-- every zone is stored under its own apex (what `Zones::insert` / `insert_merge` maintain). -/
def KeyedByApex (zs : Zones) : Prop := ∀ k z, (k, z) ∈ zs.zones → z.apex = k

/-- `hk`: the `unwrap()` on `merge` in `Zones::insert_merge` cannot fail as soon as what is stored
    under `o.apex` has that apex. -/
theorem insertMerge_spec {zs : Zones} (o : Zone)
    (hk : ∀ mine, lookup zs.zones o.apex = some mine → mine.apex = o.apex) :
    ∃ m, zs.insertMerge o = some ⟨setZone zs.zones o.apex m⟩ ∧ m.apex = o.apex ∧
      match lookup zs.zones o.apex with
      | some mine => mine.merge o = some m
      | none => m = o := by
  unfold insertMerge
  cases hl : lookup zs.zones o.apex with
  | none => exact ⟨o, rfl, rfl, rfl⟩
  | some mine =>
    have hm := Zone.merge_eq mine o
    rw [if_pos (hk mine hl)] at hm
    refine ⟨_, ?_, ?_, hm⟩
    · simp only [hm]
    · exact hk mine hl

end Zones

end Resolved
