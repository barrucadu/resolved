/-
  Lemmas about the `Name` model (Model/Name.lean): ASCII lower-casing and `Label::try_from`; `from_labels`
  characterised by `LabelsShape` and the encoded length `sumLen`; `is_subdomain_of` as suffix of the labels;
  `splitDot` and its inverse `joinDots`; `to_dotted_string` on ASCII labels; `from_dotted_string` and
  `from_relative_dotted_string` by the shape of the text, on the model side and on the side of the
  independent specification `dottedOk` / `dottedSpecLabels` (Spec/NameTextSpec.lean), and the two sides
  as one equation (`Name.fromDotted_eq_spec`).
-/
import Resolved.Model.Name
import Resolved.Spec.NameTextSpec
import Resolved.Proofs.Split

namespace Resolved

open Gen

/-! ## limits and lengths -/

theorem LABEL_MAX_LEN_eq : LABEL_MAX_LEN = 63 := rfl
theorem DOMAINNAME_MAX_LEN_eq : DOMAINNAME_MAX_LEN = 255 := rfl

def sumLen (ls : List Label) : Nat := (ls.map List.length).sum

@[simp] theorem sumLen_nil : sumLen [] = 0 := rfl
@[simp] theorem sumLen_cons (l : Label) (ls : List Label) : sumLen (l :: ls) = l.length + sumLen ls := by
  simp [sumLen]
@[simp] theorem sumLen_append (a b : List Label) : sumLen (a ++ b) = sumLen a + sumLen b := by
  simp [sumLen]

theorem sumLen_map_lower (cs : List (List UInt8)) :
    sumLen (cs.map (·.map lowerByte)) = sumLen cs := by
  induction cs with
  | nil => rfl
  | cons c cs ih => rw [List.map_cons, sumLen_cons, sumLen_cons, ih, List.length_map]

/-- The encoded length counted label by label: one length octet each. -/
theorem sum_map_length_succ (cs : List (List UInt8)) :
    (cs.map (·.length + 1)).sum = cs.length + sumLen cs := by
  induction cs with
  | nil => rfl
  | cons c cs ih => rw [List.map_cons, List.sum_cons, ih, List.length_cons, sumLen_cons]; omega

/-! ## lower-casing and `Label::try_from` -/

def isUpper (b : UInt8) : Prop := 65 ≤ b.toNat ∧ b.toNat ≤ 90

instance (b : UInt8) : Decidable (isUpper b) := by unfold isUpper; infer_instance

theorem lowerByte_not_upper (b : UInt8) : ¬ isUpper (lowerByte b) := by
  unfold lowerByte isUpper
  split
  · rename_i h
    have hb : b.toNat < 256 := b.toNat_lt
    have : (UInt8.ofNat (b.toNat + 32)).toNat = b.toNat + 32 := by
      simp; omega
    omega
  · rename_i h; exact h

theorem lowerByte_ascii_ne_dot (b : UInt8) (h1 : b.toNat < 128) (h2 : b ≠ 46) :
    (lowerByte b).toNat < 128 ∧ lowerByte b ≠ 46 := by
  unfold lowerByte
  split
  · rename_i hu
    have : (UInt8.ofNat (b.toNat + 32)).toNat = b.toNat + 32 := by simp; omega
    refine ⟨by omega, ?_⟩
    intro he
    have := congrArg UInt8.toNat he
    simp at this
    omega
  · exact ⟨h1, h2⟩

theorem lowerByte_of_not_upper (b : UInt8) (h : ¬ isUpper b) : lowerByte b = b := by
  unfold lowerByte; unfold isUpper at h; simp [h]

/-- What `Label::try_from` guarantees of a label. -/
def LabelOK (l : Label) : Prop := l.length ≤ LABEL_MAX_LEN ∧ ∀ b ∈ l, ¬ isUpper b

instance (l : Label) : Decidable (LabelOK l) := by unfold LabelOK; infer_instance

theorem labelOK_map_lowerByte {bs : List UInt8} (h : bs.length ≤ 63) : LabelOK (bs.map lowerByte) := by
  refine ⟨by rw [List.length_map, LABEL_MAX_LEN_eq]; exact h, ?_⟩
  intro b hb
  obtain ⟨a, _, rfl⟩ := List.mem_map.mp hb
  exact lowerByte_not_upper a

theorem Label.tryFrom_eq (bs : List UInt8) :
    Label.tryFrom bs = if bs.length ≤ 63 then some (bs.map lowerByte) else none := by
  unfold Label.tryFrom
  rw [LABEL_MAX_LEN_eq]
  by_cases h : bs.length ≤ 63
  · rw [if_pos h, if_neg (Nat.not_lt.mpr h)]
  · rw [if_neg h, if_pos (Nat.lt_of_not_le h)]

theorem Label.tryFrom_some {bs : List UInt8} {l : Label} (h : Label.tryFrom bs = some l) :
    l = bs.map lowerByte ∧ bs.length ≤ LABEL_MAX_LEN ∧ LabelOK l := by
  rw [Label.tryFrom_eq] at h
  split at h
  · rename_i hlen
    cases h
    exact ⟨rfl, LABEL_MAX_LEN_eq ▸ hlen, labelOK_map_lowerByte hlen⟩
  · cases h

theorem LabelOK.map_lower {l : Label} (h : LabelOK l) : l.map lowerByte = l :=
  (List.map_congr_left fun b hb => lowerByte_of_not_upper b (h.2 b hb)).trans (List.map_id l)

theorem Label.tryFrom_of_LabelOK {l : Label} (h : LabelOK l) : Label.tryFrom l = some l := by
  rw [Label.tryFrom_eq, if_pos (LABEL_MAX_LEN_eq ▸ h.1), h.map_lower]

/-! ## `from_labels` -/

/-- Shape accepted by `from_labels`. -/
def LabelsShape (ls : List Label) : Prop :=
  ls ≠ [] ∧ ls.getLast? = some [] ∧ ∀ l ∈ ls.dropLast, l ≠ []

instance (ls : List Label) : Decidable (LabelsShape ls) := by unfold LabelsShape; infer_instance

theorem Name.fromLabelsLoop_true (ls : List Label) (len : Nat) :
    Name.fromLabelsLoop ls true len = if ls = [] then some (true, len) else none := by
  cases ls <;> simp [Name.fromLabelsLoop]

theorem Name.fromLabelsLoop_false (ls : List Label) (len : Nat) :
    Name.fromLabelsLoop ls false len =
      if ∀ l ∈ ls.dropLast, l ≠ [] then some (decide (ls.getLast? = some []), len + sumLen ls)
      else none := by
  induction ls generalizing len with
  | nil => simp [Name.fromLabelsLoop]
  | cons l ls ih =>
    simp only [Name.fromLabelsLoop, Bool.false_eq_true, if_false, Bool.false_or]
    by_cases hl : l = []
    · subst hl
      simp only [List.isEmpty_nil, Name.fromLabelsLoop_true]
      cases ls with
      | nil => simp
      | cons m ms => simp
    · have : l.isEmpty = false := by simp [hl]
      rw [this, ih]
      cases ls with
      | nil => simp [hl]
      | cons m ms =>
        simp only [List.dropLast_cons_cons, List.mem_cons, forall_eq_or_imp, hl, ne_eq, not_false_eq_true,
          true_and, List.getLast?_cons_cons, sumLen_cons]
        split <;> simp [Nat.add_assoc]

theorem Name.fromLabels_eq (ls : List Label) :
    Name.fromLabels ls =
      if LabelsShape ls ∧ ls.length + sumLen ls ≤ DOMAINNAME_MAX_LEN then
        some ⟨ls, ls.length + sumLen ls⟩
      else none := by
  cases ls with
  | nil => exact (if_neg fun h => h.1.1 rfl).symm
  | cons l ls =>
    unfold Name.fromLabels LabelsShape
    rw [Name.fromLabelsLoop_false]
    simp only [List.isEmpty_cons, Bool.false_eq_true, if_false]
    by_cases h1 : ∀ x ∈ (l :: ls).dropLast, x ≠ []
    · rw [if_pos h1]
      simp only [Bool.and_eq_true, decide_eq_true_eq]
      by_cases hc : (l :: ls).getLast? = some [] ∧ (l :: ls).length + sumLen (l :: ls) ≤ DOMAINNAME_MAX_LEN
      · rw [if_pos hc, if_pos ⟨⟨List.cons_ne_nil _ _, hc.1, h1⟩, hc.2⟩]
      · rw [if_neg hc, if_neg (fun h => hc ⟨h.1.2.1, h.2⟩)]
    · rw [if_neg h1, if_neg (fun h => h1 h.1.2.2)]

theorem Name.fromLabels_eq_some {ls : List Label} {n : Name} :
    Name.fromLabels ls = some n ↔
      LabelsShape ls ∧ ls.length + sumLen ls ≤ 255 ∧ n = ⟨ls, ls.length + sumLen ls⟩ := by
  rw [Name.fromLabels_eq, DOMAINNAME_MAX_LEN_eq]
  split
  · rename_i h; exact ⟨fun e => ⟨h.1, h.2, (Option.some.inj e).symm⟩, fun e => e.2.2 ▸ rfl⟩
  · rename_i h; exact ⟨fun e => (nomatch e), fun e => (h ⟨e.1, e.2.1⟩).elim⟩

/-- `DomainName` computes `len` from the labels; the model stores it.  A name whose `len` is its encoded length is
    therefore determined by its labels. -/
theorem Name.eq_of_labels {n m : Name} (hn : n.len = n.labels.length + sumLen n.labels)
    (hm : m.len = m.labels.length + sumLen m.labels) (h : n.labels = m.labels) : n = m := by
  cases n; cases m
  simp only at hn hm h
  rw [hn, hm, h]

theorem Name.fromLabels_self {n : Name} :
    Name.fromLabels n.labels = some n ↔
      LabelsShape n.labels ∧ n.len = n.labels.length + sumLen n.labels ∧ n.len ≤ 255 := by
  rw [Name.fromLabels_eq_some]
  constructor
  · rintro ⟨h1, h2, h3⟩
    have : n.len = n.labels.length + sumLen n.labels := congrArg Name.len h3
    exact ⟨h1, this, this ▸ h2⟩
  · rintro ⟨h1, h2, h3⟩
    exact ⟨h1, h2 ▸ h3, Name.eq_of_labels h2 rfl rfl⟩

/-- Well formed (this left side is the body of `NameWF`, Spec/Wire.lean, and of `WFName`, Props/C16.lean) is: built by
    `from_labels` from labels that `Label::try_from` returns. -/
theorem nameWF_iff {n : Name} :
    (LabelsShape n.labels ∧ (∀ l ∈ n.labels, LabelOK l) ∧
      n.len = n.labels.length + sumLen n.labels ∧ n.len ≤ DOMAINNAME_MAX_LEN) ↔
      Name.fromLabels n.labels = some n ∧ ∀ l ∈ n.labels, LabelOK l := by
  rw [Name.fromLabels_self, DOMAINNAME_MAX_LEN_eq]
  exact ⟨fun ⟨a, b, c, d⟩ => ⟨⟨a, c, d⟩, b⟩, fun ⟨⟨a, c, d⟩, b⟩ => ⟨a, b, c, d⟩⟩

theorem Name.fromLabels_labels {ls : List Label} {n : Name} (h : Name.fromLabels ls = some n) : n.labels = ls :=
  (Name.fromLabels_eq_some.mp h).2.2 ▸ rfl

theorem Name.fromLabels_self_of {ls : List Label} {n : Name} (h : Name.fromLabels ls = some n) :
    Name.fromLabels n.labels = some n :=
  (Name.fromLabels_labels h).symm ▸ h

theorem Name.fromLabels_root : Name.fromLabels [[]] = some Name.root := by decide

theorem Name.fromLabels_suffix_isSome (a b : List Label) (hb : b ≠ [])
    (h : (Name.fromLabels (a ++ b)).isSome) : (Name.fromLabels b).isSome := by
  obtain ⟨n, hn⟩ := Option.isSome_iff_exists.mp h
  obtain ⟨⟨_, hlast, hmid⟩, hlen, _⟩ := Name.fromLabels_eq_some.mp hn
  refine Option.isSome_iff_exists.mpr ⟨_, Name.fromLabels_eq_some.mpr ⟨⟨hb, ?_, ?_⟩, ?_, rfl⟩⟩
  · rw [List.getLast?_append] at hlast
    cases hg : b.getLast? with
    | none => simp [List.getLast?_eq_none_iff, hb] at hg
    | some x => simpa [hg] using hlast
  · intro l hl
    apply hmid
    rw [List.dropLast_append_of_ne_nil hb]
    exact List.mem_append_right _ hl
  · simp only [List.length_append, sumLen_append] at hlen
    omega

theorem LabelsShape.cons {x : Label} {rest : List Label} (hx : x ≠ []) (h : LabelsShape rest) :
    LabelsShape (x :: rest) := by
  obtain ⟨hne, hlast, hmid⟩ := h
  cases rest with
  | nil => exact absurd rfl hne
  | cons y ys =>
    refine ⟨by simp, ?_, ?_⟩
    · rw [List.getLast?_cons_cons]; exact hlast
    · intro l hl
      rw [List.dropLast_cons_cons] at hl
      rcases List.mem_cons.mp hl with rfl | hl
      · exact hx
      · exact hmid l hl

theorem LabelsShape.of_cons (l : Label) (ls : List Label) (h : LabelsShape (l :: ls)) :
    (ls = [] ∧ l = []) ∨ (ls ≠ [] ∧ l ≠ [] ∧ LabelsShape ls) := by
  obtain ⟨_, hlast, hne⟩ := h
  cases ls with
  | nil => left; simpa using hlast
  | cons m ms =>
    right
    refine ⟨by simp, ?_, by simp, ?_, ?_⟩
    · exact hne l (by simp)
    · simpa using hlast
    · intro x hx; exact hne x (by simp [hx])

theorem LabelsShape.concat_nil_iff (ls : List Label) : LabelsShape (ls ++ [[]]) ↔ ∀ l ∈ ls, l ≠ [] := by
  unfold LabelsShape
  rw [List.getLast?_concat, List.dropLast_concat]
  exact ⟨fun h => h.2.2, fun h => ⟨List.concat_ne_nil _ _, rfl, h⟩⟩

theorem LabelsShape.eq_concat {ls : List Label} (h : LabelsShape ls) :
    ∃ pre, ls = pre ++ [[]] ∧ ∀ l ∈ pre, l ≠ [] := by
  obtain ⟨pre, rfl⟩ := List.getLast?_eq_some_iff.mp h.2.1
  exact ⟨pre, rfl, (LabelsShape.concat_nil_iff pre).mp h⟩

theorem Name.fromLabels_concat_nil (ls : List Label) :
    Name.fromLabels (ls ++ [[]]) =
      if (∀ l ∈ ls, l ≠ []) ∧ ls.length + 1 + sumLen ls ≤ 255 then
        some ⟨ls ++ [[]], ls.length + 1 + sumLen ls⟩
      else none := by
  have hlen : (ls ++ [[]]).length + sumLen (ls ++ [[]]) = ls.length + 1 + sumLen ls := by
    rw [List.length_append, sumLen_append]
    rfl
  rw [Name.fromLabels_eq, hlen, DOMAINNAME_MAX_LEN_eq]
  simp only [LabelsShape.concat_nil_iff]

/-! ## `is_subdomain_of` -/

theorem Name.isSubdomainOf_iff {n o : Name} : n.isSubdomainOf o = true ↔ o.labels <:+ n.labels :=
  List.isSuffixOf_iff_suffix

theorem Name.isSubdomainOf_refl (n : Name) : n.isSubdomainOf n = true :=
  Name.isSubdomainOf_iff.mpr (List.suffix_refl _)

theorem LabelsShape.isSubdomainOf_root {n : Name} (h : LabelsShape n.labels) : n.isSubdomainOf Name.root = true :=
  let ⟨pre, hp, _⟩ := h.eq_concat
  Name.isSubdomainOf_iff.mpr ⟨pre, hp.symm⟩

/-! ## the label loop of `from_dotted_string` -/

theorem Name.dottedChunksToLabels_eq (cs : List (List UInt8)) :
    Name.dottedChunksToLabels cs =
      if (∀ c ∈ cs.dropLast, c ≠ []) ∧ (∀ c ∈ cs, c.length ≤ 63) then some (cs.map (·.map lowerByte))
      else none := by
  induction cs with
  | nil => rfl
  | cons c cs ih =>
    cases cs with
    | nil =>
      rw [Name.dottedChunksToLabels, Label.tryFrom_eq]
      simp only [List.dropLast_singleton, List.not_mem_nil, false_imp_iff, implies_true, true_and,
        List.mem_singleton, forall_eq, List.map_cons, List.map_nil]
      split <;> rfl
    | cons d ds =>
      rw [Name.dottedChunksToLabels, Label.tryFrom_eq, ih]
      · simp only [List.dropLast_cons_cons, List.forall_mem_cons (l := (d :: ds).dropLast),
          List.forall_mem_cons (a := c) (l := d :: ds), List.isEmpty_iff]
        by_cases h0 : c = []
        · rw [if_pos h0, if_neg (fun h => h.1.1 h0)]
        by_cases h63 : c.length ≤ 63
        · rw [if_neg h0, if_pos h63]
          by_cases hr : (∀ x ∈ (d :: ds).dropLast, x ≠ []) ∧ ∀ x ∈ d :: ds, x.length ≤ 63
          · rw [if_pos hr, if_pos ⟨⟨h0, hr.1⟩, h63, hr.2⟩]; rfl
          · rw [if_neg hr, if_neg (fun h => hr ⟨h.1.2, h.2.2⟩)]; rfl
        · rw [if_neg h0, if_neg h63]
          exact (if_neg (fun h => h63 h.2.1)).symm
      · intro h; cases h

/-! ## `Name.splitDot` -/

theorem Name.splitDot_nil : Name.splitDot [] = [[]] := rfl

theorem Name.splitDot_eq_on (s : List UInt8) : Name.splitDot s = Split.on (· = 46) s := by
  induction s with
  | nil => rfl
  | cons b bs ih =>
    rw [Name.splitDot, Split.on, ih]
    cases Split.on (· = 46) bs <;> rfl

theorem Name.splitDot_ne_nil (s : List UInt8) : Name.splitDot s ≠ [] :=
  Name.splitDot_eq_on s ▸ Split.on_ne_nil _ s

theorem Name.splitDot_dot_cons (s : List UInt8) : Name.splitDot (46 :: s) = [] :: Name.splitDot s := by
  rw [Name.splitDot, if_pos rfl]

theorem Name.splitDot_cons_of_ne {b : UInt8} (hb : b ≠ 46) {bs c : List UInt8} {cs : List (List UInt8)}
    (h : Name.splitDot bs = c :: cs) : Name.splitDot (b :: bs) = (b :: c) :: cs := by
  rw [Name.splitDot, if_neg hb, h]

theorem Name.splitDot_append_dot (a r : List UInt8) :
    Name.splitDot (a ++ 46 :: r) = Name.splitDot a ++ Name.splitDot r := by
  simp only [Name.splitDot_eq_on]
  exact Split.on_append_sep (p := (· = 46)) a rfl r

theorem Name.splitDot_of_noDot {l : List UInt8} (h : ∀ b ∈ l, b ≠ 46) : Name.splitDot l = [l] :=
  (Name.splitDot_eq_on l).trans (Split.on_of_none h)

theorem Name.splitDot_append_dot_of_noDot {l : List UInt8} (x : List UInt8) (h : ∀ b ∈ l, b ≠ 46) :
    Name.splitDot (l ++ 46 :: x) = l :: Name.splitDot x := by
  simp only [Name.splitDot_eq_on]
  exact Split.on_append_sep_of_none (p := (· = 46)) h rfl x

theorem Name.mem_splitDot (s : List UInt8) : ∀ c ∈ Name.splitDot s, ∀ b ∈ c, b ∈ s ∧ b ≠ 46 :=
  Name.splitDot_eq_on s ▸ Split.mem_on s

/-! ## `Name.joinDots`, the inverse of `splitDot` on dot-free labels -/

/-- `l1.l2.….ln` as octets (no final dot). -/
def Name.joinDots : List Label → List UInt8
  | [] => []
  | [l] => l
  | l :: ls => l ++ 46 :: Name.joinDots ls

theorem Name.joinDots_cons (l : Label) {ls : List Label} (h : ls ≠ []) :
    Name.joinDots (l :: ls) = l ++ 46 :: Name.joinDots ls := by
  cases ls with
  | nil => exact absurd rfl h
  | cons m ms => rfl

theorem Name.joinDots_append {a b : List Label} (ha : a ≠ []) (hb : b ≠ []) :
    Name.joinDots (a ++ b) = Name.joinDots a ++ 46 :: Name.joinDots b := by
  induction a with
  | nil => exact absurd rfl ha
  | cons l ls ih =>
    cases ls with
    | nil => exact Name.joinDots_cons l hb
    | cons m ms =>
      rw [List.cons_append,
        Name.joinDots_cons l (List.append_ne_nil_of_left_ne_nil (List.cons_ne_nil m ms) b),
        ih (List.cons_ne_nil _ _), Name.joinDots_cons l (List.cons_ne_nil m ms), List.append_assoc]
      rfl

theorem Name.splitDot_joinDots {ls : List Label} (hne : ls ≠ []) (h : ∀ l ∈ ls, ∀ b ∈ l, b ≠ 46) :
    Name.splitDot (Name.joinDots ls) = ls := by
  induction ls with
  | nil => exact absurd rfl hne
  | cons l ls ih =>
    cases ls with
    | nil => exact Name.splitDot_of_noDot (h l List.mem_cons_self)
    | cons m ms =>
      rw [Name.joinDots_cons l (List.cons_ne_nil m ms),
        Name.splitDot_append_dot_of_noDot _ (h l List.mem_cons_self),
        ih (List.cons_ne_nil m ms) (fun x hx => h x (List.mem_cons_of_mem _ hx))]

theorem Name.joinDots_ne_nil {ls : List Label} (hne : ls ≠ []) (hl : ∀ l ∈ ls, l ≠ []) :
    Name.joinDots ls ≠ [] := by
  cases ls with
  | nil => exact absurd rfl hne
  | cons l rest =>
    have hl0 : l ≠ [] := hl l List.mem_cons_self
    cases rest with
    | nil => exact hl0
    | cons m r => exact fun h0 => hl0 (List.append_eq_nil_iff.mp h0).1

theorem Name.joinDots_getLast {ls : List Label} (hne : ls ≠ []) (hl : ∀ l ∈ ls, l ≠ []) :
    ∃ b l, (Name.joinDots ls).getLast? = some b ∧ l ∈ ls ∧ b ∈ l := by
  induction ls with
  | nil => exact absurd rfl hne
  | cons l rest ih =>
    cases rest with
    | nil =>
      have hg := List.getLast?_eq_some_getLast (hl l List.mem_cons_self)
      exact ⟨_, l, hg, List.mem_cons_self, List.mem_of_getLast? hg⟩
    | cons m r =>
      obtain ⟨b, l', hb, hl'm, hbl⟩ :=
        ih (List.cons_ne_nil m r) (fun x hx => hl x (List.mem_cons_of_mem _ hx))
      refine ⟨b, l', ?_, List.mem_cons_of_mem _ hl'm, hbl⟩
      have : (46 :: Name.joinDots (m :: r)).getLast? = some b := by
        rw [List.getLast?_cons, hb]
        rfl
      rw [Name.joinDots_cons l (List.cons_ne_nil m r), List.getLast?_append, this]
      rfl

theorem Name.joinDots_getLast?_ne_dot {ls : List Label} (hne : ls ≠ []) (hl : ∀ l ∈ ls, l ≠ [])
    (hnd : ∀ l ∈ ls, ∀ b ∈ l, b ≠ 46) : (Name.joinDots ls).getLast? ≠ some 46 := by
  obtain ⟨b, l, h1, hl', hb⟩ := Name.joinDots_getLast hne hl
  rw [h1]
  exact fun he => hnd l hl' b hb (Option.some.inj he)

theorem Name.joinDots_eq_singleton {ls : List Label} (hl : ∀ l ∈ ls, l ≠ []) {b : UInt8}
    (h : Name.joinDots ls = [b]) : ls = [[b]] := by
  cases ls with
  | nil => cases h
  | cons l rest =>
    cases rest with
    | nil => exact congrArg (· :: []) h
    | cons m ms =>
      rw [Name.joinDots_cons l (List.cons_ne_nil m ms)] at h
      cases l with
      | nil => exact absurd rfl (hl [] List.mem_cons_self)
      | cons c cs =>
        -- `c :: (cs ++ 46 :: …)` has at least two octets
        have := congrArg List.length h
        simp only [List.cons_append, List.length_cons, List.length_append, List.length_nil] at this
        omega

theorem Name.joinDots_forall {P : UInt8 → Prop} (h46 : P 46) {ls : List Label}
    (h : ∀ l ∈ ls, ∀ b ∈ l, P b) : ∀ b ∈ Name.joinDots ls, P b := by
  induction ls with
  | nil => exact fun b hb => nomatch hb
  | cons l ls ih =>
    cases ls with
    | nil => exact h l List.mem_cons_self
    | cons m ms =>
      intro b hb
      rw [Name.joinDots_cons l (List.cons_ne_nil m ms), List.mem_append, List.mem_cons] at hb
      rcases hb with hb | rfl | hb
      · exact h l List.mem_cons_self b hb
      · exact h46
      · exact ih (fun x hx => h x (List.mem_cons_of_mem _ hx)) b hb

theorem Name.joinDots_head? {l : Label} (ls : List Label) (hl : l ≠ []) :
    (Name.joinDots (l :: ls)).head? = l.head? := by
  cases ls with
  | nil => rfl
  | cons m ms =>
    rw [Name.joinDots_cons l (List.cons_ne_nil m ms)]
    cases l with
    | nil => exact absurd rfl hl
    | cons b bs => rfl

/-! ## `to_dotted_string` on ASCII labels -/

theorem Name.flatMap_octetAsCharUtf8_ascii {l : Label} (h : ∀ b ∈ l, b.toNat < 128) :
    l.flatMap Name.octetAsCharUtf8 = l := by
  induction l with
  | nil => rfl
  | cons b bs ih =>
    rw [List.flatMap_cons, ih (fun c hc => h c (List.mem_cons_of_mem _ hc)), Name.octetAsCharUtf8,
      if_pos (h b List.mem_cons_self)]
    rfl

theorem Name.dottedLabels_eq_joinDots {ls : List Label} (hne : ls ≠ [])
    (h : ∀ l ∈ ls, ∀ b ∈ l, b.toNat < 128) (first : Bool) :
    Name.dottedLabels ls first = (if first then [] else [46]) ++ Name.joinDots ls := by
  induction ls generalizing first with
  | nil => exact absurd rfl hne
  | cons l ls ih =>
    rw [Name.dottedLabels, Name.flatMap_octetAsCharUtf8_ascii (h l List.mem_cons_self)]
    cases ls with
    | nil => rw [Name.dottedLabels, List.append_nil]; rfl
    | cons m ms =>
      rw [ih (List.cons_ne_nil m ms) (fun x hx => h x (List.mem_cons_of_mem _ hx)) false,
        Name.joinDots_cons l (List.cons_ne_nil m ms), List.append_assoc]
      rfl

theorem Name.toDotted_of_isRoot {n : Name} (h : n.isRoot = true) : n.toDotted = [46] := by
  rw [Name.toDotted, h]; rfl

theorem Name.toDotted_eq_joinDots {n : Name} {l : Label} {ls : List Label} (hn : n.labels = l :: ls) (hl : l ≠ [])
    (h : ∀ x ∈ n.labels, ∀ b ∈ x, b.toNat < 128) : n.isRoot = false ∧ n.toDotted = Name.joinDots n.labels := by
  have hr : n.isRoot = false := by
    unfold Name.isRoot
    rw [hn]
    show (_ && l.isEmpty) = false
    rw [List.isEmpty_eq_false_iff.mpr hl, Bool.and_false]
  refine ⟨hr, ?_⟩
  rw [Name.toDotted, hr, Name.dottedLabels_eq_joinDots (hn ▸ List.cons_ne_nil l ls) h true]
  rfl

/-! ## `from_dotted_string` against the text specification (Spec/NameTextSpec.lean) -/

theorem asciiLower_fun_eq : asciiLower = lowerByte := by
  funext b
  unfold asciiLower lowerByte
  by_cases h : 65 ≤ b.toNat ∧ b.toNat ≤ 90
  · simp [h, UInt8.ofNat_add]
  · have : (decide (65 ≤ b.toNat) && decide (b.toNat ≤ 90)) = false := by
      simpa using h
    simp [h, this]

theorem toNat_beq_dot (b : UInt8) : (b.toNat == 46) = decide (b = 46) := by
  by_cases h : b = 46
  · subst h; rfl
  · have : b.toNat ≠ 46 := fun h2 => h (UInt8.toNat_inj.mp h2)
    simp [h, this]

/-! ### `splitDots` (specification, `foldl`) = `splitDot` (model, recursion) -/

/-- the step of the specification's `foldl`. -/
def splitDotsStep (p : List UInt8 × List (List UInt8)) (b : UInt8) : List UInt8 × List (List UInt8) :=
  if b.toNat == 46 then ([], p.2 ++ [p.1]) else (p.1 ++ [b], p.2)

theorem splitDots_eq_foldl (s : List UInt8) :
    splitDots s = (s.foldl splitDotsStep ([], [])).2 ++ [(s.foldl splitDotsStep ([], [])).1] := rfl

theorem splitDotsStep_dot (cur : List UInt8) (acc : List (List UInt8)) :
    splitDotsStep (cur, acc) 46 = ([], acc ++ [cur]) := rfl

theorem splitDotsStep_other (cur : List UInt8) (acc : List (List UInt8)) {b : UInt8} (hb : b ≠ 46) :
    splitDotsStep (cur, acc) b = (cur ++ [b], acc) := by
  simp [splitDotsStep, toNat_beq_dot, hb]

theorem foldl_splitDotsStep (s : List UInt8) :
    ∀ cur acc c cs, Name.splitDot s = c :: cs →
      (s.foldl splitDotsStep (cur, acc)).2 ++ [(s.foldl splitDotsStep (cur, acc)).1] = acc ++ (cur ++ c) :: cs := by
  induction s with
  | nil =>
    intro cur acc c cs h
    cases h
    rw [List.append_nil]
    rfl
  | cons b bs ih =>
    intro cur acc c cs h
    obtain ⟨c', cs', hs⟩ := List.exists_cons_of_ne_nil (Name.splitDot_ne_nil bs)
    rw [List.foldl_cons]
    by_cases hb : b = 46
    · subst hb
      rw [Name.splitDot_dot_cons, hs] at h
      cases h
      rw [splitDotsStep_dot, ih _ _ _ _ hs]
      simp
    · rw [Name.splitDot_cons_of_ne hb hs] at h
      cases h
      rw [splitDotsStep_other cur acc hb, ih _ _ _ _ hs]
      simp

theorem splitDots_eq_splitDot (s : List UInt8) : splitDots s = Name.splitDot s := by
  obtain ⟨c, cs, hs⟩ := List.exists_cons_of_ne_nil (Name.splitDot_ne_nil s)
  rw [splitDots_eq_foldl, foldl_splitDotsStep s [] [] c cs hs, hs]
  rfl

/-- Proved through the specification's `foldl`, which exposes the last chunk (the model's recursion exposes the first). -/
theorem Name.splitDot_snoc_of_ne (t : List UInt8) (b : UInt8) (hb : b ≠ 46) :
    ∃ init last, Name.splitDot (t ++ [b]) = init ++ [last ++ [b]] := by
  refine ⟨(t.foldl splitDotsStep ([], [])).2, (t.foldl splitDotsStep ([], [])).1, ?_⟩
  rw [← splitDots_eq_splitDot, splitDots_eq_foldl, List.foldl_append, List.foldl_cons, List.foldl_nil,
    splitDotsStep_other _ _ hb]

/-! ### `fromDotted` by the shape of the text -/

/-- The condition under which a text `t ++ "."` is accepted, on the chunks of `t`: what both `from_dotted_string`
    (`Name.fromDotted_snoc_dot`) and the specification (`dottedOk_snoc_dot`) come to. -/
def DottedChunksOk (cs : List (List UInt8)) : Prop :=
  (∀ c ∈ cs, c ≠ [] ∧ c.length ≤ 63) ∧ cs.length + 1 + sumLen cs ≤ 255

instance (cs : List (List UInt8)) : Decidable (DottedChunksOk cs) := by unfold DottedChunksOk; infer_instance

theorem dottedText_cases (s : List UInt8) :
    s = [] ∨ s = [46] ∨ (∃ t, t ≠ [] ∧ s = t ++ [46]) ∨ (∃ t b, b ≠ 46 ∧ s = t ++ [b]) := by
  rcases List.eq_nil_or_concat s with h | ⟨t, b, h⟩
  · exact Or.inl h
  · by_cases hb : b = 46
    · subst hb
      cases t with
      | nil => exact Or.inr (Or.inl (by simpa using h))
      | cons a as => exact Or.inr (Or.inr (Or.inl ⟨a :: as, by simp, by simpa using h⟩))
    · exact Or.inr (Or.inr (Or.inr ⟨t, b, hb, by simpa using h⟩))

theorem snoc_dot_ne_dot {t : List UInt8} (ht : t ≠ []) : t ++ [46] ≠ [46] :=
  fun h => ht (List.append_left_eq_self.mp h)

theorem snoc_ne_dot (t : List UInt8) {b : UInt8} (hb : b ≠ 46) : t ++ [b] ≠ [46] := by
  intro h
  have := congrArg List.getLast? h
  rw [List.getLast?_concat] at this
  exact hb (Option.some.inj this)

theorem Name.fromLabels_lowered_chunks (cs : List (List UInt8)) :
    Name.fromLabels (cs.map (·.map lowerByte) ++ [[]]) =
      if (∀ c ∈ cs, c ≠ []) ∧ cs.length + 1 + sumLen cs ≤ 255 then
        some ⟨cs.map (·.map lowerByte) ++ [[]], cs.length + 1 + sumLen cs⟩
      else none := by
  have h := Name.fromLabels_concat_nil (cs.map (·.map lowerByte))
  simp only [List.length_map, sumLen_map_lower, List.forall_mem_map, ne_eq, List.map_eq_nil_iff] at h
  exact h

theorem Name.fromDotted_snoc_dot (t : List UInt8) (ht : t ≠ []) :
    Name.fromDotted (t ++ [46]) =
      if DottedChunksOk (Name.splitDot t) then
        some ⟨(Name.splitDot t).map (·.map lowerByte) ++ [[]], (Name.splitDot t).length + 1 + sumLen (Name.splitDot t)⟩
      else none := by
  unfold Name.fromDotted
  rw [if_neg (snoc_dot_ne_dot ht), Name.splitDot_append_dot t [],
    Name.splitDot_nil, Name.dottedChunksToLabels_eq, List.dropLast_concat, List.map_append]
  generalize Name.splitDot t = cs
  by_cases hok : DottedChunksOk cs
  · have h63 : ∀ c ∈ cs ++ [[]], c.length ≤ 63 := by
      intro c hc
      rcases List.mem_append.mp hc with hc | hc
      · exact (hok.1 c hc).2
      · rw [List.mem_singleton.mp hc]; exact Nat.zero_le _
    rw [if_pos hok, if_pos ⟨fun c hc => (hok.1 c hc).1, h63⟩]
    exact (Name.fromLabels_lowered_chunks cs).trans (if_pos ⟨fun c hc => (hok.1 c hc).1, hok.2⟩)
  · rw [if_neg hok]
    by_cases h1 : (∀ c ∈ cs, c ≠ []) ∧ ∀ c ∈ cs ++ [[]], c.length ≤ 63
    · rw [if_pos h1]
      exact (Name.fromLabels_lowered_chunks cs).trans (if_neg fun h2 =>
        hok ⟨fun c hc => ⟨h1.1 c hc, h1.2 c (List.mem_append_left _ hc)⟩, h2.2⟩)
    · rw [if_neg h1]

theorem Name.fromDotted_joinDots {ls : List Label} (hne : ls ≠ []) (hl : ∀ l ∈ ls, l ≠ [])
    (hnd : ∀ l ∈ ls, ∀ b ∈ l, b ≠ 46) :
    Name.fromDotted (Name.joinDots ls ++ [46]) =
      if DottedChunksOk ls then some ⟨ls.map (·.map lowerByte) ++ [[]], ls.length + 1 + sumLen ls⟩
      else none := by
  rw [Name.fromDotted_snoc_dot _ (Name.joinDots_ne_nil hne hl), Name.splitDot_joinDots hne hnd]

/-- `h` is the body of `NameWF` / `WFName`. -/
theorem Name.fromDotted_joinDots_wf {n : Name} {pre : List Label} (hn : n.labels = pre ++ [[]]) (hne : pre ≠ [])
    (h : LabelsShape n.labels ∧ (∀ l ∈ n.labels, LabelOK l) ∧
      n.len = n.labels.length + sumLen n.labels ∧ n.len ≤ DOMAINNAME_MAX_LEN)
    (hnd : ∀ l ∈ pre, ∀ b ∈ l, b ≠ 46) :
    Name.fromDotted (Name.joinDots pre ++ [46]) = some n := by
  obtain ⟨hs, hok, hlen, hmax⟩ := h
  rw [hn] at hs hok
  rw [hn, List.length_append, sumLen_append] at hlen
  have hmid := (LabelsShape.concat_nil_iff pre).mp hs
  have hok' : ∀ l ∈ pre, LabelOK l := fun l hl => hok l (List.mem_append_left _ hl)
  have hlen' : n.len = pre.length + 1 + sumLen pre := hlen
  rw [Name.fromDotted_joinDots hne hmid hnd,
    if_pos ⟨fun c hc => ⟨hmid c hc, LABEL_MAX_LEN_eq ▸ (hok' c hc).1⟩, hlen' ▸ DOMAINNAME_MAX_LEN_eq ▸ hmax⟩,
    List.map_congr_left (fun l hl => (hok' l hl).map_lower), List.map_id', ← hlen', ← hn]

/-- rejected because the last label would not be the root label. -/
theorem Name.fromDotted_snoc_of_ne (t : List UInt8) (b : UInt8) (hb : b ≠ 46) :
    Name.fromDotted (t ++ [b]) = none := by
  obtain ⟨init, last, hs⟩ := Name.splitDot_snoc_of_ne t b hb
  unfold Name.fromDotted
  rw [if_neg (snoc_ne_dot t hb), Name.dottedChunksToLabels_eq, hs]
  by_cases h1 : (∀ c ∈ (init ++ [last ++ [b]]).dropLast, c ≠ []) ∧ ∀ c ∈ init ++ [last ++ [b]], c.length ≤ 63
  · rw [if_pos h1]
    simp only
    rw [Name.fromLabels_eq, if_neg]
    intro h
    have := h.1.2.1
    simp at this
  · rw [if_neg h1]

theorem Name.fromDotted_empty_chunk (s : List UInt8) (hs : s ≠ [46])
    (h : [] ∈ (Name.splitDot s).dropLast) : Name.fromDotted s = none := by
  unfold Name.fromDotted
  rw [if_neg hs, Name.dottedChunksToLabels_eq, if_neg]
  intro h2
  exact h2.1 [] h rfl

theorem Name.fromDotted_dot_after_dot (a b : List UInt8) (ha : a = [] ∨ a.getLast? = some 46)
    (hne : a ≠ [] ∨ b ≠ []) : Name.fromDotted (a ++ 46 :: b) = none := by
  apply Name.fromDotted_empty_chunk
  · intro h
    have hl := congrArg List.length h
    rw [List.length_append, List.length_cons, List.length_singleton] at hl
    exact hne.elim (· (List.eq_nil_of_length_eq_zero (by omega))) (· (List.eq_nil_of_length_eq_zero (by omega)))
  · obtain ⟨c, cs, hs⟩ := List.exists_cons_of_ne_nil (Name.splitDot_ne_nil b)
    have key : ∃ A, Name.splitDot a = A ++ [[]] := by
      rcases ha with rfl | ha
      · exact ⟨[], rfl⟩
      · obtain ⟨a', rfl⟩ := List.getLast?_eq_some_iff.mp ha
        exact ⟨Name.splitDot a', by rw [Name.splitDot_append_dot a' [], Name.splitDot_nil]⟩
    obtain ⟨A, hA⟩ := key
    rw [Name.splitDot_append_dot, hA, hs, List.dropLast_append_of_ne_nil (List.cons_ne_nil c cs)]
    exact List.mem_append_left _ (List.mem_append_right _ List.mem_cons_self)

theorem Name.fromDotted_inv {s : List UInt8} {n : Name} (h : Name.fromDotted s = some n) :
    n = Name.root ∨ (Name.fromLabels ((Name.splitDot s).map (·.map lowerByte)) = some n ∧
      ∀ c ∈ Name.splitDot s, c.length ≤ 63) := by
  revert h
  fun_cases Name.fromDotted s with
  | case1 => exact fun h => .inl (Option.some.inj h).symm
  | case2 => exact fun h => nomatch h
  | case3 _ ls hls =>
    rw [Name.dottedChunksToLabels_eq] at hls
    split at hls
    · rename_i hc; cases hls; exact fun h => .inr ⟨h, hc.2⟩
    · cases hls

/-! ### the specification by the shape of the text -/

theorem dottedGuard_false {s : List UInt8} (h1 : s ≠ [46]) (h2 : s ≠ []) :
    (s == [46] || s.isEmpty) = false := by
  simp [h1, h2]

theorem dottedOk_snoc_dot (t : List UInt8) (ht : t ≠ []) :
    dottedOk (t ++ [46]) = decide (DottedChunksOk (Name.splitDot t)) := by
  have h46 : ((46 : UInt8).toNat != 46) = false := rfl
  unfold dottedOk
  rw [dottedGuard_false (snoc_dot_ne_dot ht) (List.concat_ne_nil _ _)]
  simp only [Bool.false_eq_true, if_false, List.getLast?_concat, List.dropLast_concat, h46,
    splitDots_eq_splitDot]
  generalize Name.splitDot t = cs
  rw [sum_map_length_succ, Nat.add_right_comm, Bool.eq_iff_iff, decide_eq_true_iff]
  simp [DottedChunksOk]

theorem dottedOk_snoc_of_ne (t : List UInt8) (b : UInt8) (hb : b ≠ 46) :
    dottedOk (t ++ [b]) = false := by
  have hb2 : (b.toNat != 46) = true := by
    rw [bne, toNat_beq_dot, decide_eq_false hb]
    rfl
  unfold dottedOk
  rw [dottedGuard_false (snoc_ne_dot t hb) (List.concat_ne_nil _ _)]
  simp only [Bool.false_eq_true, if_false, List.getLast?_concat, hb2, if_true]

theorem dottedSpecLabels_snoc_dot (t : List UInt8) (ht : t ≠ []) :
    dottedSpecLabels (t ++ [46]) = (Name.splitDot t).map (fun c => c.map lowerByte) ++ [[]] := by
  unfold dottedSpecLabels
  rw [dottedGuard_false (snoc_dot_ne_dot ht) (List.concat_ne_nil _ _)]
  simp only [Bool.false_eq_true, if_false, List.dropLast_concat, splitDots_eq_splitDot,
    asciiLower_fun_eq]

/-- `from_dotted_string` is the specification: accepted exactly when `dottedOk`, and then the name of
    `dottedSpecLabels` / `dottedSpecLen`. -/
theorem Name.fromDotted_eq_spec (s : List UInt8) :
    Name.fromDotted s = if dottedOk s then some ⟨dottedSpecLabels s, dottedSpecLen s⟩ else none := by
  rcases dottedText_cases s with rfl | rfl | ⟨t, ht, rfl⟩ | ⟨t, b, hb, rfl⟩
  · rfl
  · rfl
  · rw [Name.fromDotted_snoc_dot t ht, dottedOk_snoc_dot t ht, dottedSpecLen, dottedSpecLabels_snoc_dot t ht,
      sum_map_length_succ, List.length_append, sumLen_append, List.length_map, sumLen_map_lower]
    by_cases h : DottedChunksOk (Name.splitDot t)
    · rw [if_pos h, if_pos (decide_eq_true h)]; rfl
    · rw [if_neg h, if_neg (by rw [decide_eq_false h]; exact Bool.false_ne_true)]
  · rw [Name.fromDotted_snoc_of_ne t b hb, dottedOk_snoc_of_ne t b hb]; rfl

/-! ## `from_relative_dotted_string` -/

theorem Name.fromRelativeDotted_inv {o : Name} {s : List UInt8} {n : Name} (h : Name.fromRelativeDotted o s = some n) :
    n = o ∨ ∃ t, (∀ b ∈ t, b ∈ s ∨ b = 46 ∨ b ∈ o.toDotted) ∧ Name.fromDotted t = some n := by
  revert h
  fun_cases Name.fromRelativeDotted o s with
  | case1 => exact fun h => .inl (Option.some.inj h).symm
  | case2 => exact fun h => .inr ⟨s, fun b hb => .inl hb, h⟩
  | case3 => exact fun h => .inr ⟨_, fun b hb => (List.mem_append.mp hb).imp_right .inr, h⟩
  | case4 =>
    refine fun h => .inr ⟨_, fun b hb => ?_, h⟩
    rcases List.mem_append.mp hb with hb | hb
    · exact (List.mem_append.mp hb).imp_right fun h1 => .inl (List.mem_singleton.mp h1)
    · exact .inr (.inr hb)

theorem Name.fromRelativeDotted_joinDots (o : Name) {ls : List Label} (hne : ls ≠ []) (hl : ∀ l ∈ ls, l ≠ [])
    (hnd : ∀ l ∈ ls, ∀ b ∈ l, b ≠ 46) :
    Name.fromRelativeDotted o (Name.joinDots ls) =
      Name.fromDotted (Name.joinDots ls ++ (if o.toDotted.head? = some 46 then o.toDotted else 46 :: o.toDotted)) := by
  unfold Name.fromRelativeDotted
  rw [List.isEmpty_eq_false_iff.mpr (Name.joinDots_ne_nil hne hl), if_neg Bool.false_ne_true,
    if_neg (Name.joinDots_getLast?_ne_dot hne hl hnd)]
  simp only
  split
  · rfl
  · rw [List.append_assoc, List.singleton_append]

end Resolved
