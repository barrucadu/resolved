/-
  The text round trip of hosts data, `deserialise (serialise h) ≈ h`: the address and name fields `serialise`
  writes, one written line read back by the specification, the whole text (`serialise_mappings`: what is
  written reads as the mappings of `h`, domain by domain).
-/
import Resolved.Proofs.HostsLemmas
import Resolved.Proofs.IpLemmas

namespace Resolved

open HostsM HSpec

/-! ## fields made of ASCII octets -/

/-- a byte that may appear in a hosts-file field: ASCII, not blank, not `#`. -/
def fieldByte (b : UInt8) : Prop :=
  b.toNat < 128 ∧ b.toNat ≠ 32 ∧ ¬ (9 ≤ b.toNat ∧ b.toNat ≤ 13) ∧ b.toNat ≠ 35

instance (b : UInt8) : Decidable (fieldByte b) := by unfold fieldByte; infer_instance

theorem FieldOK_asciiChars (bs : List UInt8) (h : ∀ b ∈ bs, fieldByte b) : FieldOK (Hosts.asciiChars bs) := by
  refine ⟨?_, ?_, ?_⟩
  all_goals
    intro c hc
    simp only [Hosts.asciiChars, List.mem_map] at hc
    obtain ⟨b, hb, rfl⟩ := hc
    obtain ⟨h1, h2, h3, h4⟩ := h b hb
  · simp [isAscii, toNat_ofNat_byte, h1]
  · rw [ws_eq]; simp [isWs, toNat_ofNat_byte, h2]; omega
  · simp [HSpec.hash, toNat_ofNat_byte, h4]

theorem asciiChars_ne_nil (bs : List UInt8) (h : bs ≠ []) : Hosts.asciiChars bs ≠ [] := by
  cases bs with
  | nil => exact absurd rfl h
  | cons b bs => simp [Hosts.asciiChars]

/-! ## the address field -/

theorem isAddrByte_fieldByte (b : UInt8) (h : Ip.isAddrByte b = true) : fieldByte b ∧ b.toNat ≠ 37 := by
  have := Ip.isAddrByte_iff.mp h
  unfold fieldByte
  omega

theorem addrText_ok (x : IpAddr) (hx : Ip.WF x) :
    FieldOK (Hosts.asciiChars (Ip.showIpAddr x)) ∧ Hosts.asciiChars (Ip.showIpAddr x) ≠ [] ∧
    NoPct ((Hosts.asciiChars (Ip.showIpAddr x)).drop 1) ∧
    Ip.parseIpAddr (utf8Encode (Hosts.asciiChars (Ip.showIpAddr x))) = some x := by
  obtain ⟨hb, hne⟩ := showIpAddr_bytes x hx
  refine ⟨FieldOK_asciiChars _ (fun b hb' => (isAddrByte_fieldByte b (hb b hb')).1), asciiChars_ne_nil _ hne, ?_, ?_⟩
  · intro c hc
    have hc' : c ∈ Hosts.asciiChars (Ip.showIpAddr x) := List.mem_of_mem_drop hc
    simp only [Hosts.asciiChars, List.mem_map] at hc'
    obtain ⟨b, hb', rfl⟩ := hc'
    have := (isAddrByte_fieldByte b (hb b hb')).2
    simp [HSpec.percent, toNat_ofNat_byte, this]
  · rw [utf8Encode_asciiChars _ (fun b hb' => Ip.isAddrByte_lt (hb b hb'))]
    exact ip_print_parse x hx

/-! ## the name field -/

/-- what a label may contain to survive the text form: field bytes other than `.` -/
def LabelTextOK (l : Label) : Prop := ∀ b ∈ l, fieldByte b ∧ b.toNat ≠ 46

instance (l : Label) : Decidable (LabelTextOK l) := by unfold LabelTextOK; infer_instance

theorem dottedLabelsChars_snoc (ls : List Label) (hne : ls ≠ []) (first : Bool) :
    Hosts.dottedLabelsChars (ls ++ [[]]) first =
      (if first then [] else [Char.ofNat 46]) ++ Hosts.asciiChars (Name.joinDots ls) ++ [Char.ofNat 46] := by
  induction ls generalizing first with
  | nil => exact absurd rfl hne
  | cons l rest ih =>
    cases rest with
    | nil =>
      simp [Hosts.dottedLabelsChars, Name.joinDots, Hosts.asciiChars]
    | cons m r =>
      have := ih (by simp) false
      simp only [List.cons_append] at this ⊢
      rw [Hosts.dottedLabelsChars, this]
      simp [Name.joinDots, Hosts.asciiChars]

/-- the precondition of the text round trip on names (upper case is excluded by `WFName`) -/
def NameTextOK (n : Name) : Prop := WFName n ∧ ∀ l ∈ n.labels, LabelTextOK l

theorem nameText_ok (n : Name) (h : NameTextOK n) :
    ∃ ds, Hosts.domainStr n = some ds ∧ FieldOK ds ∧ ds ≠ [] ∧
      Name.fromRelativeDotted Name.root (utf8Encode ds) = some n := by
  obtain ⟨hwf, htext⟩ := h
  obtain ⟨pre, hlabels, hnonempty⟩ := hwf.1.eq_concat
  obtain ⟨labels, len⟩ := n
  simp only at hlabels htext
  subst hlabels
  have hlen : len = pre.length + 1 + sumLen pre := by
    rw [show len = _ from hwf.2.2.1, List.length_append, sumLen_append]; rfl
  cases pre with
  | nil =>
    subst hlen
    refine ⟨[Char.ofNat 46], rfl, ?_, by simp, rfl⟩
    refine ⟨?_, ?_, ?_⟩ <;> (intro c hc; simp at hc; subst hc; decide)
  | cons l rest =>
    have hlen2 : len ≠ 1 := by rw [hlen, List.length_cons]; omega
    have htext' : ∀ x ∈ l :: rest, LabelTextOK x := fun x hx => htext x (List.mem_append_left _ hx)
    have hds : Hosts.domainStr ⟨(l :: rest) ++ [[]], len⟩ = some (Hosts.asciiChars (Name.joinDots (l :: rest))) := by
      unfold Hosts.domainStr Name.isRoot?
      simp only [beq_iff_eq, hlen2, if_false]
      rw [dottedLabelsChars_snoc (l :: rest) (by simp) true]
      simp
    have hbytes := Name.joinDots_forall (P := fieldByte) (by decide) fun x hx b hb => (htext' x hx b hb).1
    have hjne := Name.joinDots_ne_nil (by simp) hnonempty
    refine ⟨_, hds, FieldOK_asciiChars _ hbytes, asciiChars_ne_nil _ hjne, ?_⟩
    rw [utf8Encode_asciiChars _ (fun b hb => (hbytes b hb).1)]
    have hnd : ∀ x ∈ l :: rest, ∀ b ∈ x, b ≠ 46 :=
      fun x hx b hb h46 => (htext' x hx b hb).2 (by rw [h46]; decide)
    rw [Name.fromRelativeDotted_joinDots Name.root (by simp) hnonempty hnd,
      Name.toDotted_of_isRoot (n := Name.root) rfl, List.head?_cons, if_pos rfl]
    exact Name.fromDotted_joinDots_wf rfl (by simp) hwf hnd

/-! ## one written line read back -/

theorem isWs_space : isWs (Char.ofNat 32) = true := by decide

theorem noWs_noNlCr {c : Char} (h : ws c = false) : c.toNat ≠ 10 ∧ c.toNat ≠ 13 := by
  unfold ws at h
  constructor <;> (intro hc; rw [hc] at h; revert h; decide)

/-- such a line survives `str::lines` unchanged -/
def NoNlCr (l : List Char) : Prop := ∀ c ∈ l, c.toNat ≠ 10 ∧ c.toNat ≠ 13

/-- the line `serialise` writes for one mapping: `"{addr} {domain_str}"` -/
def addrLine (ds : List Char) (x : IpAddr) : List Char :=
  Hosts.asciiChars (Ip.showIpAddr x) ++ Char.ofNat 32 :: ds

theorem parseLine_addrLine (x : IpAddr) (hx : Ip.WF x) (ds : List Char) (n : Name) (hd : FieldOK ds)
    (hdne : ds ≠ []) (hname : Name.fromRelativeDotted Name.root (utf8Encode ds) = some n) :
    HSpec.parseLine (addrLine ds x) = .ok (some (x, [n])) ∧ NoNlCr (addrLine ds x) := by
  obtain ⟨ha, hane, hpct, hparse⟩ := addrText_ok x hx
  constructor
  · unfold addrLine
    rw [parseLine_addr_ws _ ds (Char.ofNat 32) ha hane hpct isWs_space, hparse]
    simp only
    rw [specSN_field_end x [] ds hd hdne]
    simp [addName, hname, nameSetInsert, lineResult]
  · intro c hc
    simp only [addrLine, List.mem_append, List.mem_cons] at hc
    rcases hc with hc | rfl | hc
    · exact noWs_noNlCr (ha.noWs c hc)
    · decide
    · exact noWs_noNlCr (hd.noWs c hc)

theorem mappings_cons_none (l : List Char) (ls : List (List Char)) (h : HSpec.parseLine l = .ok none) :
    mappings (l :: ls) = mappings ls := by
  rw [mappings, h]
  simp only
  cases mappings ls <;> rfl

theorem mappings_cons_some (l : List Char) (ls : List (List Char)) (a : IpAddr) (names : List Name)
    (ms : List (Name × IpAddr)) (h : HSpec.parseLine l = .ok (some (a, names))) (hms : mappings ls = .ok ms) :
    mappings (l :: ls) = .ok (names.map (fun n => (n, a)) ++ ms) := by
  rw [mappings, h, hms]

theorem mappings_addrLines (n : Name) (ds : List Char) (hd : FieldOK ds) (hdne : ds ≠ [])
    (hname : Name.fromRelativeDotted Name.root (utf8Encode ds) = some n)
    (rest : List (List Char)) (ms : List (Name × IpAddr)) (hrest : mappings rest = .ok ms)
    (es : List (Name × IpAddr)) (hes : ∀ m ∈ es, m.1 = n ∧ Ip.WF m.2) :
    mappings (es.map (fun m => addrLine ds m.2) ++ rest) = .ok (es ++ ms) ∧
    ∀ l ∈ es.map (fun m => addrLine ds m.2), NoNlCr l := by
  induction es with
  | nil => exact ⟨hrest, fun l hl => by cases hl⟩
  | cons m es ih =>
    obtain ⟨k, x⟩ := m
    obtain ⟨hk, hx⟩ := hes (k, x) (by simp)
    simp only at hk hx
    subst hk
    obtain ⟨hm, hcl⟩ := ih (fun m hm => hes m (by simp [hm]))
    obtain ⟨hline, hclean⟩ := parseLine_addrLine x hx ds k hd hdne hname
    refine ⟨?_, ?_⟩
    · simp only [List.map_cons, List.cons_append]
      rw [mappings_cons_some _ _ _ _ _ hline hm]
      rfl
    · intro l hl
      rcases List.mem_cons.mp hl with rfl | hl
      · exact hclean
      · exact hcl l hl

/-! ## `lines` of a text made of `\n`-terminated lines -/

def joinNl (ls : List (List Char)) : List Char := ls.flatMap (fun l => l ++ [Char.ofNat 10])

theorem joinNl_append (a b : List (List Char)) : joinNl (a ++ b) = joinNl a ++ joinNl b := by
  simp [joinNl]

theorem splitNl_append_nl (l x : List Char) (h : ∀ c ∈ l, c.toNat ≠ 10) :
    splitNl (l ++ Char.ofNat 10 :: x) = l :: splitNl x := by
  simp only [splitNl_eq_on]
  exact Split.on_append_sep_of_none h (by decide) x

theorem splitNl_joinNl (ls : List (List Char)) (h : ∀ l ∈ ls, NoNlCr l) : splitNl (joinNl ls) = ls ++ [[]] := by
  induction ls with
  | nil => simp [joinNl, splitNl]
  | cons l rest ih =>
    have : joinNl (l :: rest) = l ++ Char.ofNat 10 :: joinNl rest := by simp [joinNl]
    rw [this, splitNl_append_nl l _ (fun c hc => (h l (by simp) c hc).1), ih (fun x hx => h x (by simp [hx]))]
    rfl

theorem stripCr_noCr (l : List Char) (h : NoNlCr l) : stripCr l = l := by
  unfold stripCr
  cases hl : l.getLast? with
  | none => rfl
  | some c =>
    have := (h c (List.mem_of_getLast? hl)).2
    simp [this]

theorem lines_joinNl (ls : List (List Char)) (h : ∀ l ∈ ls, NoNlCr l) : HSpec.lines (joinNl ls) = ls := by
  unfold HSpec.lines
  rw [splitNl_joinNl ls h]
  simp only [List.dropLast_concat, List.getLast?_concat, List.isEmpty_nil, if_true, List.append_nil]
  induction ls with
  | nil => rfl
  | cons l rest ih =>
    simp only [List.map_cons]
    rw [stripCr_noCr l (h l (by simp)), ih (fun x hx => h x (by simp [hx]))]

/-! ## `serialise` as a list of lines, and its reading -/

/-- the mappings `serialise` writes for one domain: its v4 entry, then its v6 entry -/
def entries (h : Hosts) (n : Name) : List (Name × IpAddr) :=
  (match h.v4.get n with | some a => [(n, IpAddr.v4 a)] | none => []) ++
  (match h.v6.get n with | some g => [(n, IpAddr.v6 g)] | none => [])

theorem mem_entries (h : Hosts) (d n : Name) (x : IpAddr) :
    (n, x) ∈ entries h d ↔ n = d ∧ Maps h d x := by
  unfold entries
  cases x <;> simp only [Maps] <;> cases h.v4.get d <;> cases h.v6.get d <;> simp [eq_comm]

/-- the lines `serialise` writes for one domain: one per entry, and the blank line after them -/
def domainLines (h : Hosts) (n : Name) (ds : List Char) : List (List Char) :=
  (entries h n).map (fun m => addrLine ds m.2) ++ [[]]

theorem serialiseDomain_eq (h : Hosts) (n : Name) (ds : List Char) (hds : Hosts.domainStr n = some ds) :
    Hosts.serialiseDomain h n = some (joinNl (domainLines h n ds)) := by
  unfold Hosts.serialiseDomain domainLines entries joinNl addrLine
  rw [hds]
  cases h.v4.get n <;> cases h.v6.get n <;> simp [Ip.showIpAddr]

theorem serialiseLoop_ok (h : Hosts) (hw : ∀ n x, Maps h n x → Ip.WF x) (doms : List Name) (hd : ∀ n ∈ doms, NameTextOK n) :
    ∃ ls, Hosts.serialiseLoop h doms = some (joinNl ls) ∧ (∀ l ∈ ls, NoNlCr l) ∧
      mappings ls = .ok (doms.flatMap (entries h)) := by
  induction doms with
  | nil => exact ⟨[], rfl, by intro l hl; simp at hl, rfl⟩
  | cons n rest ih =>
    obtain ⟨ls, hser, hclean, hmap⟩ := ih (fun x hx => hd x (by simp [hx]))
    obtain ⟨ds, hds, hf, hne, hname⟩ := nameText_ok n (hd n (by simp))
    have hblank : mappings ([] :: ls) = .ok (rest.flatMap (entries h)) := by
      rw [mappings_cons_none [] ls parseLine_nil, hmap]
    obtain ⟨hm, hcl⟩ := mappings_addrLines n ds hf hne hname _ _ hblank (entries h n)
      (fun m hm => by
        obtain ⟨k, x⟩ := m
        obtain ⟨hk, hx⟩ := (mem_entries h n k x).mp hm
        exact ⟨hk, hw n x hx⟩)
    refine ⟨domainLines h n ds ++ ls, ?_, ?_, ?_⟩
    · rw [Hosts.serialiseLoop, serialiseDomain_eq h n ds hds, hser, joinNl_append]
    · intro l hl
      simp only [domainLines, List.mem_append, List.mem_singleton] at hl
      rcases hl with (hl | rfl) | hl
      · exact hcl l hl
      · intro c hc; cases hc
      · exact hclean l hl
    · simpa [domainLines] using hm

theorem sortedDomains_mem (h : Hosts) (n : Name) :
    n ∈ Hosts.sortedDomains h ↔ n ∈ h.v4.map (·.1) ∨ n ∈ h.v6.map (·.1) := by
  unfold Hosts.sortedDomains
  simp only
  rw [(List.mergeSort_perm _ _).mem_iff]
  have e : Hosts.insertNodup = addIfNew := rfl
  rw [e, mem_foldl_addIfNew, mem_foldl_addIfNew]
  simp

theorem HostsM.Lists.sortedDomains_entries (h : Hosts) : Lists ((Hosts.sortedDomains h).flatMap (entries h)) h := by
  intro n x
  simp only [List.mem_flatMap, mem_entries]
  constructor
  · rintro ⟨d, _, rfl, hx⟩
    exact hx
  · intro hx
    refine ⟨n, ?_, rfl, hx⟩
    rw [sortedDomains_mem]
    cases x with
    | v4 a => exact Or.inl (List.mem_map.mpr ⟨_, AddrMap.get_mem hx, rfl⟩)
    | v6 g => exact Or.inr (List.mem_map.mpr ⟨_, AddrMap.get_mem hx, rfl⟩)

/-! ## the text round trip -/

/-- the precondition of the text round trip.  It is decidable; the instances for `WFName`, `NameTextOK` and
    `HostsWF` stand with the property theorems, in Props/C14.lean. -/
def HostsWF (h : Hosts) : Prop :=
  (∀ kv ∈ h.v4, NameTextOK kv.1 ∧ kv.2 < 4294967296) ∧
  (∀ kv ∈ h.v6, NameTextOK kv.1 ∧ kv.2.length = 8 ∧ ∀ g ∈ kv.2, g < 65536)

theorem serialise_mappings (h : Hosts) (wf : HostsWF h) :
    ∃ text, h.serialise = some text ∧
      mappings (HSpec.lines text) = .ok ((Hosts.sortedDomains h).flatMap (entries h)) := by
  have hw : ∀ n x, Maps h n x → Ip.WF x := by
    intro n x hx
    cases x with
    | v4 a => exact (wf.1 _ (AddrMap.get_mem hx)).2
    | v6 g => exact (wf.2 _ (AddrMap.get_mem hx)).2
  have hdoms : ∀ n ∈ Hosts.sortedDomains h, NameTextOK n := by
    intro n hn
    rw [sortedDomains_mem] at hn
    rcases hn with hn | hn
    · obtain ⟨kv, hkv, rfl⟩ := List.mem_map.mp hn
      exact (wf.1 kv hkv).1
    · obtain ⟨kv, hkv, rfl⟩ := List.mem_map.mp hn
      exact (wf.2 kv hkv).1
  obtain ⟨ls, hser, hclean, hmap⟩ := serialiseLoop_ok h hw (Hosts.sortedDomains h) hdoms
  exact ⟨joinNl ls, hser, by rw [lines_joinNl ls hclean, hmap]⟩

end Resolved
