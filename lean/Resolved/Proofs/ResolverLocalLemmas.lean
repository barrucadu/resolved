/-
  `resolveLocal` (C01 / C10) as the fuel-indexed iteration of `localStep`, one level of `resolve_local`
  with the recursive call abstracted (`resolveLocal_induct`): one equation per outcome of the zone part and of the
  cache part, the case principles built from them (`zoneVerdict_cases`, `localStep_cases`, `cachePart_cases`), what a
  level leaves alone (`resolveLocal_rel`), congruence in the recursive call, fuel, errors, authoritative-only mode.
-/
import Resolved.Model.Resolver

namespace Resolved

open Gen

abbrev LocalOut := Ctx × Except ResolutionError LocalResult

/-- how the zone CNAME branch wraps the outcome of following the alias. -/
def zoneCnameAnswer (rr : RR) (cnameQuestion : Question) (sub : Except ResolutionError LocalResult) :
    LocalResult :=
  match sub with
  | .ok (.done (.authoritative cnameRrs soaRR)) => .done (.authoritative ([rr] ++ cnameRrs) soaRR)
  | .ok (.done (.authoritativeNameError soaRR)) => .done (.authoritative [rr] soaRR)
  | .ok (.done (.nonAuthoritative cnameRrs soaRR)) => .done (.nonAuthoritative ([rr] ++ cnameRrs) soaRR)
  | .ok (.partialAnswer cnameRrs) => .partialAnswer ([rr] ++ cnameRrs)
  | .ok (.cname cnameRrs cq) => .cname ([rr] ++ cnameRrs) cq
  | _ => .cname [rr] cnameQuestion

def zoneResultPart (rec : Ctx → Question → LocalOut) (ctx : Ctx) (question : Question) (zone : Zone)
    (zr : ZoneResult) : Ctx × (Except ResolutionError LocalResult ⊕ List RR) :=
  match zr with
  | .answer rrs =>
    match zone.soaRR with
    | some soaRR => (ctx, .inl (.ok (.done (.authoritative rrs soaRR))))
    | none =>
      if question.qtype != QTYPE_WILDCARD && !rrs.isEmpty then
        (ctx, .inl (.ok (.done (.nonAuthoritative rrs none))))
      else (ctx, .inr rrs)
  | .cname cname rr =>
    ((rec (ctx.push question) { name := cname, qtype := question.qtype, qclass := question.qclass }).1.pop,
     .inl (.ok (zoneCnameAnswer rr { name := cname, qtype := question.qtype, qclass := question.qclass }
       (rec (ctx.push question) { name := cname, qtype := question.qtype, qclass := question.qclass }).2)))
  | .delegation nsRrs =>
    match zone.soaRR with
    | some soaRR =>
      match nsRrs with
      | [] => (ctx, .inl (.error .localDelegationMissingNS))
      | first :: _ =>
        (ctx, .inl (.ok (.delegation nsRrs (some soaRR)
          { hostnames := nsRrs.filterMap nsTarget, name := first.name })))
    | none => (ctx, .inr [])
  | .nameError =>
    match zone.soaRR with
    | some soaRR => (ctx, .inl (.ok (.done (.authoritativeNameError soaRR))))
    | none => (ctx, .inr [])
  | .panic => (ctx, .inr [])

/-- the zone part of one level of `resolve_local`; `.inr rrs` = fall through to the cache. -/
def zonePart (rec : Ctx → Question → LocalOut) (ctx : Ctx) (question : Question) :
    Ctx × (Except ResolutionError LocalResult ⊕ List RR) :=
  match ctx.zones.resolve question.name question.qtype with
  | none => (ctx, .inr [])
  | some (_, none) => (ctx, .inr [])
  | some (zone, some zr) => zoneResultPart rec ctx question zone zr

/-- how the cached-CNAME branch wraps the outcome of following the alias. -/
def cacheCnameFinish (cnameRR : RR) (cname : Name) (out : LocalOut) :
    Ctx × Except ResolutionError (List RR × Option Name) :=
  match out.2 with
  | .ok (.done resolved) => (out.1.pop, .ok ([cnameRR] ++ resolved.rrs, none))
  | .ok (.partialAnswer rrs) => (out.1.pop, .ok ([cnameRR] ++ rrs, none))
  | .ok (.cname rrs cq) => (out.1.pop, .ok ([cnameRR] ++ rrs, some cq.name))
  | _ => (out.1.pop, .ok ([cnameRR], some cname))

/-- the cached-CNAME branch (`ctx3`, `cs` = the outcome of the CNAME cache read). -/
def cacheCnamePart (rec : Ctx → Question → LocalOut) (ctx3 : Ctx) (question : Question)
    (cs : List RR) : Ctx × Except ResolutionError (List RR × Option Name) :=
  match cs with
  | [] => (ctx3, .ok ([], none))
  | cnameRR :: _ =>
    match cnameTarget cnameRR with
    | some cname =>
      cacheCnameFinish cnameRR cname
        (rec (ctx3.push question) { name := cname, qtype := question.qtype, qclass := question.qclass })
    | none => (ctx3, .error .cacheTypeMismatch)

/-- the CNAME-from-cache part (`ctx2`, `rrsFromCache0` = the outcome of the first cache read). -/
def cachePart (rec : Ctx → Question → LocalOut) (ctx2 : Ctx) (question : Question)
    (rrsFromCache0 : List RR) : Ctx × Except ResolutionError (List RR × Option Name) :=
  if rrsFromCache0.isEmpty && question.qtype != CNAME_QTYPE then
    cacheCnamePart rec (ctx2.cacheGet question.name CNAME_QTYPE).1 question
      (ctx2.cacheGet question.name CNAME_QTYPE).2
  else (ctx2, .ok (rrsFromCache0, none))

def finishPart (question : Question) (rrsFromZone : List RR)
    (cp : Ctx × Except ResolutionError (List RR × Option Name)) : LocalOut :=
  match cp with
  | (ctx6, .error e) => (ctx6, .error e)
  | (ctx6, .ok (rrsFromCache, finalCname)) =>
    let rrs := prioritisingMerge rrsFromZone rrsFromCache
    if rrs.isEmpty then (ctx6, .error (.deadEnd question))
    else
      match finalCname with
      | some cname =>
        (ctx6, .ok (.cname rrs { name := cname, qtype := question.qtype, qclass := question.qclass }))
      | none =>
        if question.qtype == QTYPE_WILDCARD then (ctx6, .ok (.partialAnswer rrs))
        else (ctx6, .ok (.done (.nonAuthoritative rrs none)))

def cacheStage (rec : Ctx → Question → LocalOut) (ctx : Ctx) (question : Question)
    (rrsFromZone : List RR) : LocalOut :=
  finishPart question rrsFromZone
    (cachePart rec (ctx.cacheGet question.name question.qtype).1 question
      (ctx.cacheGet question.name question.qtype).2)

/-- one level of `resolve_local`, the recursive call being `rec`. -/
def localStep (rec : Ctx → Question → LocalOut) (ctx : Ctx) (question : Question) : LocalOut :=
  if ctx.atRecursionLimit then (ctx, .error .recursionLimit)
  else if ctx.isDuplicate question then (ctx, .error (.duplicateQuestion question))
  else
    match zonePart rec ctx question with
    | (ctx, .inl r) => (ctx, r)
    | (ctx, .inr rrsFromZone) => cacheStage rec ctx question rrsFromZone

theorem resolveLocal_zero (ctx : Ctx) (q : Question) :
    resolveLocal 0 ctx q = (ctx, .error .outOfFuel) := by
  rw [resolveLocal]

theorem resolveLocal_succ (fuel : Nat) (ctx : Ctx) (q : Question) :
    resolveLocal (fuel + 1) ctx q = localStep (resolveLocal fuel) ctx q := by
  rw [resolveLocal]
  rfl

theorem resolveLocal_induct {P : (Ctx → Question → LocalOut) → Prop}
    (zero : P fun ctx _ => (ctx, .error .outOfFuel)) (step : ∀ rec, P rec → P (localStep rec)) :
    ∀ fuel, P (resolveLocal fuel)
  | 0 => (funext fun ctx => funext fun q => resolveLocal_zero ctx q : resolveLocal 0 = _) ▸ zero
  | fuel + 1 =>
    (funext fun ctx => funext fun q => resolveLocal_succ fuel ctx q : resolveLocal (fuel + 1) = _) ▸
      step _ (resolveLocal_induct zero step fuel)

/-! ## the alias wrapper and the records of a result -/

theorem zoneCnameAnswer_cases {motive : LocalResult → Prop} (rr : RR) (cq : Question)
    (sub : Except ResolutionError LocalResult)
    (auth : ∀ rrs soa, sub = .ok (.done (.authoritative rrs soa)) → motive (.done (.authoritative (rr :: rrs) soa)))
    (nameError : ∀ soa, sub = .ok (.done (.authoritativeNameError soa)) → motive (.done (.authoritative [rr] soa)))
    (nonauth : ∀ rrs soa, sub = .ok (.done (.nonAuthoritative rrs soa)) →
      motive (.done (.nonAuthoritative (rr :: rrs) soa)))
    (partialAnswer : ∀ rrs, sub = .ok (.partialAnswer rrs) → motive (.partialAnswer (rr :: rrs)))
    (cname : ∀ rrs cq', sub = .ok (.cname rrs cq') → motive (.cname (rr :: rrs) cq'))
    (stuck : (∀ r, sub = .ok r → ∃ rs o d, r = .delegation rs o d) → motive (.cname [rr] cq)) :
    motive (zoneCnameAnswer rr cq sub) := by
  unfold zoneCnameAnswer
  split
  · exact auth _ _ rfl
  · exact nameError _ rfl
  · exact nonauth _ _ rfl
  · exact partialAnswer _ rfl
  · exact cname _ _ rfl
  · rename_i h1 h2 h3 h4 h5
    refine stuck fun r hr => ?_
    cases r with
    | done res =>
      cases res with
      | authoritative a s => exact absurd hr (h1 a s)
      | authoritativeNameError s => exact absurd hr (h2 s)
      | nonAuthoritative a s => exact absurd hr (h3 a s)
    | partialAnswer a => exact absurd hr (h4 a)
    | cname a c => exact absurd hr (h5 a c)
    | delegation rs o d => exact ⟨rs, o, d, rfl⟩

theorem zoneCnameAnswer_ne_nameError (rr : RR) (cq : Question) (sub : Except ResolutionError LocalResult)
    (soa : RR) : zoneCnameAnswer rr cq sub ≠ .done (.authoritativeNameError soa) := by
  apply zoneCnameAnswer_cases (motive := (· ≠ .done (.authoritativeNameError soa))) <;> intros <;> nofun

theorem zoneCnameAnswer_ne_delegation (rr : RR) (cq : Question) (sub : Except ResolutionError LocalResult)
    (rrs : List RR) (s : Option RR) (d : Nameservers) :
    zoneCnameAnswer rr cq sub ≠ .delegation rrs s d := by
  apply zoneCnameAnswer_cases (motive := (· ≠ .delegation rrs s d)) <;> intros <;> nofun

theorem zoneCnameAnswer_partial {rr : RR} {cq : Question} {sub : Except ResolutionError LocalResult}
    {rrs : List RR} (h : zoneCnameAnswer rr cq sub = .partialAnswer rrs) :
    ∃ rs, sub = .ok (.partialAnswer rs) := by
  revert h
  apply zoneCnameAnswer_cases (motive := fun w => w = .partialAnswer rrs → ∃ rs, sub = .ok (.partialAnswer rs))
  case partialAnswer => exact fun rs hs _ => ⟨rs, hs⟩
  all_goals intros; rename_i h; cases h

theorem zoneCnameAnswer_head (rr : RR) (cq : Question) (sub : Except ResolutionError LocalResult) :
    ∃ rest, (zoneCnameAnswer rr cq sub).toResolved.rrs = rr :: rest := by
  apply zoneCnameAnswer_cases (motive := fun w => ∃ rest, w.toResolved.rrs = rr :: rest) <;> intros <;> exact ⟨_, rfl⟩

theorem zoneCnameAnswer_authoritative_iff (rr : RR) (cq : Question)
    (sub : Except ResolutionError LocalResult) (rrs : List RR) (soa : RR) :
    (zoneCnameAnswer rr cq sub).toResolved = .authoritative rrs soa ↔
      (∃ cr, sub = .ok (.done (.authoritative cr soa)) ∧ rrs = rr :: cr) ∨
      (sub = .ok (.done (.authoritativeNameError soa)) ∧ rrs = [rr]) := by
  apply zoneCnameAnswer_cases (motive := fun w => w.toResolved = .authoritative rrs soa ↔
    (∃ cr, sub = .ok (.done (.authoritative cr soa)) ∧ rrs = rr :: cr) ∨
    (sub = .ok (.done (.authoritativeNameError soa)) ∧ rrs = [rr]))
  case auth =>
    rintro cr s rfl
    simp only [LocalResult.toResolved, ResolvedRecord.authoritative.injEq, Except.ok.injEq, LocalResult.done.injEq,
      reduceCtorEq, false_and, or_false]
    exact ⟨fun ⟨h1, h2⟩ => ⟨cr, ⟨rfl, h2⟩, h1.symm⟩, fun ⟨cr', ⟨h1, h2⟩, h3⟩ => ⟨h1 ▸ h3.symm, h2⟩⟩
  case nameError =>
    rintro s rfl
    simp only [LocalResult.toResolved, ResolvedRecord.authoritative.injEq, Except.ok.injEq, LocalResult.done.injEq,
      reduceCtorEq, false_and, exists_false, false_or, ResolvedRecord.authoritativeNameError.injEq]
    exact ⟨fun ⟨h1, h2⟩ => ⟨h2, h1.symm⟩, fun ⟨h1, h2⟩ => ⟨h2.symm, h1⟩⟩
  case stuck =>
    intro h
    simp only [LocalResult.toResolved, reduceCtorEq, false_iff, not_or, not_exists, not_and]
    constructor
    · intro cr hs; obtain ⟨_, _, _, h'⟩ := h _ hs; cases h'
    · intro hs; obtain ⟨_, _, _, h'⟩ := h _ hs; cases h'
  all_goals intros; rename_i hs; subst hs; simp [LocalResult.toResolved]

def ResolvedRecord.allRrs (r : ResolvedRecord) : List RR := r.rrs ++ r.soaRR.toList

def LocalResult.allRrs : LocalResult → List RR
  | .done r => r.allRrs
  | .partialAnswer rrs => rrs
  | .delegation rrs soa _ => rrs ++ soa.toList
  | .cname rrs _ => rrs

theorem LocalResult.allRrs_toResolved (r : LocalResult) : r.toResolved.allRrs = r.allRrs := by
  cases r with
  | delegation rrs soa d => cases soa <;> rfl
  | done res => rfl
  | _ => exact List.append_nil _

/-- what the cached-alias branch keeps of a result: its records and the alias target still pending, if any. -/
def LocalResult.flat : LocalResult → List RR × Option Name
  | .done res => (res.rrs, none)
  | .partialAnswer rrs => (rrs, none)
  | .cname rrs cq => (rrs, some cq.name)
  | .delegation rrs _ _ => (rrs, none)

theorem LocalResult.flat_fst (w : LocalResult) : w.flat.1 = w.toResolved.rrs := by
  cases w with
  | delegation rs o d => cases o <;> rfl
  | _ => rfl

theorem LocalResult.flat_sub (w : LocalResult) : ∀ rr ∈ w.flat.1, rr ∈ w.allRrs := by
  cases w with
  | done res => exact fun rr h => List.mem_append_left _ h
  | delegation => exact fun rr h => List.mem_append_left _ h
  | _ => exact fun rr h => h

theorem zoneCnameAnswer_allRrs (rr0 : RR) (cq : Question) (sub : Except ResolutionError LocalResult) :
    ∀ rr ∈ (zoneCnameAnswer rr0 cq sub).allRrs, rr = rr0 ∨ ∃ r', sub = .ok r' ∧ rr ∈ r'.allRrs := by
  apply zoneCnameAnswer_cases (motive := fun w => ∀ rr ∈ w.allRrs, rr = rr0 ∨ ∃ r', sub = .ok r' ∧ rr ∈ r'.allRrs)
  case stuck => exact fun _ rr h => .inl (List.mem_singleton.mp h)
  all_goals intros; rename_i hs rr hrr; exact (List.mem_cons.mp hrr).imp_right fun h => ⟨_, hs, h⟩

/-- a cached alias is followed like a zone alias; of the outcome only records and pending target are kept. -/
theorem cacheCnameFinish_eq (rr : RR) (cname : Name) (t cl : Nat) (out : LocalOut) :
    cacheCnameFinish rr cname out = (out.1.pop, .ok (zoneCnameAnswer rr ⟨cname, t, cl⟩ out.2).flat) := by
  obtain ⟨c, e | r⟩ := out
  · rfl
  · cases r with
    | done res => cases res <;> rfl
    | _ => rfl

/-! ## the ways one level ends: one equation each, then the case principles; only these unfold the parts -/

theorem Ctx.atRecursionLimit_iff {ctx : Ctx} : ctx.atRecursionLimit = true ↔ ctx.stack.length = RECURSION_LIMIT := by
  simp [Ctx.atRecursionLimit]

theorem Ctx.isDuplicate_iff {ctx : Ctx} {q : Question} : ctx.isDuplicate q = true ↔ q ∈ ctx.stack := by
  simp [Ctx.isDuplicate]

theorem Ctx.atRecursionLimit_eq_false {ctx : Ctx} : ctx.atRecursionLimit = false ↔ ctx.stack.length ≠ RECURSION_LIMIT := by
  rw [← Bool.not_eq_true, Ctx.atRecursionLimit_iff]

theorem Ctx.isDuplicate_eq_false {ctx : Ctx} {q : Question} : ctx.isDuplicate q = false ↔ q ∉ ctx.stack := by
  rw [← Bool.not_eq_true, Ctx.isDuplicate_iff]

section Step

variable {rec : Ctx → Question → LocalOut} {ctx : Ctx} {q : Question}

theorem localStep_at_limit (h : ctx.stack.length = RECURSION_LIMIT) :
    localStep rec ctx q = (ctx, .error .recursionLimit) := by
  simp only [localStep, Ctx.atRecursionLimit_iff.mpr h, if_true]

theorem localStep_duplicate (hl : ctx.stack.length ≠ RECURSION_LIMIT) (hd : q ∈ ctx.stack) :
    localStep rec ctx q = (ctx, .error (.duplicateQuestion q)) := by
  simp only [localStep, Ctx.atRecursionLimit_eq_false.mpr hl, Ctx.isDuplicate_iff.mpr hd, Bool.false_eq_true,
    if_false, if_true]

/-- the local outcome dictated by the verdict of an AUTHORITATIVE zone when that verdict is not an
    alias: a function of the verdict and the zone's SOA alone. -/
def authVerdict (zr : ZoneResult) (soa : RR) : Except ResolutionError LocalResult :=
  match zr with
  | .answer rrs => .ok (.done (.authoritative rrs soa))
  | .nameError => .ok (.done (.authoritativeNameError soa))
  | .delegation [] => .error .localDelegationMissingNS
  | .delegation (first :: rest) =>
    .ok (.delegation (first :: rest) (some soa)
      { hostnames := (first :: rest).filterMap nsTarget, name := first.name })
  | .cname _ rr => .ok (.cname [rr] default)     -- not used: aliases are followed
  | .panic => .error .outOfFuel                   -- not used: modelled panic site

theorem authVerdict_error {zr : ZoneResult} {soa : RR} {e : ResolutionError} (hnp : zr ≠ .panic)
    (h : authVerdict zr soa = .error e) : e = .localDelegationMissingNS := by
  cases zr with
  | delegation ns => cases ns <;> cases h; rfl
  | panic => exact absurd rfl hnp
  | _ => cases h

theorem zonePart_auth {zone : Zone} {zr : ZoneResult} {soa : RR}
    (hz : ctx.zones.resolve q.name q.qtype = some (zone, some zr)) (hs : zone.soaRR = some soa)
    (hnc : ∀ c rr, zr ≠ .cname c rr) (hnp : zr ≠ .panic) :
    zonePart rec ctx q = (ctx, .inl (authVerdict zr soa)) := by
  cases zr with
  | cname c rr => exact absurd rfl (hnc c rr)
  | panic => exact absurd rfl hnp
  | delegation ns => cases ns <;> simp only [zonePart, hz, zoneResultPart, hs, authVerdict]
  | _ => simp only [zonePart, hz, zoneResultPart, hs, authVerdict]

theorem zonePart_answer_nonauth {zone : Zone} {rrs : List RR}
    (hz : ctx.zones.resolve q.name q.qtype = some (zone, some (.answer rrs))) (hs : zone.soaRR = none)
    (hq : q.qtype ≠ QTYPE_WILDCARD) (hne : rrs ≠ []) :
    zonePart rec ctx q = (ctx, .inl (.ok (.done (.nonAuthoritative rrs none)))) := by
  have : (q.qtype != QTYPE_WILDCARD && !rrs.isEmpty) = true := by simp [hq, hne]
  simp only [zonePart, hz, zoneResultPart, hs, this, if_true]

theorem zonePart_cname {zone : Zone} {c : Name} {rr : RR}
    (hz : ctx.zones.resolve q.name q.qtype = some (zone, some (.cname c rr))) :
    zonePart rec ctx q =
      ((rec (ctx.push q) { name := c, qtype := q.qtype, qclass := q.qclass }).1.pop,
       .inl (.ok (zoneCnameAnswer rr { name := c, qtype := q.qtype, qclass := q.qclass }
         (rec (ctx.push q) { name := c, qtype := q.qtype, qclass := q.qclass }).2))) := by
  simp only [zonePart, hz, zoneResultPart]

/-- the ways the zones leave a question to the cache, contributing the records `rz`
    (`noVerdict`: the `unwrap()` panic site of `Zones::resolve`; `panic`: the modelled panic). -/
inductive ZoneFalls (zs : Zones) (q : Question) : List RR → Prop
  | noZone : zs.resolve q.name q.qtype = none → ZoneFalls zs q []
  | noVerdict (z : Zone) : zs.resolve q.name q.qtype = some (z, none) → ZoneFalls zs q []
  | answer (z : Zone) (rrs : List RR) : zs.resolve q.name q.qtype = some (z, some (.answer rrs)) →
      z.soaRR = none → q.qtype = QTYPE_WILDCARD ∨ rrs = [] → ZoneFalls zs q rrs
  | delegation (z : Zone) (ns : List RR) : zs.resolve q.name q.qtype = some (z, some (.delegation ns)) →
      z.soaRR = none → ZoneFalls zs q []
  | nameError (z : Zone) : zs.resolve q.name q.qtype = some (z, some .nameError) → z.soaRR = none →
      ZoneFalls zs q []
  | panic (z : Zone) : zs.resolve q.name q.qtype = some (z, some .panic) → ZoneFalls zs q []

theorem zonePart_falls {rz : List RR} (h : ZoneFalls ctx.zones q rz) : zonePart rec ctx q = (ctx, .inr rz) := by
  cases h with
  | noZone hz => simp only [zonePart, hz]
  | noVerdict z hz => simp only [zonePart, hz]
  | answer z rrs hz hs hq =>
    have : (q.qtype != QTYPE_WILDCARD && !rz.isEmpty) = false := by
      rcases hq with hq | hq <;> simp [hq]
    simp only [zonePart, hz, zoneResultPart, hs, this, Bool.false_eq_true, if_false]
  | delegation z ns hz hs => simp only [zonePart, hz, zoneResultPart, hs]
  | nameError z hz hs => simp only [zonePart, hz, zoneResultPart, hs]
  | panic z hz => simp only [zonePart, hz, zoneResultPart]

theorem ZoneFalls.contribution {zs : Zones} {rz : List RR} (h : ZoneFalls zs q rz) :
    rz = [] ∨ (q.qtype = QTYPE_WILDCARD ∧ ∃ zone, zone.soaRR = none ∧
      zs.resolve q.name q.qtype = some (zone, some (.answer rz))) := by
  cases h with
  | answer z rrs hz hs hq =>
    rcases hq with hq | hq
    · exact Or.inr ⟨hq, z, hs, hz⟩
    · exact Or.inl hq
  | _ => exact Or.inl rfl

theorem ZoneFalls.nil_of_ne_any {zs : Zones} {rz : List RR} (h : ZoneFalls zs q rz) (hq : q.qtype ≠ QTYPE_WILDCARD) :
    rz = [] :=
  h.contribution.resolve_right fun hw => hq hw.1

/-- what the zones say to a question is one of four things (nothing of `resolve_local` is opened here). -/
theorem zoneVerdict_cases {P : Prop} (zs : Zones) (q : Question)
    (auth : ∀ zone zr soa, zs.resolve q.name q.qtype = some (zone, some zr) → zone.soaRR = some soa →
      (∀ c rr, zr ≠ .cname c rr) → zr ≠ .panic → P)
    (answerNonauth : ∀ zone rrs, zs.resolve q.name q.qtype = some (zone, some (.answer rrs)) →
      zone.soaRR = none → q.qtype ≠ QTYPE_WILDCARD → rrs ≠ [] → P)
    (cname : ∀ zone c rr, zs.resolve q.name q.qtype = some (zone, some (.cname c rr)) → P)
    (falls : ∀ rz, ZoneFalls zs q rz → P) : P := by
  cases hz : zs.resolve q.name q.qtype with
  | none => exact falls _ (.noZone hz)
  | some p =>
    obtain ⟨zone, _ | zr⟩ := p
    · exact falls _ (.noVerdict zone hz)
    cases zr with
    | cname c rr => exact cname zone c rr hz
    | panic => exact falls _ (.panic zone hz)
    | nameError =>
      cases hs : zone.soaRR with
      | some soa => exact auth zone _ soa hz hs nofun nofun
      | none => exact falls _ (.nameError zone hz hs)
    | delegation ns =>
      cases hs : zone.soaRR with
      | some soa => exact auth zone _ soa hz hs nofun nofun
      | none => exact falls _ (.delegation zone ns hz hs)
    | answer rrs =>
      cases hs : zone.soaRR with
      | some soa => exact auth zone _ soa hz hs nofun nofun
      | none =>
        by_cases hq : q.qtype = QTYPE_WILDCARD ∨ rrs = []
        · exact falls _ (.answer zone rrs hz hs hq)
        · exact answerNonauth zone rrs hz hs (fun h => hq (.inl h)) (fun h => hq (.inr h))

theorem ZoneFalls.of_zonePart {c : Ctx} {rz : List RR} (h : zonePart rec ctx q = (c, .inr rz)) :
    ZoneFalls ctx.zones q rz := by
  refine zoneVerdict_cases ctx.zones q (fun _ _ _ hz hs hnc hnp => ?_) (fun _ _ hz hs hq hne => ?_)
    (fun _ _ _ hz => ?_) (fun rz' hf => ?_)
  · rw [zonePart_auth hz hs hnc hnp] at h; cases h
  · rw [zonePart_answer_nonauth hz hs hq hne] at h; cases h
  · rw [zonePart_cname hz] at h; cases h
  · rw [zonePart_falls hf] at h; cases h; exact hf

/-- past the two guards a level is its zone part, and the cache stage if that falls through. -/
theorem localStep_of_guards (hl : ctx.stack.length ≠ RECURSION_LIMIT) (hd : q ∉ ctx.stack) :
    localStep rec ctx q =
      match zonePart rec ctx q with | (c, .inl r) => (c, r) | (c, .inr rz) => cacheStage rec c q rz := by
  simp only [localStep, Ctx.atRecursionLimit_eq_false.mpr hl, Ctx.isDuplicate_eq_false.mpr hd, Bool.false_eq_true, if_false]

theorem localStep_zone_falls {rz : List RR} (hl : ctx.stack.length ≠ RECURSION_LIMIT) (hd : q ∉ ctx.stack)
    (h : ZoneFalls ctx.zones q rz) : localStep rec ctx q = cacheStage rec ctx q rz := by
  rw [localStep_of_guards hl hd, zonePart_falls h]

theorem localStep_cases {motive : Ctx → Except ResolutionError LocalResult → Prop}
    (rec : Ctx → Question → LocalOut) (ctx : Ctx) (q : Question)
    (limit : ctx.stack.length = RECURSION_LIMIT → motive ctx (.error .recursionLimit))
    (duplicate : ctx.stack.length ≠ RECURSION_LIMIT → q ∈ ctx.stack →
      motive ctx (.error (.duplicateQuestion q)))
    (auth : ∀ zone zr soa, ctx.stack.length ≠ RECURSION_LIMIT → q ∉ ctx.stack →
      ctx.zones.resolve q.name q.qtype = some (zone, some zr) → zone.soaRR = some soa →
      (∀ c rr, zr ≠ .cname c rr) → zr ≠ .panic → motive ctx (authVerdict zr soa))
    (answerNonauth : ∀ zone rrs, ctx.stack.length ≠ RECURSION_LIMIT → q ∉ ctx.stack →
      ctx.zones.resolve q.name q.qtype = some (zone, some (.answer rrs)) → zone.soaRR = none →
      q.qtype ≠ QTYPE_WILDCARD → rrs ≠ [] → motive ctx (.ok (.done (.nonAuthoritative rrs none))))
    (cname : ∀ zone c rr, ctx.stack.length ≠ RECURSION_LIMIT → q ∉ ctx.stack →
      ctx.zones.resolve q.name q.qtype = some (zone, some (.cname c rr)) →
      motive (rec (ctx.push q) { name := c, qtype := q.qtype, qclass := q.qclass }).1.pop
        (.ok (zoneCnameAnswer rr { name := c, qtype := q.qtype, qclass := q.qclass }
          (rec (ctx.push q) { name := c, qtype := q.qtype, qclass := q.qclass }).2)))
    (falls : ∀ rz, ctx.stack.length ≠ RECURSION_LIMIT → q ∉ ctx.stack → ZoneFalls ctx.zones q rz →
      motive (cacheStage rec ctx q rz).1 (cacheStage rec ctx q rz).2) :
    motive (localStep rec ctx q).1 (localStep rec ctx q).2 := by
  by_cases hl : ctx.stack.length = RECURSION_LIMIT
  · rw [localStep_at_limit hl]; exact limit hl
  by_cases hd : q ∈ ctx.stack
  · rw [localStep_duplicate hl hd]; exact duplicate hl hd
  rw [localStep_of_guards hl hd]
  refine zoneVerdict_cases ctx.zones q ?_ ?_ ?_ ?_
  · exact fun zone zr soa hz hs hnc hnp => zonePart_auth (rec := rec) hz hs hnc hnp ▸ auth zone zr soa hl hd hz hs hnc hnp
  · exact fun zone rrs hz hs hq hne =>
      zonePart_answer_nonauth (rec := rec) hz hs hq hne ▸ answerNonauth zone rrs hl hd hz hs hq hne
  · exact fun zone c rr hz => zonePart_cname (rec := rec) hz ▸ cname zone c rr hl hd hz
  · exact fun rz hf => zonePart_falls (rec := rec) hf ▸ falls rz hl hd hf

end Step

/-! ### forwards, at `resolveLocal (n + 1)`: the guards and the zone part -/

section Forward

variable (n : Nat) {ctx : Ctx} {q : Question}

theorem resolveLocal_at_limit (h : ctx.stack.length = RECURSION_LIMIT) :
    resolveLocal (n + 1) ctx q = (ctx, .error .recursionLimit) := by
  rw [resolveLocal_succ, localStep_at_limit h]

theorem resolveLocal_duplicate (hl : ctx.stack.length ≠ RECURSION_LIMIT) (hd : q ∈ ctx.stack) :
    resolveLocal (n + 1) ctx q = (ctx, .error (.duplicateQuestion q)) := by
  rw [resolveLocal_succ, localStep_duplicate hl hd]

theorem resolveLocal_zone_auth {z : Zone} {zr : ZoneResult} {soa : RR} (hl : ctx.stack.length ≠ RECURSION_LIMIT)
    (hd : q ∉ ctx.stack) (hz : ctx.zones.resolve q.name q.qtype = some (z, some zr)) (hs : z.soaRR = some soa)
    (hnc : ∀ c rr, zr ≠ .cname c rr) (hnp : zr ≠ .panic) :
    resolveLocal (n + 1) ctx q = (ctx, authVerdict zr soa) := by
  rw [resolveLocal_succ, localStep_of_guards hl hd, zonePart_auth hz hs hnc hnp]

theorem resolveLocal_zone_answer_nonauth {z : Zone} {rrs : List RR} (hl : ctx.stack.length ≠ RECURSION_LIMIT)
    (hd : q ∉ ctx.stack) (hz : ctx.zones.resolve q.name q.qtype = some (z, some (.answer rrs)))
    (hs : z.soaRR = none) (hq : q.qtype ≠ QTYPE_WILDCARD) (hne : rrs ≠ []) :
    resolveLocal (n + 1) ctx q = (ctx, .ok (.done (.nonAuthoritative rrs none))) := by
  rw [resolveLocal_succ, localStep_of_guards hl hd, zonePart_answer_nonauth hz hs hq hne]

theorem resolveLocal_zone_cname_eq {z : Zone} {c : Name} {rr : RR} (hl : ctx.stack.length ≠ RECURSION_LIMIT)
    (hd : q ∉ ctx.stack) (hz : ctx.zones.resolve q.name q.qtype = some (z, some (.cname c rr))) :
    resolveLocal (n + 1) ctx q =
      ((resolveLocal n (ctx.push q) { name := c, qtype := q.qtype, qclass := q.qclass }).1.pop,
       .ok (zoneCnameAnswer rr { name := c, qtype := q.qtype, qclass := q.qclass }
         (resolveLocal n (ctx.push q) { name := c, qtype := q.qtype, qclass := q.qclass }).2)) := by
  rw [resolveLocal_succ, localStep_of_guards hl hd, zonePart_cname hz]

theorem resolveLocal_zone_cname {z : Zone} {c : Name} {rr : RR} {sub : Except ResolutionError LocalResult}
    (hl : ctx.stack.length ≠ RECURSION_LIMIT) (hd : q ∉ ctx.stack)
    (hz : ctx.zones.resolve q.name q.qtype = some (z, some (.cname c rr)))
    (hsub : (resolveLocal n (ctx.push q) { name := c, qtype := q.qtype, qclass := q.qclass }).2 = sub) :
    (resolveLocal (n + 1) ctx q).2 =
      .ok (zoneCnameAnswer rr { name := c, qtype := q.qtype, qclass := q.qclass } sub) := by
  rw [resolveLocal_zone_cname_eq n hl hd hz, hsub]

end Forward

/-! ### the cache stage -/

section CacheStage

variable {rec : Ctx → Question → LocalOut} {ctx2 : Ctx} {q : Question} {r0 : List RR}

theorem cacheStage_eq (rec : Ctx → Question → LocalOut) (ctx : Ctx) (q : Question) (rz : List RR) :
    cacheStage rec ctx q rz = finishPart q rz
      (cachePart rec (ctx.cacheGet q.name q.qtype).1 q (ctx.cacheGet q.name q.qtype).2) := rfl

theorem cachePart_direct (h : r0 ≠ [] ∨ q.qtype = CNAME_QTYPE) :
    cachePart rec ctx2 q r0 = (ctx2, .ok (r0, none)) := by
  have : (r0.isEmpty && q.qtype != CNAME_QTYPE) = false := by
    rcases h with h | h <;> simp [h]
  simp only [cachePart, this, Bool.false_eq_true, if_false]

theorem cachePart_of_cname_read (h0 : r0 = []) (h5 : q.qtype ≠ CNAME_QTYPE) :
    cachePart rec ctx2 q r0 = cacheCnamePart rec (ctx2.cacheGet q.name CNAME_QTYPE).1 q
      (ctx2.cacheGet q.name CNAME_QTYPE).2 := by
  have : (r0.isEmpty && q.qtype != CNAME_QTYPE) = true := by simp [h0, h5]
  simp only [cachePart, this, if_true]

theorem cachePart_empty (h0 : r0 = []) (h5 : q.qtype ≠ CNAME_QTYPE)
    (hc : (ctx2.cacheGet q.name CNAME_QTYPE).2 = []) :
    cachePart rec ctx2 q r0 = ((ctx2.cacheGet q.name CNAME_QTYPE).1, .ok ([], none)) := by
  rw [cachePart_of_cname_read h0 h5, hc]; rfl

theorem cachePart_mismatch {cnameRR : RR} {rest : List RR} (h0 : r0 = []) (h5 : q.qtype ≠ CNAME_QTYPE)
    (hc : (ctx2.cacheGet q.name CNAME_QTYPE).2 = cnameRR :: rest) (ht : cnameTarget cnameRR = none) :
    cachePart rec ctx2 q r0 = ((ctx2.cacheGet q.name CNAME_QTYPE).1, .error .cacheTypeMismatch) := by
  rw [cachePart_of_cname_read h0 h5, hc]; simp only [cacheCnamePart, ht]

theorem cachePart_follow {cnameRR : RR} {rest : List RR} {cname : Name} (h0 : r0 = [])
    (h5 : q.qtype ≠ CNAME_QTYPE) (hc : (ctx2.cacheGet q.name CNAME_QTYPE).2 = cnameRR :: rest)
    (ht : cnameTarget cnameRR = some cname) :
    cachePart rec ctx2 q r0 =
      ((rec ((ctx2.cacheGet q.name CNAME_QTYPE).1.push q) { name := cname, qtype := q.qtype, qclass := q.qclass }).1.pop,
       .ok (zoneCnameAnswer cnameRR { name := cname, qtype := q.qtype, qclass := q.qclass }
         (rec ((ctx2.cacheGet q.name CNAME_QTYPE).1.push q)
           { name := cname, qtype := q.qtype, qclass := q.qclass }).2).flat) := by
  rw [cachePart_of_cname_read h0 h5, hc]; simp only [cacheCnamePart, ht]
  exact cacheCnameFinish_eq _ _ _ _ _

theorem cachePart_cases {motive : Ctx × Except ResolutionError (List RR × Option Name) → Prop}
    (rec : Ctx → Question → LocalOut) (ctx2 : Ctx) (q : Question) (r0 : List RR)
    (direct : r0 ≠ [] ∨ q.qtype = CNAME_QTYPE → motive (ctx2, .ok (r0, none)))
    (empty : r0 = [] → q.qtype ≠ CNAME_QTYPE → (ctx2.cacheGet q.name CNAME_QTYPE).2 = [] →
      motive ((ctx2.cacheGet q.name CNAME_QTYPE).1, .ok ([], none)))
    (mismatch : ∀ cnameRR rest, r0 = [] → q.qtype ≠ CNAME_QTYPE →
      (ctx2.cacheGet q.name CNAME_QTYPE).2 = cnameRR :: rest → cnameTarget cnameRR = none →
      motive ((ctx2.cacheGet q.name CNAME_QTYPE).1, .error .cacheTypeMismatch))
    (follow : ∀ cnameRR rest cname, r0 = [] → q.qtype ≠ CNAME_QTYPE →
      (ctx2.cacheGet q.name CNAME_QTYPE).2 = cnameRR :: rest → cnameTarget cnameRR = some cname →
      motive ((rec ((ctx2.cacheGet q.name CNAME_QTYPE).1.push q)
          { name := cname, qtype := q.qtype, qclass := q.qclass }).1.pop,
        .ok (zoneCnameAnswer cnameRR { name := cname, qtype := q.qtype, qclass := q.qclass }
          (rec ((ctx2.cacheGet q.name CNAME_QTYPE).1.push q)
            { name := cname, qtype := q.qtype, qclass := q.qclass }).2).flat)) :
    motive (cachePart rec ctx2 q r0) := by
  by_cases h : r0 ≠ [] ∨ q.qtype = CNAME_QTYPE
  · rw [cachePart_direct h]; exact direct h
  have h0 : r0 = [] := Decidable.byContradiction fun h0 => h (.inl h0)
  have h5 : q.qtype ≠ CNAME_QTYPE := fun h5 => h (.inr h5)
  cases hc : (ctx2.cacheGet q.name CNAME_QTYPE).2 with
  | nil => rw [cachePart_empty h0 h5 hc]; exact empty h0 h5 hc
  | cons cnameRR rest =>
    cases ht : cnameTarget cnameRR with
    | none => rw [cachePart_mismatch h0 h5 hc ht]; exact mismatch cnameRR rest h0 h5 hc ht
    | some cname => rw [cachePart_follow h0 h5 hc ht]; exact follow cnameRR rest cname h0 h5 hc ht

end CacheStage

theorem mem_prioritisingMerge {a b : List RR} {r : RR} (h : r ∈ prioritisingMerge a b) : r ∈ a ∨ r ∈ b :=
  (List.mem_append.mp h).imp_right fun h => (List.mem_filter.mp h).1

theorem prioritisingMerge_nil (new : List RR) : prioritisingMerge [] new = new := by
  simp [prioritisingMerge]

theorem prioritisingMerge_ne_nil {a b : List RR} (hb : b ≠ []) : prioritisingMerge a b ≠ [] := by
  cases a with
  | nil => rwa [prioritisingMerge_nil]
  | cons x a => exact List.cons_ne_nil _ _

/-! ### the final stage -/

section Finish

variable {q : Question} {rz rc : List RR} {c : Ctx}

theorem finishPart_deadEnd {fc : Option Name} (h : prioritisingMerge rz rc = []) :
    finishPart q rz (c, .ok (rc, fc)) = (c, .error (.deadEnd q)) := by
  simp only [finishPart, h, List.isEmpty_nil, if_true]

/-- the `ok` outcomes of the final stage: the merged records `rrs` (not empty) and the pending alias
    target `fc` of the cache part. -/
def finishOk (q : Question) (rrs : List RR) : Option Name → LocalResult
  | some cn => .cname rrs { name := cn, qtype := q.qtype, qclass := q.qclass }
  | none => if q.qtype = QTYPE_WILDCARD then .partialAnswer rrs else .done (.nonAuthoritative rrs none)

theorem finishOk_done (hq : q.qtype ≠ QTYPE_WILDCARD) (rrs : List RR) :
    finishOk q rrs none = .done (.nonAuthoritative rrs none) := if_neg hq

theorem finishPart_ok_eq {fc : Option Name} (h : prioritisingMerge rz rc ≠ []) :
    finishPart q rz (c, .ok (rc, fc)) = (c, .ok (finishOk q (prioritisingMerge rz rc) fc)) := by
  cases fc with
  | some cn => simp only [finishPart, finishOk, List.isEmpty_eq_false_iff.mpr h, Bool.false_eq_true, if_false]
  | none =>
    by_cases hq : q.qtype = QTYPE_WILDCARD
    · simp only [finishPart, finishOk, List.isEmpty_eq_false_iff.mpr h, Bool.false_eq_true, if_false, hq,
        beq_self_eq_true, if_true]
    · simp only [finishPart, finishOk, List.isEmpty_eq_false_iff.mpr h, Bool.false_eq_true, if_false, beq_iff_eq, hq]

end Finish

theorem finishPart_fst (q : Question) (rz : List RR)
    (cp : Ctx × Except ResolutionError (List RR × Option Name)) : (finishPart q rz cp).1 = cp.1 := by
  obtain ⟨c, e | ⟨rc, fc⟩⟩ := cp
  · rfl
  by_cases h : prioritisingMerge rz rc = []
  · rw [finishPart_deadEnd h]
  · rw [finishPart_ok_eq h]

theorem finishPart_error {q : Question} {rz : List RR}
    {cp : Ctx × Except ResolutionError (List RR × Option Name)} {e : ResolutionError}
    (h : (finishPart q rz cp).2 = .error e) : cp.2 = .error e ∨ e = .deadEnd q := by
  obtain ⟨c, e' | ⟨rc, fc⟩⟩ := cp
  · cases h; exact .inl rfl
  by_cases hm : prioritisingMerge rz rc = []
  · rw [finishPart_deadEnd hm] at h; cases h; exact .inr rfl
  · rw [finishPart_ok_eq hm] at h; cases h

theorem finishPart_ok_inv {q : Question} {rz : List RR}
    {cp : Ctx × Except ResolutionError (List RR × Option Name)} {r : LocalResult}
    (h : (finishPart q rz cp).2 = .ok r) :
    ∃ rc fc, cp.2 = .ok (rc, fc) ∧ prioritisingMerge rz rc ≠ [] ∧ r = finishOk q (prioritisingMerge rz rc) fc := by
  obtain ⟨c, e | ⟨rc, fc⟩⟩ := cp
  · cases h
  by_cases hm : prioritisingMerge rz rc = []
  · rw [finishPart_deadEnd hm] at h; cases h
  · rw [finishPart_ok_eq hm] at h
    exact ⟨rc, fc, rfl, hm, (Except.ok.inj h).symm⟩

theorem finishOk_cases (q : Question) (rrs : List RR) (fc : Option Name) :
    (∃ cq, finishOk q rrs fc = .cname rrs cq) ∨ (q.qtype = QTYPE_WILDCARD ∧ finishOk q rrs fc = .partialAnswer rrs) ∨
      (q.qtype ≠ QTYPE_WILDCARD ∧ finishOk q rrs fc = .done (.nonAuthoritative rrs none)) := by
  cases fc with
  | some cn => exact .inl ⟨_, rfl⟩
  | none =>
    by_cases hq : q.qtype = QTYPE_WILDCARD
    · exact .inr (.inl ⟨hq, if_pos hq⟩)
    · exact .inr (.inr ⟨hq, if_neg hq⟩)

theorem finishOk_ne_nameError (q : Question) (rrs : List RR) (fc : Option Name) (soa : RR) :
    finishOk q rrs fc ≠ .done (.authoritativeNameError soa) := by
  rcases finishOk_cases q rrs fc with ⟨_, h⟩ | ⟨_, h⟩ | ⟨_, h⟩ <;> rw [h] <;> nofun

theorem finishOk_ne_delegation (q : Question) (rrs : List RR) (fc : Option Name) (rs : List RR) (o : Option RR)
    (d : Nameservers) : finishOk q rrs fc ≠ .delegation rs o d := by
  rcases finishOk_cases q rrs fc with ⟨_, h⟩ | ⟨_, h⟩ | ⟨_, h⟩ <;> rw [h] <;> nofun

theorem finishOk_rrs (q : Question) (rrs : List RR) (fc : Option Name) : (finishOk q rrs fc).toResolved.rrs = rrs := by
  rcases finishOk_cases q rrs fc with ⟨_, h⟩ | ⟨_, h⟩ | ⟨_, h⟩ <;> rw [h] <;> rfl

theorem finishOk_allRrs (q : Question) (rrs : List RR) (fc : Option Name) :
    ∀ rr ∈ (finishOk q rrs fc).allRrs, rr ∈ rrs := by
  rcases finishOk_cases q rrs fc with ⟨_, h⟩ | ⟨_, h⟩ | ⟨_, h⟩ <;> rw [h]
  · exact fun _ h => h
  · exact fun _ h => h
  · exact fun _ h => (List.mem_append.mp h).resolve_right List.not_mem_nil

/-! ## what a level leaves alone

  A level changes the context only by cache reads and by a push around the recursive call that is
  popped again: a reflexive, transitive relation that holds across these holds between the context
  returned and the context given. -/

section Rel

variable {R : Ctx → Ctx → Prop} (hrefl : ∀ a, R a a) (htrans : ∀ {a b c}, R a b → R b c → R a c)
  (hget : ∀ c n t, R (c.cacheGet n t).1 c) (hpop : ∀ {c c'} q, R c' (c.push q) → R c'.pop c)
include hrefl htrans hget hpop

theorem cachePart_rel {rec : Ctx → Question → LocalOut} (hrec : ∀ c q, R (rec c q).1 c) (ctx2 : Ctx)
    (q : Question) (r0 : List RR) : R (cachePart rec ctx2 q r0).1 ctx2 := by
  apply cachePart_cases (motive := fun cp => R cp.1 ctx2)
  case direct => intro _; exact hrefl _
  case empty => intro _ _ _; exact hget ctx2 q.name CNAME_QTYPE
  case mismatch => intro _ _ _ _ _ _; exact hget ctx2 q.name CNAME_QTYPE
  case follow =>
    intro cnameRR rest cname _ _ _ _
    exact htrans (hpop q (hrec _ _)) (hget _ _ _)

theorem localStep_rel {rec : Ctx → Question → LocalOut} (hrec : ∀ c q, R (rec c q).1 c) (ctx : Ctx)
    (q : Question) : R (localStep rec ctx q).1 ctx := by
  apply localStep_cases (motive := fun c _ => R c ctx)
  case cname => intro _ c rr _ _ _; exact hpop q (hrec _ _)
  case falls =>
    intro rz _ _ _
    rw [cacheStage_eq, finishPart_fst]
    exact htrans (cachePart_rel hrefl htrans hget hpop hrec _ _ _) (hget _ _ _)
  all_goals intros; exact hrefl _

theorem resolveLocal_rel (fuel : Nat) : ∀ c q, R (resolveLocal fuel c q).1 c :=
  resolveLocal_induct (P := fun rec => ∀ c q, R (rec c q).1 c) (fun c _ => hrefl c)
    (fun _ hrec => localStep_rel hrefl htrans hget hpop hrec) fuel

end Rel

/-! ## the frame: zones, clock and question stack -/

/-- the two contexts differ in the cache at most. -/
def Ctx.SameFrame (a b : Ctx) : Prop := a.zones = b.zones ∧ a.now = b.now ∧ a.stack = b.stack

theorem Ctx.SameFrame.refl (a : Ctx) : a.SameFrame a := ⟨rfl, rfl, rfl⟩
theorem Ctx.SameFrame.trans {a b c : Ctx} (h1 : a.SameFrame b) (h2 : b.SameFrame c) : a.SameFrame c :=
  ⟨h1.1.trans h2.1, h1.2.1.trans h2.2.1, h1.2.2.trans h2.2.2⟩

theorem Ctx.cacheGet_frame (c : Ctx) (n : Name) (t : Nat) : (c.cacheGet n t).1.SameFrame c := by
  unfold Ctx.cacheGet; exact ⟨rfl, rfl, rfl⟩

theorem Ctx.pop_push_frame {c c' : Ctx} (q : Question) (h : c'.SameFrame (c.push q)) :
    c'.pop.SameFrame c := by
  obtain ⟨h1, h2, h3⟩ := h
  refine ⟨h1, h2, ?_⟩
  simp [Ctx.pop, Ctx.push, h3]

theorem resolveLocal_frame (fuel : Nat) (c : Ctx) (q : Question) : (resolveLocal fuel c q).1.SameFrame c :=
  resolveLocal_rel Ctx.SameFrame.refl Ctx.SameFrame.trans Ctx.cacheGet_frame Ctx.pop_push_frame fuel c q

theorem resolveLocal_zones (fuel : Nat) (ctx : Ctx) (q : Question) :
    (resolveLocal fuel ctx q).1.zones = ctx.zones := (resolveLocal_frame fuel ctx q).1

theorem resolveLocal_now (fuel : Nat) (ctx : Ctx) (q : Question) :
    (resolveLocal fuel ctx q).1.now = ctx.now := (resolveLocal_frame fuel ctx q).2.1

theorem resolveLocal_stack (fuel : Nat) (ctx : Ctx) (q : Question) :
    (resolveLocal fuel ctx q).1.stack = ctx.stack := (resolveLocal_frame fuel ctx q).2.2

/-! ## the recursive call: where it happens -/

/-- the arguments with which a level at `(ctx, q)` may call itself. -/
def IsSubcall (ctx : Ctx) (q : Question) (c' : Ctx) (q' : Question) : Prop :=
  c'.stack = ctx.stack ++ [q] ∧ c'.stack.length ≤ RECURSION_LIMIT ∧ q ∉ ctx.stack ∧
  c'.zones = ctx.zones ∧ c'.now = ctx.now ∧ q'.qtype = q.qtype ∧ q'.qclass = q.qclass

theorem IsSubcall.push {ctx c : Ctx} {q : Question} (hf : c.SameFrame ctx)
    (hl : ctx.stack.length < RECURSION_LIMIT) (hd : q ∉ ctx.stack) (n : Name) :
    IsSubcall ctx q (c.push q) { name := n, qtype := q.qtype, qclass := q.qclass } := by
  obtain ⟨hz, hn, hs⟩ := hf
  refine ⟨by simp only [Ctx.push, hs], ?_, hd, hz, hn, rfl, rfl⟩
  simp only [Ctx.push, List.length_append, List.length_singleton, hs]; omega

theorem Ctx.push_nodup {c : Ctx} {q : Question} (hq : q ∉ c.stack) (hn : c.stack.Nodup) : (c.push q).stack.Nodup :=
  List.nodup_append.mpr ⟨hn, List.pairwise_singleton _ q, fun _ ha _ hb hab => hq (List.mem_singleton.mp hb ▸ hab ▸ ha)⟩

theorem cacheStage_congr {r1 r2 : Ctx → Question → LocalOut} {ctx : Ctx} {q : Question}
    (hlen : ctx.stack.length < RECURSION_LIMIT) (hnd : q ∉ ctx.stack)
    (h : ∀ c' q', IsSubcall ctx q c' q' → r1 c' q' = r2 c' q') (rz : List RR) :
    cacheStage r1 ctx q rz = cacheStage r2 ctx q rz := by
  rw [cacheStage_eq, cacheStage_eq]
  congr 1
  apply cachePart_cases (motive := fun cp => cp = cachePart r2 _ q _)
  case direct => intro h; exact (cachePart_direct h).symm
  case empty => intro h0 h5 hc; exact (cachePart_empty h0 h5 hc).symm
  case mismatch => intro _ _ h0 h5 hc ht; exact (cachePart_mismatch h0 h5 hc ht).symm
  case follow =>
    intro cnameRR rest cname h0 h5 hc ht
    rw [cachePart_follow h0 h5 hc ht,
      h _ _ (.push ((Ctx.cacheGet_frame _ _ _).trans (Ctx.cacheGet_frame _ _ _)) hlen hnd cname)]

theorem localStep_congr {r1 r2 : Ctx → Question → LocalOut} {ctx : Ctx} {q : Question}
    (hlen : ctx.stack.length ≤ RECURSION_LIMIT)
    (h : ∀ c' q', IsSubcall ctx q c' q' → r1 c' q' = r2 c' q') :
    localStep r1 ctx q = localStep r2 ctx q := by
  have lt : ctx.stack.length ≠ RECURSION_LIMIT → ctx.stack.length < RECURSION_LIMIT := by omega
  apply localStep_cases (motive := fun c r => (c, r) = localStep r2 ctx q) r1
  case limit => intro hl; exact (localStep_at_limit hl).symm
  case duplicate => intro hl hd; exact (localStep_duplicate hl hd).symm
  case auth => intro _ _ _ hl hd hz hs hnc hnp; rw [localStep_of_guards hl hd, zonePart_auth hz hs hnc hnp]
  case answerNonauth =>
    intro _ _ hl hd hz hs hq hne; rw [localStep_of_guards hl hd, zonePart_answer_nonauth hz hs hq hne]
  case cname =>
    intro _ c rr hl hd hz
    rw [localStep_of_guards hl hd, zonePart_cname hz, h _ _ (.push (.refl ctx) (lt hl) hd c)]
  case falls =>
    intro rz hl hd hf
    rw [localStep_zone_falls hl hd hf]
    exact cacheStage_congr (lt hl) hd h rz

/-! ## fuel -/

theorem resolveLocal_fuel_irrelevant : ∀ (fuel : Nat) (ctx : Ctx) (q : Question),
    ctx.stack.length ≤ RECURSION_LIMIT → RECURSION_LIMIT + 1 ≤ fuel + ctx.stack.length →
    ∀ fuel', fuel ≤ fuel' → resolveLocal fuel' ctx q = resolveLocal fuel ctx q := by
  intro fuel
  induction fuel with
  | zero => intro ctx q h1 h2; omega
  | succ n ih =>
    intro ctx q h1 h2 fuel' hf
    obtain ⟨m, rfl⟩ : ∃ m, fuel' = m + 1 := ⟨fuel' - 1, by omega⟩
    rw [resolveLocal_succ, resolveLocal_succ]
    apply localStep_congr h1
    intro c' q' hs
    obtain ⟨hst, hl, _⟩ := hs
    apply ih c' q' hl
    · rw [hst]; simp only [List.length_append, List.length_singleton]; omega
    · omega

/-! ## which outcomes come from where -/

theorem cacheStage_error {rec : Ctx → Question → LocalOut} {ctx : Ctx} {q : Question} {rz : List RR}
    {e : ResolutionError} (h : (cacheStage rec ctx q rz).2 = .error e) :
    e = .cacheTypeMismatch ∨ e = .deadEnd q := by
  rw [cacheStage_eq] at h
  refine (finishPart_error h).imp_left ?_
  apply cachePart_cases (motive := fun cp => cp.2 = .error e → e = .cacheTypeMismatch)
  case mismatch => intro _ _ _ _ _ _ h; cases h; rfl
  all_goals intros; rename_i h; cases h

theorem localStep_error {rec : Ctx → Question → LocalOut} {ctx : Ctx} {q : Question}
    {e : ResolutionError} (h : (localStep rec ctx q).2 = .error e) :
    e = .recursionLimit ∨ e = .duplicateQuestion q ∨ e = .localDelegationMissingNS ∨
    e = .cacheTypeMismatch ∨ e = .deadEnd q := by
  revert h
  apply localStep_cases (motive := fun _ r => r = .error e → e = .recursionLimit ∨
    e = .duplicateQuestion q ∨ e = .localDelegationMissingNS ∨ e = .cacheTypeMismatch ∨ e = .deadEnd q)
  case limit => intro _ h; cases h; exact .inl rfl
  case duplicate => intro _ _ h; cases h; exact .inr (.inl rfl)
  case auth => intro _ _ _ _ _ _ _ _ hnp h; exact .inr (.inr (.inl (authVerdict_error hnp h)))
  case falls => intro rz _ _ _ h; exact .inr (.inr (.inr (cacheStage_error h)))
  all_goals intros; rename_i h; cases h

theorem resolveLocal_ok_guards {fuel : Nat} {ctx : Ctx} {q : Question} {lr : LocalResult}
    (h : (resolveLocal fuel ctx q).2 = .ok lr) : ctx.atRecursionLimit = false ∧ ctx.isDuplicate q = false := by
  cases fuel with
  | zero => rw [resolveLocal_zero] at h; cases h
  | succ n =>
    by_cases hl : ctx.stack.length = RECURSION_LIMIT
    · rw [resolveLocal_at_limit n hl] at h; cases h
    by_cases hd : q ∈ ctx.stack
    · rw [resolveLocal_duplicate n hl hd] at h; cases h
    exact ⟨Ctx.atRecursionLimit_eq_false.mpr hl, Ctx.isDuplicate_eq_false.mpr hd⟩

/-! ## authoritative-only mode -/

theorem resolveAuthoritativeOnly_eq (ctx : Ctx) (q : Question) :
    resolveAuthoritativeOnly ctx q =
      ((resolveLocal (RECURSION_LIMIT + 1) ctx q).1,
       (resolveLocal (RECURSION_LIMIT + 1) ctx q).2.map LocalResult.toResolved) := by
  rw [resolveAuthoritativeOnly]

theorem resolveAuthoritativeOnly_ok {ctx : Ctx} {q : Question} {res : ResolvedRecord}
    (h : (resolveAuthoritativeOnly ctx q).2 = .ok res) :
    ∃ r, (resolveLocal (RECURSION_LIMIT + 1) ctx q).2 = .ok r ∧ r.toResolved = res := by
  rw [resolveAuthoritativeOnly_eq] at h
  cases hl : (resolveLocal (RECURSION_LIMIT + 1) ctx q).2 with
  | error e => rw [hl] at h; cases h
  | ok r => rw [hl] at h; exact ⟨r, rfl, Except.ok.inj h⟩

end Resolved
