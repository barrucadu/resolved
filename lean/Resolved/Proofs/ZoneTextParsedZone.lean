/-
  C13, the converse side, the zone: the zone `buildZone st` that `Zone::deserialise` builds from a well-formed final
  state of its entry loop (`zp_StOK st`, Proofs/ZoneTextParsed.lean) satisfies the hypotheses of `C13_roundtrip` but
  for the `NoStar` clause (`buildZone_props`; `zp_ZoneTextOK` is `ZoneTextOK` without that clause); building succeeds
  when every collected record lies under the apex and ends in `NotSubdomainOfApex` otherwise, never in a panic
  (`buildZone_isOk`, `buildZone_err_outside`), and `buildZone_lists` says what the built zone lists.
-/
import Resolved.Proofs.ZoneTextInsert
import Resolved.Proofs.ZoneTextParsed

namespace Resolved.ZoneText

open Resolved Resolved.IpText Gen

theorem zp_StOK.apex_text {st : DState} (hst : zp_StOK st) : TextName st.apex := by
  unfold DState.apex
  cases h : st.apexAndSoa with
  | none => exact root_textName
  | some p => obtain ⟨a, s⟩ := p; exact (hst.soa a s h).1

theorem zp_StOK.soa_ok {st : DState} (hst : zp_StOK st) : ∀ s, st.soa = some s → SoaOK s := by
  intro s hs
  unfold DState.soa at hs
  cases h : st.apexAndSoa with
  | none => rw [h] at hs; cases hs
  | some p =>
    obtain ⟨a, s'⟩ := p
    rw [h] at hs
    cases hs
    exact (hst.soa a s' h).2

theorem zp_StOK.collected {st : DState} (hst : zp_StOK st) (rr : RR)
    (h : rr ∈ st.rrs.reverse ∨ rr ∈ st.wildcardRrs.reverse) :
    TextName rr.name ∧ rr.ttl < 4294967296 ∧ RdataOK rr.rtype rr.fields :=
  h.elim (fun h => hst.rrs rr (List.mem_reverse.mp h)) (fun h => hst.wild rr (List.mem_reverse.mp h))

/-- `ZoneTextOK` of Proofs/ZoneTextOK.lean WITHOUT the clause that no ordinary owner's first label starts with `*`
    (`NoStar`): such an owner is written like a wildcard and read back as one
    (`C13_K1_star_owner_reads_back_as_wildcard`, Props/C13.lean), and a parsed zone can hold one. -/
structure zp_ZoneTextOK (z : Zone) : Prop where
  apex : TextName z.apex
  nonauth_root : z.soa = none → z.apex = Name.root
  soa : ∀ s, z.soa = some s → SoaOK s
  records : ∀ p ∈ z.allRecords, TextName p.1 ∧
    ∀ zr ∈ p.2, zr.rtype ≠ RT_SOA → RdataOK zr.rtype zr.fields ∧ zr.ttl < 4294967296
  wildcards : ∀ p ∈ z.allWildcardRecords, TextName p.1 ∧
    ∀ zr ∈ p.2, RdataOK zr.rtype zr.fields ∧ zr.ttl < 4294967296

theorem zp_zoneTextOK_iff (z : Zone) :
    ZoneTextOK z ↔ zp_ZoneTextOK z ∧ ∀ p ∈ z.allRecords, NoStar p.1 := by
  constructor
  · intro h
    exact ⟨⟨h.apex, h.nonauth_root, h.soa, fun p hp => ⟨(h.records p hp).1, (h.records p hp).2.2⟩, h.wildcards⟩,
      fun p hp => (h.records p hp).2.1⟩
  · rintro ⟨h, hs⟩
    exact ⟨h.apex, h.nonauth_root, h.soa, fun p hp => ⟨(h.records p hp).1, hs p hp, (h.records p hp).2⟩,
      h.wildcards⟩

theorem buildZone_isOk {st : DState} (hst : zp_StOK st)
    (hsub : ∀ rr, rr ∈ st.rrs ∨ rr ∈ st.wildcardRrs → rr.name.isSubdomainOf st.apex = true) :
    ∃ z, buildZone st = .ok z := by
  rw [buildZone_eq_new]
  exact insertBoth_new_isOk hst.apex_text.nameOK (fun rr hrr => (hst.collected rr hrr).1.nameOK)
    (fun rr hrr => hsub rr (hrr.imp List.mem_reverse.mp List.mem_reverse.mp))

theorem buildZone_err_outside {st : DState} (hst : zp_StOK st)
    (hout : ∃ rr, (rr ∈ st.rrs ∨ rr ∈ st.wildcardRrs) ∧ rr.name.isSubdomainOf st.apex = false) :
    buildZone st = .err .notSubdomainOfApex := by
  obtain ⟨rr, hrr, hbad⟩ := hout
  rw [buildZone_eq_new]
  exact insertBoth_new_outside hst.apex_text.nameOK (fun rr hrr => (hst.collected rr hrr).1.nameOK)
    ⟨rr, hrr.imp List.mem_reverse.mpr List.mem_reverse.mpr, hbad⟩

/-- what the built zone lists: its SOA record at the apex and the records of the file, TTL raised to the SOA's MINIMUM
    by `actual_ttl`. -/
theorem buildZone_lists {st : DState} (hst : zp_StOK st) {z : Zone} (h : buildZone st = .ok z) :
    z.apex = st.apex ∧ z.soa = st.soa ∧ ∀ (w : Bool) (n : Name) (zr : ZoneRecord),
      z.Lists w n zr ↔
        (w = false ∧ n = st.apex ∧ ∃ s, st.soa = some s ∧ zr = Zone.soaRecord s) ∨
        ∃ rr ∈ (bif w then st.wildcardRrs.reverse else st.rrs.reverse),
          n = rr.name ∧ zr = ⟨rr.rtype, rr.fields, Zone.clampTtl st.soa rr.ttl⟩ := by
  rw [buildZone_eq_new] at h
  obtain ⟨ha, hs⟩ := Zone.build_apex_soa ((insertBoth_new_ok_iff _ _ _ _ z).mp h).2
  exact ⟨ha, hs, insertBoth_lists hst.apex_text.nameOK (fun rr hrr => (hst.collected rr hrr).1.nameOK) h⟩

/-- the zone is built through the insertion API, and what it lists (`buildZone_lists`) is of the kind the serialiser
    writes back. -/
theorem buildZone_props {st : DState} (hst : zp_StOK st) {z : Zone} (h : buildZone st = .ok z) :
    (NameOK st.apex ∧ Zone.build st.apex st.soa (opsOf st.rrs.reverse st.wildcardRrs.reverse) = some z) ∧
    OnlyOwnSoa z ∧ zp_ZoneTextOK z := by
  have hat := hst.apex_text
  obtain ⟨ha, hs, hlists⟩ := buildZone_lists hst h
  rw [buildZone_eq_new] at h
  have hb := ((insertBoth_new_ok_iff _ _ _ _ z).mp h).2
  have hk := Zone.keysNodup_build _ _ _ z hb
  have hl : ∀ w n zr, z.Lists w n zr →
      (w = false ∧ n = st.apex ∧ ∃ s, st.soa = some s ∧ zr = Zone.soaRecord s) ∨
      (TextName n ∧ RdataOK zr.rtype zr.fields ∧ zr.ttl < 4294967296) := by
    intro w n zr hl
    refine ((hlists w n zr).mp hl).imp_right ?_
    rintro ⟨rr, hrr, rfl, rfl⟩
    obtain ⟨h1, h2, h3⟩ := hst.collected rr (mem_or_of_mem_cond hrr)
    exact ⟨h1, h3, Zone.clampTtl_lt (fun s hs => (hst.soa_ok s hs).2.2.2.2.2.2) h2⟩
  have hfr : ∀ n zr, FlatRec z n zr → (n = st.apex ∧ ∃ s, st.soa = some s ∧ zr = Zone.soaRecord s) ∨
      (TextName n ∧ RdataOK zr.rtype zr.fields ∧ zr.ttl < 4294967296) :=
    fun n zr hfl => (hl false n zr (flatRec_iff_lists.mp hfl)).imp_left (·.2)
  have hfw : ∀ n zr, FlatWild z n zr → TextName n ∧ RdataOK zr.rtype zr.fields ∧ zr.ttl < 4294967296 :=
    fun n zr hfl => (hl true n zr (flatWild_iff_lists.mp hfl)).resolve_left (fun h => nomatch h.1)
  refine ⟨⟨hat.nameOK, hb⟩, ?_, ha ▸ hat, fun hn => ha ▸ DState.apex_root_of_soa_none (hs ▸ hn),
    fun s hss => hst.soa_ok s (hs ▸ hss), ?_, ?_⟩
  · intro n zr hfl h6
    rcases hfr n zr hfl with ⟨hn, s, hss, hz⟩ | ⟨-, hrd, -⟩
    · exact ⟨hn.trans ha.symm, s, hs.trans hss, hz⟩
    · exact absurd h6 hrd.not_soa
  · intro p hp
    obtain ⟨n, zrs⟩ := p
    obtain ⟨zr0, hzr0⟩ := ZNode.exists_mem_of_mem_listing hk (w := false) hp
    refine ⟨?_, ?_⟩
    · rcases hfr n zr0 ⟨zrs, hp, hzr0⟩ with ⟨hn, -⟩ | ⟨hn, -⟩
      · rw [hn]; exact hat
      · exact hn
    · intro zr hzr hns
      rcases hfr n zr ⟨zrs, hp, hzr⟩ with ⟨-, s, -, hz⟩ | ⟨-, hrd, httl⟩
      · rw [hz] at hns; exact absurd rfl hns
      · exact ⟨hrd, httl⟩
  · intro p hp
    obtain ⟨n, zrs⟩ := p
    obtain ⟨zr0, hzr0⟩ := ZNode.exists_mem_of_mem_listing hk (w := true) hp
    exact ⟨(hfw n zr0 ⟨zrs, hp, hzr0⟩).1, fun zr hzr => (hfw n zr ⟨zrs, hp, hzr⟩).2⟩

end Resolved.ZoneText
