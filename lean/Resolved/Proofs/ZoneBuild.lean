/-
  Zones as built by configuration: `Zone.new` followed by a sequence of `insert` / `insert_wildcard`
  calls (`Zone.build`), and the flat entry list of that sequence (`ZSpec.entriesOf`).  What the empty
  tree has and an insertion keeps holds of such a zone (`Zone.build_records_invariant`).  C02 at the
  `Zone` level: such zones represent their entry list (`Zone.repr_build`); building them does not
  panic, by the node names alone (`Zone.NamedFromApex`, `Zone.build_isSome`); the lookup theorems of
  `ZoneRepr` for a represented zone (`Zone.Repr.resolve_refines`, `.resolve_ne_panic`).  What such a
  zone lists (`all_records`, `all_wildcard_records`): the entries it represents, that is its SOA
  record and what each insertion adds (`Zone.lists_build`).
-/
import Resolved.Proofs.ZoneRepr

namespace Resolved

open ZSpec

/-- one `Zone::insert` (`wild = false`) or `Zone::insert_wildcard` (`wild = true`) call. -/
structure ZoneOp where
  name : Name
  rtype : Nat
  fields : List FieldVal
  ttl : Nat
  wild : Bool
deriving Repr, DecidableEq

namespace Zone

/-- the one call of `Zone::insert` / `insert_wildcard` that `op` records. -/
def applyOp (z : Zone) (op : ZoneOp) : Option Zone :=
  z.insert op.name op.rtype op.fields op.ttl op.wild

/-- replay a sequence of insertions; `none` = a modelled panic. -/
def applyOps (z : Zone) : List ZoneOp → Option Zone
  | [] => some z
  | op :: ops =>
    match z.applyOp op with
    | some z' => z'.applyOps ops
    | none => none

/-- a configured zone: `Zone::new`, then the insertions in order. -/
def build (apex : Name) (soa : Option SOA) (ops : List ZoneOp) : Option Zone :=
  (Zone.new apex soa).applyOps ops

/-- the record a zone with this SOA stores at its apex. -/
def soaRecord (s : SOA) : ZoneRecord := ⟨RT_SOA, s.toFields, s.minimum⟩

end Zone

namespace ZSpec

/-- the entry of the flat specification that the insertion `op` into a zone with `z0`'s apex and SOA
    stands for: owner relative to the apex, TTL raised by `actual_ttl`; none for a name outside the apex,
    which `insert` skips. -/
def opEntry (z0 : Zone) (op : ZoneOp) : Option Entry :=
  match z0.relativeDomain op.name with
  | some rel => some { rel, wild := op.wild, zr := ⟨op.rtype, op.fields, z0.actualTtl op.ttl⟩ }
  | none => none

/-- the flat entry list of a configuration: the SOA entry first (when the zone has an SOA), then one
    entry per insertion, TTL clamped by `actual_ttl`, names outside the apex skipped. -/
def entriesOf (apex : Name) (soa : Option SOA) (ops : List ZoneOp) : List Entry :=
  (match soa with
   | some s => [{ rel := [], wild := false, zr := Zone.soaRecord s }]
   | none => []) ++ ops.filterMap (opEntry (Zone.new apex soa))

/-- `opEntry` with the zone given by its apex and SOA, which is all `opEntry` looks at
    (`entriesOf_eq`).  Unlike `Zone.new apex soa` (which inserts the SOA record through the
    well-founded `ZNode.insert`) this zone is a literal, so `decide` can evaluate `entriesOf` on
    concrete operations after `rw [ZSpec.entriesOf_eq]`. -/
def opEntry' (apex : Name) (soa : Option SOA) (op : ZoneOp) : Option Entry :=
  opEntry { apex, soa, records := ZNode.new apex } op

end ZSpec

namespace Zone

theorem new_apex_soa (apex : Name) (soa : Option SOA) :
    (Zone.new apex soa).apex = apex ∧ (Zone.new apex soa).soa = soa := by
  unfold Zone.new
  cases soa with
  | none => exact ⟨rfl, rfl⟩
  | some s => simp only; split <;> exact ⟨rfl, rfl⟩

theorem _root_.Resolved.ZSpec.opEntry_congr {z z' : Zone} (ha : z.apex = z'.apex) (hs : z.soa = z'.soa)
    (op : ZoneOp) : opEntry z op = opEntry z' op := by
  unfold opEntry Zone.relativeDomain Zone.actualTtl
  rw [ha, hs]

theorem _root_.Resolved.ZSpec.entriesOf_eq (apex : Name) (soa : Option SOA) (ops : List ZoneOp) :
    entriesOf apex soa ops =
      (match soa with
       | some s => [{ rel := [], wild := false, zr := Zone.soaRecord s }]
       | none => []) ++ ops.filterMap (opEntry' apex soa) := by
  have hf : opEntry (Zone.new apex soa) = opEntry' apex soa :=
    funext (opEntry_congr (new_apex_soa apex soa).1 (new_apex_soa apex soa).2)
  unfold entriesOf
  rw [hf]

theorem new_records_none (apex : Name) : (Zone.new apex none).records = ZNode.new apex := rfl

theorem new_records_some (apex : Name) (s : SOA) :
    (ZNode.new apex).insertRev [] (soaRecord s) false = some (Zone.new apex (some s)).records := by
  unfold Zone.new
  simp only [ZNode.insert_eq_rev, List.reverse_nil]
  simp only [ZNode.insertRev, Bool.false_eq_true, if_false, soaRecord]

theorem applyOps_invariant {P : Zone → Prop} (ops : List ZoneOp)
    (hstep : ∀ op ∈ ops, ∀ z z', P z → z.applyOp op = some z' → P z') :
    ∀ (z z' : Zone), P z → z.applyOps ops = some z' → P z' := by
  induction ops with
  | nil => intro z z' hz h; cases h; exact hz
  | cons op ops ih =>
    intro z z' hz h
    rw [applyOps] at h
    cases ho : z.applyOp op with
    | none => rw [ho] at h; cases h
    | some z1 =>
      rw [ho] at h
      exact ih (fun o ho' => hstep o (List.mem_cons_of_mem _ ho')) z1 z'
        (hstep op List.mem_cons_self z z1 hz ho) h

theorem applyOps_apex_soa (ops : List ZoneOp) : ∀ (z z' : Zone), z.applyOps ops = some z' →
    z'.apex = z.apex ∧ z'.soa = z.soa := by
  intro z z' h
  refine applyOps_invariant (P := fun y => y.apex = z.apex ∧ y.soa = z.soa) ops ?_ z z' ⟨rfl, rfl⟩ h
  intro op _ a b hp ho
  obtain ⟨h1, h2, _⟩ := insert_cases a b _ _ _ _ _ ho
  exact ⟨h1.trans hp.1, h2.trans hp.2⟩

theorem build_apex_soa {apex : Name} {soa : Option SOA} {ops : List ZoneOp} {z : Zone}
    (hb : Zone.build apex soa ops = some z) : z.apex = apex ∧ z.soa = soa := by
  obtain ⟨h1, h2⟩ := applyOps_apex_soa ops _ z hb
  obtain ⟨n1, n2⟩ := new_apex_soa apex soa
  exact ⟨h1.trans n1, h2.trans n2⟩

theorem applyOps_append (z : Zone) (a b : List ZoneOp) :
    z.applyOps (a ++ b) = (z.applyOps a).bind (fun z' => z'.applyOps b) := by
  induction a generalizing z with
  | nil => rfl
  | cons op ops ih =>
    simp only [List.cons_append, applyOps]
    cases z.applyOp op with
    | none => rfl
    | some z1 => exact ih z1

/-- `Zone.build` told from the last insertion (`reachable_iff_build`), for statements proved by
    induction on what was inserted last. -/
inductive Reachable (apex : Name) (soa : Option SOA) : List ZoneOp → Zone → Prop
  | new : Reachable apex soa [] (Zone.new apex soa)
  | step (ops : List ZoneOp) (op : ZoneOp) (z z' : Zone) :
      Reachable apex soa ops z → z.applyOp op = some z' → Reachable apex soa (ops ++ [op]) z'

theorem reachable_iff_build (apex : Name) (soa : Option SOA) (ops : List ZoneOp) (z : Zone) :
    Reachable apex soa ops z ↔ build apex soa ops = some z := by
  constructor
  · intro h
    induction h with
    | new => rfl
    | step ops op z z' _ ho ih =>
      unfold build at ih ⊢
      rw [applyOps_append, ih]
      simp [applyOps, ho]
  · intro h
    have gen : ∀ (ops2 ops1 : List ZoneOp) (z1 : Zone), Reachable apex soa ops1 z1 →
        z1.applyOps ops2 = some z → Reachable apex soa (ops1 ++ ops2) z := by
      intro ops2
      induction ops2 with
      | nil =>
        intro ops1 z1 hr ha
        simp only [applyOps, Option.some.injEq] at ha; subst ha; simpa using hr
      | cons op ops2 ih =>
        intro ops1 z1 hr ha
        simp only [applyOps] at ha
        cases h2 : z1.applyOp op with
        | none => simp [h2] at ha
        | some z2 =>
          simp only [h2] at ha
          have := ih (ops1 ++ [op]) z2 (Reachable.step ops1 op z1 z2 hr h2) ha
          simpa using this
    have := gen ops [] (Zone.new apex soa) Reachable.new h
    simpa using this

theorem applyOps_apex_get (k : Nat) (ops : List ZoneOp) (hops : ∀ op ∈ ops, op.rtype ≠ k) :
    ∀ (z z' : Zone), z.applyOps ops = some z' → z.records.this.keys.Nodup →
      z'.records.this.keys.Nodup ∧ z'.records.this.get k = z.records.this.get k := by
  intro z z' h hn
  refine applyOps_invariant
    (P := fun y => y.records.this.keys.Nodup ∧ y.records.this.get k = z.records.this.get k)
    ops ?_ z z' ⟨hn, rfl⟩ h
  intro op hop a b hp ho
  obtain ⟨_, _, hc⟩ := insert_cases a b _ _ _ _ _ ho
  rcases hc with ⟨_, rfl⟩ | ⟨rel, _, hi⟩
  · exact hp
  · rw [ZNode.insertRev_root_this _ _ _ _ _ hi]
    split
    · refine ⟨RecMap.keys_nodup_insertRecord _ _ hp.1, ?_⟩
      rw [RecMap.get_insertRecord, if_neg (hops op hop)]; exact hp.2
    · exact hp

theorem new_apex_this (apex : Name) (soa : Option SOA) :
    (Zone.new apex soa).records.this = match soa with | some s => [(RT_SOA, [soaRecord s])] | none => [] := by
  cases soa with
  | none => rfl
  | some s =>
    have := new_records_some apex s
    have h2 := ZNode.insertRev_root_this _ _ _ _ _ this
    simpa [RecMap.insertRecord, RecMap.get, RecMap.set, soaRecord] using h2

/-! ## what insertions keep holds of a built zone; building does not panic (no specification involved) -/

/-- every property of the tree that the empty tree has and an insertion keeps holds of a built zone
    (`Zone::new` with an SOA is one more insertion). -/
theorem build_records_invariant {P : ZNode → Prop} {apex : Name} {soa : Option SOA} {ops : List ZoneOp}
    {z : Zone} (hnew : P (ZNode.new apex))
    (hstep : ∀ node node' r zr wild, P node → node.insertRev r zr wild = some node' → P node')
    (hb : Zone.build apex soa ops = some z) : P z.records := by
  refine applyOps_invariant (P := fun y => P y.records) ops (fun op _ a b h ho => ?_) _ z ?_ hb
  · obtain ⟨_, _, ⟨_, rfl⟩ | ⟨rel, _, hi⟩⟩ := insert_cases a b _ _ _ _ _ ho
    · exact h
    · exact hstep _ _ _ _ _ h hi
  · cases soa with
    | none => exact hnew
    | some s => exact hstep _ _ _ _ _ hnew (new_records_some apex s)

theorem keysNodup_build (apex : Name) (soa : Option SOA) (ops : List ZoneOp) (z : Zone)
    (hb : Zone.build apex soa ops = some z) : ZNode.KeysNodup z.records :=
  build_records_invariant (ZNode.keysNodup_new apex)
    (fun _ _ r zr w h hi => ZNode.keysNodup_insertRev r zr w _ _ h hi) hb

/-- what `insert` needs of the zone it is called on, and keeps: node names spell their paths, from
    the apex. -/
def NamedFromApex (z : Zone) : Prop := ZNode.NamesOK z.records ∧ z.records.nsdname = z.apex

theorem insert_isSome (z : Zone) (name : Name) (rtype : Nat) (fields : List FieldVal) (ttl : Nat)
    (wild : Bool) (hn : ZNode.NamesOK z.records) (hroot : z.records.nsdname = z.apex)
    (hname : NameOK name) : (z.insert name rtype fields ttl wild).isSome := by
  rw [insert_eq_insertRev]
  cases hr : z.relativeDomain name with
  | none => rfl
  | some rel =>
    have hl := relativeDomain_eq_some_iff.mp hr
    obtain ⟨r, hi⟩ := Option.isSome_iff_exists.mp
      (ZNode.insertRev_isSome ⟨rtype, fields, z.actualTtl ttl⟩ wild rel.reverse z.records hn
        (by rw [List.reverse_reverse, hroot, hl, hname]; rfl))
    simp only [hi]
    rfl

theorem NamedFromApex.insert {z z' : Zone} (h : NamedFromApex z) {name : Name} {rtype : Nat}
    {fields : List FieldVal} {ttl : Nat} {wild : Bool}
    (hi : z.insert name rtype fields ttl wild = some z') : NamedFromApex z' := by
  obtain ⟨ha, -, ⟨-, rfl⟩ | ⟨rel, -, hr⟩⟩ := insert_cases z z' _ _ _ _ _ hi
  · exact h
  · obtain ⟨h1, h2⟩ := ZNode.namesOK_insertRev _ _ _ _ _ h.1 hr
    exact ⟨h1, h2.trans (h.2.trans ha.symm)⟩

theorem namedFromApex_build {apex : Name} {soa : Option SOA} {ops : List ZoneOp} {z : Zone}
    (hap : NameOK apex) (hb : Zone.build apex soa ops = some z) : NamedFromApex z := by
  have h := build_records_invariant (P := fun node => ZNode.NamesOK node ∧ node.nsdname = apex)
    ⟨ZNode.namesOK_new apex hap, rfl⟩
    (fun _ _ r zr w h hi =>
      let ⟨h1, h2⟩ := ZNode.namesOK_insertRev zr w r _ _ h.1 hi
      ⟨h1, h2.trans h.2⟩) hb
  exact ⟨h.1, h.2.trans (build_apex_soa hb).1.symm⟩

theorem applyOps_isSome (ops : List ZoneOp) (hops : ∀ op ∈ ops, NameOK op.name) :
    ∀ z : Zone, NamedFromApex z → (z.applyOps ops).isSome := by
  induction ops with
  | nil => intro z _; rfl
  | cons op ops ih =>
    intro z h
    obtain ⟨z1, hz1⟩ := Option.isSome_iff_exists.mp
      (insert_isSome z op.name op.rtype op.fields op.ttl op.wild h.1 h.2 (hops op List.mem_cons_self))
    rw [applyOps, show z.applyOp op = some z1 from hz1]
    exact ih (fun o ho => hops o (List.mem_cons_of_mem _ ho)) z1 (h.insert hz1)

theorem build_isSome {apex : Name} {soa : Option SOA} {ops : List ZoneOp} (hap : NameOK apex)
    (hops : ∀ op ∈ ops, NameOK op.name) : (Zone.build apex soa ops).isSome :=
  applyOps_isSome ops hops _ (namedFromApex_build (ops := []) hap rfl)

theorem exists_build {apex : Name} {soa : Option SOA} {ops : List ZoneOp} (hap : NameOK apex)
    (hops : ∀ op ∈ ops, NameOK op.name) : ∃ z, Zone.build apex soa ops = some z :=
  Option.isSome_iff_exists.mp (build_isSome hap hops)

end Zone

/-! ## configured zones represent their entry list -/

namespace Zone

/-- invariant of configured zones: `es` is the flat entry list the tree stores; the root node carries
    its own copy of the apex name (`root_name`) besides the zone's (`apex_eq`). -/
structure Repr (z : Zone) (apex : Name) (soa : Option SOA) (es : List Entry) : Prop where
  apex_eq : z.apex = apex
  soa_eq : z.soa = soa
  root_name : z.records.nsdname = apex
  tree : TreeRepr z.records es

theorem repr_new (apex : Name) (soa : Option SOA) (hap : NameOK apex) :
    Repr (Zone.new apex soa) apex soa (entriesOf apex soa []) := by
  obtain ⟨h1, h2⟩ := new_apex_soa apex soa
  cases soa with
  | none =>
    exact ⟨h1, h2, rfl, by simpa [entriesOf, new_records_none] using treeRepr_new apex hap⟩
  | some s =>
    have hi := new_records_some apex s
    have ht := treeRepr_insertRev _ _ [] [] (soaRecord s) false (treeRepr_new apex hap) hi
    have hn := (ZNode.namesOK_insertRev _ _ _ _ _ (ZNode.namesOK_new apex hap) hi).2
    exact ⟨h1, h2, by rw [hn]; rfl, by simpa [entriesOf] using ht⟩

theorem repr_applyOp (z z' : Zone) (apex : Name) (soa : Option SOA) (es : List Entry) (op : ZoneOp)
    (h : Repr z apex soa es) (ho : z.applyOp op = some z') :
    Repr z' apex soa (es ++ (opEntry (Zone.new apex soa) op).toList) := by
  obtain ⟨h1, h2, hc⟩ := insert_cases z z' _ _ _ _ _ ho
  rw [opEntry_congr ((new_apex_soa apex soa).1.trans h.apex_eq.symm)
    ((new_apex_soa apex soa).2.trans h.soa_eq.symm) op, opEntry]
  rcases hc with ⟨hnone, rfl⟩ | ⟨rel, hrel, hi⟩
  · rw [hnone]; simpa using h
  · rw [hrel]
    have ht := treeRepr_insertRev _ _ es _ _ _ h.tree hi
    have hn := (ZNode.namesOK_insertRev _ _ _ _ _ h.tree.names hi).2
    refine ⟨h1.trans h.apex_eq, h2.trans h.soa_eq, hn.trans h.root_name, ?_⟩
    simpa using ht

theorem repr_applyOps (apex : Name) (soa : Option SOA) (ops : List ZoneOp) :
    ∀ (z z' : Zone) (es : List Entry), Repr z apex soa es → z.applyOps ops = some z' →
      Repr z' apex soa (es ++ ops.filterMap (opEntry (Zone.new apex soa))) := by
  induction ops with
  | nil => intro z z' es h ho; simp only [applyOps, Option.some.injEq] at ho; subst ho; simpa using h
  | cons op ops ih =>
    intro z z' es h ho
    simp only [applyOps] at ho
    cases h1 : z.applyOp op with
    | none => simp [h1] at ho
    | some z1 =>
      simp only [h1] at ho
      have := ih z1 z' _ (repr_applyOp z z1 apex soa es op h h1) ho
      rw [List.filterMap_cons]
      cases he : opEntry (Zone.new apex soa) op with
      | none => simpa [he] using this
      | some e => simpa [he] using this

theorem repr_build (apex : Name) (soa : Option SOA) (ops : List ZoneOp) (z : Zone)
    (hap : NameOK apex) (hb : Zone.build apex soa ops = some z) :
    Repr z apex soa (entriesOf apex soa ops) := by
  have := repr_applyOps apex soa ops _ z _ (repr_new apex soa hap) hb
  simpa [entriesOf, List.append_assoc] using this

end Zone

theorem Zone.Repr.resolve_refines {z : Zone} {apex : Name} {soa : Option SOA} {es : List Entry}
    (hr : Zone.Repr z apex soa es) {qname : Name} (hq : NameOK qname) (qtype : Nat) {rel : List Label}
    (hrel : z.relativeDomain qname = some rel) (hd1 : d1 es = true) :
    sameResult (z.records.resolve qname qtype rel true) (lookup es apex qname rel qtype) = true :=
  hr.tree.resolve_refines hr.root_name hq rel
    (hr.apex_eq ▸ Zone.relativeDomain_eq_some_iff.mp hrel) hd1

theorem Zone.Repr.zone_resolve_refines {z : Zone} {apex : Name} {soa : Option SOA} {es : List Entry}
    (hr : Zone.Repr z apex soa es) {qname : Name} (hq : NameOK qname) (qtype : Nat) (hd1 : d1 es = true) :
    (qname.isSubdomainOf apex = true →
      ∃ rel r, rel ++ apex.labels = qname.labels ∧ z.resolve qname qtype = some r ∧
        sameResult r (lookup es apex qname rel qtype) = true) ∧
    (qname.isSubdomainOf apex = false → z.resolve qname qtype = none) := by
  constructor
  · intro hsub
    obtain ⟨rel, hrel⟩ := Zone.relativeDomain_isSome (z := z) (by rw [hr.apex_eq]; exact hsub)
    exact ⟨rel, _, hr.apex_eq ▸ Zone.relativeDomain_eq_some_iff.mp hrel,
      Zone.resolve_eq_some_iff.mpr ⟨rel, hrel, rfl⟩, hr.resolve_refines hq qtype hrel hd1⟩
  · intro hsub
    rw [← Option.not_isSome_iff_eq_none, Zone.resolve_isSome, hr.apex_eq, hsub]
    exact Bool.false_ne_true

theorem Zone.Repr.resolve_ne_panic {z : Zone} {apex : Name} {soa : Option SOA} {es : List Entry}
    (hr : Zone.Repr z apex soa es) {qname : Name} (hq : NameOK qname) (qtype : Nat)
    (hok : CnameFieldsOK es) : z.resolve qname qtype ≠ some .panic := by
  intro h
  obtain ⟨rel, hrel, hp⟩ := Zone.resolve_eq_some_iff.mp h
  exact hr.tree.resolve_ne_panic qtype hr.root_name hq rel
    (hr.apex_eq ▸ Zone.relativeDomain_eq_some_iff.mp hrel) hok hp

/-! ## what a zone lists (`all_records`, `all_wildcard_records`) -/

namespace ZNode

theorem ownOf_snd_ne_nil {w : Bool} {nd : ZNode} {x : Name × List ZoneRecord} (h : x ∈ ownOf w nd) : x.2 ≠ [] := by
  cases w
  · obtain ⟨rfl, hne⟩ := mem_listing_entry.mp h
    exact hne
  · unfold ownOf ownWildListing at h
    cases hws : nd.wildcards with
    | none => rw [hws] at h; cases h
    | some ws =>
      rw [hws] at h
      obtain ⟨rfl, hne⟩ := mem_listing_entry.mp h
      exact hne

theorem exists_mem_of_mem_listing {node : ZNode} (hk : KeysNodup node) {w : Bool} {p : Name × List ZoneRecord}
    (hp : p ∈ listing w node) : ∃ zr, zr ∈ p.2 := by
  obtain ⟨_, nd, -, hx⟩ := (mem_listing_iff hk w p).mp hp
  exact List.exists_mem_of_ne_nil _ (ownOf_snd_ne_nil hx)

end ZNode

namespace Zone

open ZNode

/-- `all_records()` (`w = false`) or `all_wildcard_records()` (`w = true`) lists record `zr` under owner `n`. -/
def Lists (z : Zone) (w : Bool) (n : Name) (zr : ZoneRecord) : Prop :=
  ∃ zrs, (n, zrs) ∈ listing w z.records ∧ zr ∈ zrs

theorem Repr.node_name {z : Zone} {apex : Name} {soa : Option SOA} {es : List Entry}
    (hr : Repr z apex soa es) {p : List Label} {nd : ZNode} (hd : z.records.descend p = some nd) :
    Name.fromLabels (p.reverse ++ apex.labels) = some nd.nsdname := by
  have := hr.tree.names p nd hd
  rwa [hr.root_name] at this

theorem Repr.entry_node {z : Zone} {apex : Name} {soa : Option SOA} {es : List Entry}
    (hr : Repr z apex soa es) {e : Entry} (he : e ∈ es) :
    ∃ nd, z.records.descend e.rel.reverse = some nd ∧
      Name.fromLabels (e.rel ++ apex.labels) = some nd.nsdname := by
  obtain ⟨nd, hd, -, -, hn⟩ := hr.tree.node_of_exists e.rel (existsNode_of_entry he)
  exact ⟨nd, hd, hr.root_name ▸ hn⟩

theorem Repr.mem_ownOf_iff {z : Zone} {apex : Name} {soa : Option SOA} {es : List Entry}
    (hr : Repr z apex soa es) {p : List Label} {nd : ZNode} (hd : z.records.descend p = some nd)
    (w : Bool) :
    ∃ rs, (∀ x, x ∈ ownOf w nd ↔ x = (nd.nsdname, rs) ∧ rs ≠ []) ∧
      ∀ zr, zr ∈ rs ↔ ∃ e ∈ es, e.rel = p.reverse ∧ e.wild = w ∧ e.zr = zr := by
  obtain ⟨hthis, hw, -⟩ := hr.tree.node hd
  cases w
  · exact ⟨_, fun _ => mem_listing_entry, fun zr => (hthis.mem_flatMap zr).trans mem_recordsAt⟩
  · unfold ownOf ownWildListing
    cases hws : nd.wildcards with
    | none =>
      rw [hws] at hw
      refine ⟨[], fun x => ⟨fun h => (nomatch h), fun h => absurd rfl h.2⟩, fun zr => ?_⟩
      rw [← mem_recordsAt, show recordsAt es p.reverse true = [] from hw]
    | some ws =>
      rw [hws] at hw
      exact ⟨_, fun _ => mem_listing_entry, fun zr => (hw.2.mem_flatMap zr).trans mem_recordsAt⟩

theorem Repr.lists_iff {z : Zone} {apex : Name} {soa : Option SOA} {es : List Entry}
    (hr : Repr z apex soa es) (hk : KeysNodup z.records) (w : Bool) (n : Name) (zr : ZoneRecord) :
    z.Lists w n zr ↔
      ∃ e ∈ es, e.wild = w ∧ e.zr = zr ∧ Name.fromLabels (e.rel ++ apex.labels) = some n := by
  constructor
  · rintro ⟨zrs, hmem, hzr⟩
    obtain ⟨p, nd, hd, hx⟩ := (mem_listing_iff hk w _).mp hmem
    obtain ⟨rs, hown, hrs⟩ := hr.mem_ownOf_iff hd w
    cases ((hown _).mp hx).1
    obtain ⟨e, he, h1, h2, h3⟩ := (hrs zr).mp hzr
    exact ⟨e, he, h2, h3, by rw [h1]; exact hr.node_name hd⟩
  · rintro ⟨e, he, hw, hzr, hname⟩
    obtain ⟨nd, hd, hnm⟩ := hr.entry_node he
    obtain ⟨rs, hown, hrs⟩ := hr.mem_ownOf_iff hd w
    have hin : zr ∈ rs := (hrs zr).mpr ⟨e, he, (List.reverse_reverse _).symm, hw, hzr⟩
    rw [hname] at hnm
    cases hnm
    exact ⟨rs, (mem_listing_iff hk w _).mpr ⟨_, nd, hd, (hown _).mpr ⟨rfl, List.ne_nil_of_mem hin⟩⟩, hin⟩

theorem Repr.listing_functional {z : Zone} {apex : Name} {soa : Option SOA} {es : List Entry}
    (hr : Repr z apex soa es) (hk : KeysNodup z.records) (w : Bool) (n : Name) (zrs1 zrs2 : List ZoneRecord)
    (h1 : (n, zrs1) ∈ listing w z.records) (h2 : (n, zrs2) ∈ listing w z.records) : zrs1 = zrs2 := by
  obtain ⟨p1, n1, hd1, hx1⟩ := (mem_listing_iff hk w _).mp h1
  obtain ⟨p2, n2, hd2, hx2⟩ := (mem_listing_iff hk w _).mp h2
  obtain ⟨rs1, hown1, -⟩ := hr.mem_ownOf_iff hd1 w
  obtain ⟨rs2, hown2, -⟩ := hr.mem_ownOf_iff hd2 w
  cases ((hown1 _).mp hx1).1
  have hx := ((hown2 _).mp hx2).1
  -- equal names: equal paths, so the same node
  have e1 := Name.fromLabels_labels (hr.node_name hd1)
  have e2 := Name.fromLabels_labels (hr.node_name hd2)
  rw [(Prod.mk.inj hx).1] at e1
  have hp : p1.reverse = p2.reverse := List.append_cancel_right (e1.symm.trans e2)
  rw [List.reverse_inj.mp hp, hd2] at hd1
  cases hd1
  exact (Prod.mk.inj ((hown2 _).mp hx1).1).2.trans (Prod.mk.inj hx).2.symm

end Zone

/-! ## what a built zone lists, in terms of the insertions -/

theorem ZSpec.opEntry_eq_some_iff (z0 : Zone) (op : ZoneOp) (e : Entry) :
    opEntry z0 op = some e ↔
      e.rel ++ z0.apex.labels = op.name.labels ∧ e.wild = op.wild ∧
        e.zr = ⟨op.rtype, op.fields, z0.actualTtl op.ttl⟩ := by
  unfold opEntry
  cases hr : z0.relativeDomain op.name with
  | none =>
    refine ⟨nofun, fun ⟨h, _⟩ => ?_⟩
    rw [Zone.relativeDomain_eq_some_iff.mpr h] at hr; cases hr
  | some rel =>
    have hl := Zone.relativeDomain_eq_some_iff.mp hr
    constructor
    · rintro ⟨⟩; exact ⟨hl, rfl, rfl⟩
    · obtain ⟨rel', wild, zr⟩ := e
      rintro ⟨h1, rfl, rfl⟩
      rw [List.append_cancel_right (hl.trans h1.symm)]

theorem ZSpec.mem_entriesOf (apex : Name) (soa : Option SOA) (ops : List ZoneOp) (e : Entry) :
    e ∈ entriesOf apex soa ops ↔
      (∃ s, soa = some s ∧ e = ⟨[], false, Zone.soaRecord s⟩) ∨
      ∃ op ∈ ops, opEntry (Zone.new apex soa) op = some e := by
  unfold entriesOf
  rw [List.mem_append, List.mem_filterMap]
  refine or_congr ?_ Iff.rfl
  cases soa with
  | none => exact ⟨fun h => (nomatch h), fun ⟨_, h, _⟩ => (nomatch h)⟩
  | some s =>
    exact ⟨fun h => ⟨s, rfl, List.mem_singleton.mp h⟩, fun ⟨_, h, he⟩ => by cases h; exact he ▸ List.mem_singleton_self _⟩

namespace Zone

/-- `Zone::actual_ttl` as a function of the SOA: a TTL is raised to the SOA's MINIMUM. -/
def clampTtl (soa : Option SOA) (t : Nat) : Nat :=
  match soa with
  | some s => max s.minimum t
  | none => t

theorem new_actualTtl (apex : Name) (soa : Option SOA) (t : Nat) : (Zone.new apex soa).actualTtl t = clampTtl soa t := by
  unfold Zone.actualTtl clampTtl
  rw [(new_apex_soa apex soa).2]
  cases soa <;> rfl

theorem clampTtl_idem (soa : Option SOA) (t : Nat) : clampTtl soa (clampTtl soa t) = clampTtl soa t := by
  cases soa with
  | none => rfl
  | some s => exact Nat.max_eq_right (Nat.le_max_left _ _)

theorem clampTtl_lt {soa : Option SOA} {b t : Nat} (hs : ∀ s, soa = some s → s.minimum < b) (ht : t < b) :
    clampTtl soa t < b := by
  cases soa with
  | none => exact ht
  | some s => exact Nat.max_lt.mpr ⟨hs s rfl, ht⟩

/-- the record `Zone::insert` / `insert_wildcard` stores for `op` (TTL raised by `actual_ttl`) and the owner it is
    listed under: the name `from_labels` makes of the owner's labels, `op.name` itself when that is `NameOK`; nothing
    for a name outside the apex. -/
def Adds (apex : Name) (soa : Option SOA) (op : ZoneOp) (n : Name) (zr : ZoneRecord) : Prop :=
  op.name.isSubdomainOf apex = true ∧ Name.fromLabels op.name.labels = some n ∧
    zr = ⟨op.rtype, op.fields, clampTtl soa op.ttl⟩

theorem lists_build {apex : Name} {soa : Option SOA} {ops : List ZoneOp} {z : Zone} (hap : NameOK apex)
    (hb : Zone.build apex soa ops = some z) (w : Bool) (n : Name) (zr : ZoneRecord) :
    z.Lists w n zr ↔
      (w = false ∧ n = apex ∧ ∃ s, soa = some s ∧ zr = soaRecord s) ∨
      ∃ op ∈ ops, op.wild = w ∧ Adds apex soa op n zr := by
  refine ((repr_build apex soa ops z hap hb).lists_iff (keysNodup_build apex soa ops z hb) w n zr).trans ?_
  constructor
  · rintro ⟨e, he, hw, hzr, hn⟩
    rcases (mem_entriesOf apex soa ops e).mp he with ⟨s, hs, rfl⟩ | ⟨op, hop, hoe⟩
    · rw [List.nil_append, show Name.fromLabels apex.labels = some apex from hap] at hn
      exact Or.inl ⟨hw.symm, (Option.some.inj hn).symm, s, hs, hzr.symm⟩
    · obtain ⟨hrel, hew, hez⟩ := (opEntry_eq_some_iff _ op e).mp hoe
      rw [(new_apex_soa apex soa).1] at hrel
      exact Or.inr ⟨op, hop, hew.symm.trans hw, Name.isSubdomainOf_iff.mpr ⟨e.rel, hrel⟩, hrel ▸ hn,
        hzr.symm.trans (new_actualTtl apex soa _ ▸ hez)⟩
  · rintro (⟨rfl, rfl, s, hs, rfl⟩ | ⟨op, hop, hw, hsub, hn, rfl⟩)
    · exact ⟨⟨[], false, soaRecord s⟩, (mem_entriesOf n soa ops _).mpr (Or.inl ⟨s, hs, rfl⟩), rfl, rfl, hap⟩
    · obtain ⟨rel, hrel⟩ := Name.isSubdomainOf_iff.mp hsub
      exact ⟨⟨rel, op.wild, _⟩,
        (mem_entriesOf apex soa ops _).mpr (Or.inr ⟨op, hop, (opEntry_eq_some_iff _ op _).mpr
          ⟨(new_apex_soa apex soa).1.symm ▸ hrel, rfl, (new_actualTtl apex soa _).symm ▸ rfl⟩⟩),
        hw, rfl, hrel ▸ hn⟩

theorem adds_iff_of_nameOK {apex : Name} {soa : Option SOA} {op : ZoneOp} (h : NameOK op.name) (n : Name)
    (zr : ZoneRecord) :
    Adds apex soa op n zr ↔
      op.name = n ∧ n.isSubdomainOf apex = true ∧ zr = ⟨op.rtype, op.fields, clampTtl soa op.ttl⟩ := by
  unfold Adds
  rw [h.fromLabels_iff]
  exact ⟨fun ⟨h1, h2, h3⟩ => ⟨h2, h2 ▸ h1, h3⟩, fun ⟨h1, h2, h3⟩ => ⟨h1 ▸ h2, h1, h3⟩⟩

theorem listed_props {apex : Name} {soa : Option SOA} {ops : List ZoneOp} {z : Zone} (hap : NameOK apex)
    (hb : Zone.build apex soa ops = some z) {w : Bool} {n : Name} {zr : ZoneRecord} (h : z.Lists w n zr) :
    NameOK n ∧ n.isSubdomainOf apex = true ∧ clampTtl soa zr.ttl = zr.ttl := by
  rcases (lists_build hap hb w n zr).mp h with ⟨-, rfl, s, rfl, rfl⟩ | ⟨op, -, -, hsub, hn, rfl⟩
  · exact ⟨hap, Name.isSubdomainOf_refl _, Nat.max_self _⟩
  · refine ⟨Name.fromLabels_self_of hn, ?_, clampTtl_idem _ _⟩
    exact Name.isSubdomainOf_iff.mpr (Name.fromLabels_labels hn ▸ Name.isSubdomainOf_iff.mp hsub)

theorem listing_functional_build {apex : Name} {soa : Option SOA} {ops : List ZoneOp} {z : Zone} (hap : NameOK apex)
    (hb : Zone.build apex soa ops = some z) (w : Bool) (n : Name) (zrs1 zrs2 : List ZoneRecord)
    (h1 : (n, zrs1) ∈ ZNode.listing w z.records) (h2 : (n, zrs2) ∈ ZNode.listing w z.records) : zrs1 = zrs2 :=
  (repr_build apex soa ops z hap hb).listing_functional (keysNodup_build apex soa ops z hb) w n zrs1 zrs2 h1 h2

end Zone

end Resolved
