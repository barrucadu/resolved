/-
  C13, zone level, the text side.  The body of `Zone::serialise z` as a script of line items (`Item`, `scriptText`,
  `blockItems`/`bodyItems` over `recordsOf`) that the entry loop reads as state updates (`applyItems`, `runLoop_items`); the
  header lines (`originLine_roundtrip`, `soaLine_roundtrip`, `headerState`, `runLoop_header`); together
  (`deserialise_serialise_eq_reinsert`): reading `Zone::serialise z` back is inserting, into a fresh zone with the apex and
  SOA of `z`, the records `z` lists, per owner in the order written.
-/
import Resolved.Proofs.ZoneTextLines
import Resolved.Proofs.Assoc

namespace Resolved.ZoneText

open Resolved Resolved.IpText Gen

theorem loopStep_blank (st : DState) (s : List Char) : loopStep st ('\n' :: s) = loopStep st s :=
  loopStep_no_tokens st _ s ((enderAt_newline s).init [])

/-! ## the lines of the body -/

/-- one written line of the body of `Zone::serialise`; `Item.apply` is what reading it does to the
    local state of `Zone::deserialise`.  A script is a list of items, `scriptText` its text. -/
inductive Item where
  | recLine (d : Name) (hw : Bool) (zr : ZoneRecord)
  | wildLine (d : Name) (zr : ZoneRecord)
  | blank

def Item.text (z : Zone) : Item → List Char
  | .recLine d hw zr => serialiseRecordLine z d hw zr
  | .wildLine d zr => serialiseWildcardLine z d zr
  | .blank => nl

def Item.apply (st : DState) : Item → DState
  | .recLine d _ zr =>
    { st with previousDomain := some (.normal d), previousTtl := some zr.ttl, rrs := zr.toRR d :: st.rrs }
  | .wildLine d zr =>
    { st with previousDomain := some (.wildcard d), previousTtl := some zr.ttl,
              wildcardRrs := zr.toRR d :: st.wildcardRrs }
  | .blank => st

/-- what `loopStep_item` needs of a line for it to be read back as that item. -/
def Item.OK : Item → Prop
  | .recLine d _ zr => TextName d ∧ NoStar d ∧ RdataOK zr.rtype zr.fields ∧ zr.ttl < 4294967296
  | .wildLine d zr => TextName d ∧ RdataOK zr.rtype zr.fields ∧ zr.ttl < 4294967296
  | .blank => True

def scriptText (z : Zone) (items : List Item) : List Char := items.flatMap (Item.text z)
def applyItems (st : DState) (items : List Item) : DState := items.foldl Item.apply st

theorem applyItems_apexAndSoa (st : DState) (items : List Item) :
    (applyItems st items).apexAndSoa = st.apexAndSoa :=
  List.foldlRecOn (motive := fun s : DState => s.apexAndSoa = st.apexAndSoa) items _ rfl
    fun _ e i _ => by rw [← e]; cases i <;> rfl

/-- the ordinary / wildcard records a script adds, in the order written. -/
def itemsRRs : List Item → List RR
  | [] => []
  | .recLine d _ zr :: is => zr.toRR d :: itemsRRs is
  | _ :: is => itemsRRs is

def itemsWildRRs : List Item → List RR
  | [] => []
  | .wildLine d zr :: is => zr.toRR d :: itemsWildRRs is
  | _ :: is => itemsWildRRs is

theorem applyItems_rrs (items : List Item) : ∀ st : DState,
    (applyItems st items).rrs.reverse = st.rrs.reverse ++ itemsRRs items ∧
    (applyItems st items).wildcardRrs.reverse = st.wildcardRrs.reverse ++ itemsWildRRs items := by
  induction items with
  | nil => intro st; exact ⟨(List.append_nil _).symm, (List.append_nil _).symm⟩
  | cons i is ih =>
    intro st
    have h := ih (i.apply st)
    cases i with
    | blank => exact h
    | recLine d hw zr =>
      refine ⟨h.1.trans ?_, h.2⟩
      simp only [Item.apply, itemsRRs, List.reverse_cons, List.append_assoc, List.singleton_append]
    | wildLine d zr =>
      refine ⟨h.1, h.2.trans ?_⟩
      simp only [Item.apply, itemsWildRRs, List.reverse_cons, List.append_assoc, List.singleton_append]

theorem loopStep_item (z : Zone) (ha : TextName z.apex) (st : DState) (ho : st.origin = emittedOrigin z)
    (i : Item) (hi : i.OK) (hne : i ≠ .blank) (rest : List Char) :
    loopStep st (i.text z ++ rest) = some (.cont (i.apply st) rest) := by
  cases i with
  | blank => exact absurd rfl hne
  | recLine d hw zr =>
    obtain ⟨hd, hs, hzr, httl⟩ := hi
    have hn := recordLine_roundtrip z ha d hd hs hw zr hzr httl st.previousDomain st.previousTtl rest
    rw [← ho] at hn
    rw [Item.text, hn.loopStep, entryStep_rr st rest (soaOfRR_none_of_ne hzr.not_soa)]
    rfl
  | wildLine d zr =>
    obtain ⟨hd, hzr, httl⟩ := hi
    have hn := wildcardLine_roundtrip z ha d hd zr hzr httl st.previousDomain st.previousTtl rest
    rw [← ho] at hn
    rw [Item.text, hn.loopStep, entryStep_wildcardRR st rest hzr.not_soa]
    rfl

theorem runLoop_items (z : Zone) (ha : TextName z.apex) (items : List Item) :
    ∀ (st : DState) (tail : List Char), st.origin = emittedOrigin z → (∀ i ∈ items, i.OK) →
      runLoop st (scriptText z items ++ tail) = runLoop (applyItems st items) tail := by
  induction items with
  | nil => exact fun _ _ _ _ => rfl
  | cons i is ih =>
    intro st tail ho hok
    have his : ∀ j ∈ is, j.OK := fun j hj => hok j (List.mem_cons_of_mem _ hj)
    rw [scriptText, List.flatMap_cons, List.append_assoc, applyItems, List.foldl_cons]
    by_cases hb : i = .blank
    · subst hb
      exact (runLoop_congr (loopStep_blank st _)).trans (ih st tail ho his)
    · exact (runLoop_cont (loopStep_item z ha st ho i (hok i List.mem_cons_self) hb _)).trans
        (ih (i.apply st) tail (by cases i <;> exact ho) his)

/-! ## the body of `Zone::serialise` as a script -/

/-- the records `Zone::serialise` takes for owner `d` from a listing. -/
def recordsOf (m : List (Name × List ZoneRecord)) (d : Name) : List ZoneRecord :=
  (lookupOwner m d).getD []

theorem lookupOwner_eq_al (m : List (Name × List ZoneRecord)) (d : Name) : lookupOwner m d = AL.get m d := by
  induction m with
  | nil => rfl
  | cons kv rest ih => rw [lookupOwner, AL.get, ih]

theorem lookupOwner_mem {m : List (Name × List ZoneRecord)} {d : Name} {zrs : List ZoneRecord}
    (h : lookupOwner m d = some zrs) : (d, zrs) ∈ m :=
  AL.mem_of_get (lookupOwner_eq_al m d ▸ h)

theorem exists_owner_of_mem_recordsOf {m : List (Name × List ZoneRecord)} {d : Name} {zr : ZoneRecord}
    (h : zr ∈ recordsOf m d) : ∃ zrs, (d, zrs) ∈ m ∧ zr ∈ zrs := by
  unfold recordsOf at h
  cases hl : lookupOwner m d with
  | none => rw [hl] at h; cases h
  | some zrs => rw [hl] at h; exact ⟨zrs, lookupOwner_mem hl, h⟩

theorem lookupOwner_isSome_of_mem {m : List (Name × List ZoneRecord)} {d : Name} {zrs : List ZoneRecord}
    (h : (d, zrs) ∈ m) : ∃ zrs', lookupOwner m d = some zrs' := by
  rw [lookupOwner_eq_al]
  exact Option.ne_none_iff_exists'.mp fun e => AL.get_eq_none_iff.mp e (AL.mem_keys_of_mem h)

/-- `hf`: the listing has one entry per owner; for a built zone `Zone.listing_functional_build` (Proofs/ZoneBuild.lean). -/
theorem mem_recordsOf {m : List (Name × List ZoneRecord)}
    (hf : ∀ n a b, (n, a) ∈ m → (n, b) ∈ m → a = b) (d : Name) (zr : ZoneRecord) :
    zr ∈ recordsOf m d ↔ ∃ zrs, (d, zrs) ∈ m ∧ zr ∈ zrs := by
  constructor
  · exact exists_owner_of_mem_recordsOf
  · rintro ⟨zrs, hm, hzr⟩
    obtain ⟨zrs', hl⟩ := lookupOwner_isSome_of_mem hm
    rw [recordsOf, hl, hf d zrs' zrs (lookupOwner_mem hl) hm]
    exact hzr

def blockItems (z : Zone) (d : Name) : List Item :=
  ((recordsOf z.allRecords d).filter (fun zr => zr.rtype != RT_SOA)).map
      (Item.recLine d (lookupOwner z.allWildcardRecords d).isSome)
    ++ (recordsOf z.allWildcardRecords d).map (Item.wildLine d) ++ [.blank]

def bodyItems (z : Zone) : List Item := (sortedDomains z).flatMap (blockItems z)

theorem block_text (z : Zone) (d : Name) :
    (ownerBlockLines z z.allRecords z.allWildcardRecords d).flatten ++ nl = scriptText z (blockItems z d) := by
  unfold ownerBlockLines blockItems scriptText recordsOf
  cases h1 : lookupOwner z.allRecords d <;> cases h2 : lookupOwner z.allWildcardRecords d <;>
    simp [List.flatMap_append, List.flatMap_map, Item.text, List.flatten_eq_flatMap]

theorem body_text (z : Zone) :
    (sortedDomains z).flatMap (fun d => (ownerBlockLines z z.allRecords z.allWildcardRecords d).flatten ++ nl)
      = scriptText z (bodyItems z) := by
  unfold bodyItems scriptText
  rw [List.flatMap_assoc]
  exact congrArg (fun f => (sortedDomains z).flatMap f) (funext (block_text z))

/-! ## the header: `$ORIGIN` line and SOA line -/

def originLine (z : Zone) : List Char :=
  ['$', 'O', 'R', 'I', 'G', 'I', 'N', ' '] ++ serialiseOctets z.apex.toDotted false ++ nl

theorem originLine_roundtrip (z : Zone) (ha : TextName z.apex) (pd : Option MaybeWildcard) (pt : Option Nat)
    (rest : List Char) : NextEntry none pd pt (originLine z ++ rest) (.origin z.apex) rest := by
  have hR : TokTexts false (['$', 'O', 'R', 'I', 'G', 'I', 'N', ' '] ++ serialiseOctets z.apex.toDotted false)
      [wordToken sORIGIN, (z.apex.toDotted.map octetAsChar, z.apex.toDotted)] false :=
    ((tokText_plain '$' ['O', 'R', 'I', 'G', 'I', 'N'] (by decide) (by decide)).one false).sp
      ((tokText_octets_unquoted _ (ha.toDotted_ne_nil)).one false)
  refine ⟨_, _, hR.line rest, ?_⟩
  rw [entryOfTokens_origin (wordToken_fst sORIGIN), parseOrigin_pair none (wordToken_fst sORIGIN),
    parseDomain_absolute none ha]

def soaLine (z : Zone) (soa : SOA) (ownerPiece : List Char) : List Char :=
  ownerPiece ++ sp ++ sIN ++ sp ++ ['S', 'O', 'A'] ++ sp ++ serialiseRdata z RT_SOA soa.toFields ++ nl

/-- what `serialise_domain` writes spells no record type: it has no upper-case letter. -/
theorem rtypeFromStr_domainStr (z : Zone) (n : Name) (hn : TextName n) (ha : TextName z.apex) :
    rtypeFromStr ((domainStr z n).map octetAsChar) = none := by
  refine rtypeFromStr_none_of_no_upper _ fun c hc => ?_
  simp only [List.mem_map] at hc
  obtain ⟨b, hb, rfl⟩ := hc
  have := domainStr_not_upper z n hn ha b hb
  unfold isUpper at this
  unfold isUpperChar
  rw [octetAsChar_toNat]
  simp only [Bool.and_eq_false_iff, decide_eq_false_iff_not]
  omega

theorem rtypeFromStr_showDec (n : Nat) : rtypeFromStr (showDec n) = none :=
  rtypeFromStr_none_of_allDigits (List.all_eq_true.mpr (showDec_digits n).2)

/-- `hdig`: with two tokens in front of the type, `parse_rr` takes an all-digit first token for the TTL, so the owner
    piece must not be one.  Stated for `pt = none`, the case of the header; it holds for every `pt`, since a SOA takes
    its MINIMUM. -/
theorem soaLine_roundtrip (z : Zone) (ha : TextName z.apex) (soa : SOA) (hsoa : SoaOK soa)
    (ownerPiece : List Char) (ownerTok : Token) (hR : TokTexts false ownerPiece [ownerTok] false)
    (howner : parseDomainOrWildcard (emittedOrigin z) ownerTok.1 = .ok (.normal z.apex))
    (hdig : allDigits ownerTok.1 = false) (hnd : ownerTok.1 ≠ sORIGIN ∧ ownerTok.1 ≠ sINCLUDE)
    (pd : Option MaybeWildcard) (rest : List Char) :
    NextEntry (emittedOrigin z) pd none (soaLine z soa ownerPiece ++ rest)
      (.rr { name := z.apex, rtype := 6, fields := soa.toFields, rclass := 1, ttl := soa.minimum }) rest := by
  obtain ⟨hm, hr, h1, h2, h3, h4, h5⟩ := hsoa
  let rdToks := soa.toFields.map (fieldToken z)
  have rd := fun f hf => (tokText_field z ha f hf).one false
  have hall : TokTexts false (ownerPiece ++ sp ++ sIN ++ sp ++ ['S', 'O', 'A'] ++ sp
        ++ serialiseRdata z RT_SOA soa.toFields) (ownerTok :: tIN :: wordToken ['S', 'O', 'A'] :: rdToks) false :=
    ((hR.sp ((tokText_word (s := sIN) (by decide) (by decide)).one false)).sp
      ((tokText_word (s := ['S', 'O', 'A']) (by decide) (by decide)).one false)).sp
      (((((((rd (.name soa.mname) hm).sp (rd (.name soa.rname) hr)).sp
        (rd (.u32 soa.serial) h1)).sp (rd (.u32 soa.refresh) h2)).sp
        (rd (.u32 soa.retry) h3)).sp (rd (.u32 soa.expire) h4)).sp
        (rd (.u32 soa.minimum) h5))
  have hty : tryParseRtypeWithData (emittedOrigin z) (wordToken ['S', 'O', 'A'] :: rdToks)
      = some ⟨6, soa.toFields⟩ := by
    refine (tryParseRtypeWithData_soa _ _ (by decide) _ _ _ _ _ _ _).trans ?_
    simp only [fieldToken, wordToken_fst, optName_domainStr z ha _ hm, optName_domainStr z ha _ hr,
      parseU32_showDec _ h1, parseU32_showDec _ h2, parseU32_showDec _ h3, parseU32_showDec _ h4,
      parseU32_showDec _ h5]
    rfl
  have nd := fun n hn => rtypeFromStr_domainStr z n hn ha
  have nn := rtypeFromStr_showDec
  have hnt : NoType rdToks :=
    List.forall_mem_cons.mpr ⟨nd _ hm, List.forall_mem_cons.mpr ⟨nd _ hr, List.forall_mem_cons.mpr
      ⟨nn _, List.forall_mem_cons.mpr ⟨nn _, List.forall_mem_cons.mpr ⟨nn _, List.forall_mem_cons.mpr
        ⟨nn _, List.forall_mem_singleton.mpr (nn _)⟩⟩⟩⟩⟩⟩
  -- owner and `IN` in front of the type: the type is found at the third token, the TTL is inherited
  have hshape : parseRr (emittedOrigin z) pd none (ownerTok :: tIN :: wordToken ['S', 'O', 'A'] :: rdToks)
      = withInheritedTtl (.normal z.apex) ⟨6, soa.toFields⟩ none := by
    refine (parseRr_pre _ pd none [ownerTok, tIN] _ _ _ (Nat.le_succ 2) hty (hnt.firstType _ _)).trans ?_
    simp only [preFields, tIN_fst, if_true, hdig, Bool.false_eq_true, if_false, readPre_owner, howner]
  -- no TTL to inherit, and a SOA needs none: `to_rr` takes its MINIMUM field
  exact ⟨_, _, hall.line rest, (entryOfTokens_rr hnd.1 hnd.2 _ pd none _).trans hshape⟩

/-! ## assembling the file -/

theorem bodyItems_ok (z : Zone) (h : ZoneTextOK z) : ∀ i ∈ bodyItems z, i.OK := by
  intro i hi
  simp only [bodyItems, List.mem_flatMap] at hi
  obtain ⟨d, -, hi⟩ := hi
  simp only [blockItems, List.mem_append, List.mem_map, List.mem_filter, List.mem_singleton] at hi
  rcases hi with (⟨zr, ⟨hzr, hns⟩, rfl⟩ | ⟨zr, hzr, rfl⟩) | rfl
  · obtain ⟨zrs, hmem, hzr⟩ := exists_owner_of_mem_recordsOf hzr
    obtain ⟨h1, h2, h3⟩ := h.records _ hmem
    have := h3 zr hzr (by simpa using hns)
    exact ⟨h1, h2, this.1, this.2⟩
  · obtain ⟨zrs, hmem, hzr⟩ := exists_owner_of_mem_recordsOf hzr
    obtain ⟨h1, h3⟩ := h.wildcards _ hmem
    exact ⟨h1, (h3 zr hzr).1, (h3 zr hzr).2⟩
  · trivial

/-- the local state of `Zone::deserialise` after the header of `serialise z`. -/
def headerState (z : Zone) : DState :=
  match z.soa with
  | none => {}
  | some soa =>
    { origin := emittedOrigin z, previousDomain := some (.normal z.apex), previousTtl := some soa.minimum,
      apexAndSoa := some (z.apex, soa) }

theorem headerState_origin (z : Zone) : (headerState z).origin = emittedOrigin z := by
  unfold headerState
  cases h : z.soa with
  | none => simp [emittedOrigin, Zone.isAuthoritative, h]
  | some s => rfl

theorem runLoop_header (z : Zone) (h : ZoneTextOK z) (tail : List Char) :
    runLoop {} (serialiseHeader z ++ tail) = runLoop (headerState z) tail := by
  unfold headerState
  cases hs : z.soa with
  | none =>
    have he : serialiseHeader z = [] := by simp [serialiseHeader, hs]
    rw [he]
    rfl
  | some soa =>
    have hsoa := h.soa soa hs
    have hauth : z.isAuthoritative = true := by simp [Zone.isAuthoritative, hs]
    cases hr : z.apex.isRoot with
    | false =>
      have ho : emittedOrigin z = some z.apex := by simp [emittedOrigin, hauth, hr]
      have htext : serialiseHeader z ++ tail
          = originLine z ++ ('\n' :: (soaLine z soa ['@'] ++ ('\n' :: tail))) := by
        -- one chain of appends, bracketed into the `$ORIGIN` line, a line feed, the SOA line, a line feed
        simp only [serialiseHeader, hs, hr, Bool.not_false, if_true, originLine, soaLine, List.append_assoc]
        rfl
      have h1 : loopStep {} (originLine z ++ ('\n' :: (soaLine z soa ['@'] ++ ('\n' :: tail))))
          = some (.cont { origin := some z.apex } ('\n' :: (soaLine z soa ['@'] ++ ('\n' :: tail)))) :=
        NextEntry.loopStep (st := {}) (originLine_roundtrip z h.apex none none _)
      have hn := soaLine_roundtrip z h.apex soa hsoa ['@'] (['@'], [64])
        ((tokText_plain '@' [] (by decide) rfl).one false) (by rw [ho]; rfl) (by decide) (by decide) none ('\n' :: tail)
      rw [ho] at hn
      have h2 := (NextEntry.loopStep (st := { origin := some z.apex }) hn).trans
        (congrArg some (entryStep_first_soa _ _ (soaOfRR_toFields _ _ _) rfl))
      rw [htext, runLoop_cont h1, runLoop_congr (loopStep_blank _ _), runLoop_cont h2,
        runLoop_congr (loopStep_blank _ _), ho]
    | true =>
      have ho : emittedOrigin z = none := by simp [emittedOrigin, hr]
      have hroot := h.apex.isRoot_eq_root hr
      have htext : serialiseHeader z ++ tail
          = soaLine z soa (serialiseOctets [46] false) ++ ('\n' :: tail) := by
        simp only [serialiseHeader, hs, hr, Name.toDotted_of_isRoot hr,
          Bool.not_true, Bool.false_eq_true, if_false, List.nil_append]
        exact List.append_assoc ..
      have hn := soaLine_roundtrip z h.apex soa hsoa _ _ ((tokText_octets_unquoted [46] (by simp)).one false)
        (by rw [ho, hroot]; rfl) (by decide) (by decide) none ('\n' :: tail)
      rw [ho] at hn
      have h2 := (NextEntry.loopStep (st := {}) hn).trans (congrArg some (entryStep_first_soa _ _ (soaOfRR_toFields _ _ _) rfl))
      rw [htext, runLoop_cont h2, runLoop_congr (loopStep_blank _ _), ho]

theorem deserialise_serialise_eq_reinsert (z : Zone) (h : ZoneTextOK z) :
    deserialise (serialise z)
      = insertBoth (Zone.new z.apex z.soa) (itemsRRs (bodyItems z)) (itemsWildRRs (bodyItems z)) := by
  have hbody : serialise z = serialiseHeader z ++ (scriptText z (bodyItems z) ++ []) := by
    unfold serialise
    simp only
    rw [body_text, List.append_nil]
  rw [deserialise_eq_run, hbody, runLoop_header z h, runLoop_items z h.apex _ _ [] (headerState_origin z)
    (bodyItems_ok z h), runLoop_nil]
  show buildZone (applyItems (headerState z) (bodyItems z)) = _
  have hsoa : (applyItems (headerState z) (bodyItems z)).apexAndSoa = z.soa.map (fun s => (z.apex, s)) := by
    rw [applyItems_apexAndSoa]
    unfold headerState
    cases z.soa <;> rfl
  have hapex : (applyItems (headerState z) (bodyItems z)).apex = z.apex := by
    unfold DState.apex
    rw [hsoa]
    cases hs : z.soa with
    | none => exact (h.nonauth_root hs).symm
    | some s => rfl
  have hs : (applyItems (headerState z) (bodyItems z)).soa = z.soa := by
    unfold DState.soa
    rw [hsoa]
    cases z.soa <;> rfl
  have hrr := applyItems_rrs (bodyItems z) (headerState z)
  have hh : (headerState z).rrs = [] ∧ (headerState z).wildcardRrs = [] := by
    unfold headerState
    cases z.soa <;> exact ⟨rfl, rfl⟩
  rw [buildZone_eq_new, hapex, hs, hrr.1, hrr.2, hh.1, hh.2]
  simp only [List.reverse_nil, List.nil_append]

end Resolved.ZoneText
