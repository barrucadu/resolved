/-
  Lemmas under C09 / C19.  First the replies: what `resolve_and_build_response` builds (`SrvAnswerTo`),
  the replies to a decoded query (`SrvReplyTo`: NOTIMP or such an answer), `srvReplyOf` read field by
  field (`SrvReplyOfFields`, `SrvReplyOfCodes`), what replies echo (`SrvEchoes`) and what every reply
  has (`SrvEveryReply`), when a reply is well formed (`srvResultWF`, `srv_reply_wf`).  Then octet 2 and
  the two senders (one formula each, `srv_cut`), serialisation with the SERVFAIL fallback, TCP reads.
  Last, C19's half: `reloadHistory` and the loader (`loadConfiguration_cases`).
-/
import Resolved.Model.Server
import Resolved.Proofs.WireEncodeMsg

namespace Resolved

open Gen

theorem triage_nil {m : Message} (h : m.questions = []) : triage m = .ok none := by
  unfold triage; rw [h]

theorem triage_one_known {m : Message} {q : Question} (h : m.questions = [q])
    (hk : questionIsUnknown q = false) : triage m = .ok (some q) := by
  unfold triage; rw [h]; simp [hk]

theorem triage_one_unknown {m : Message} {q : Question} (h : m.questions = [q])
    (hk : questionIsUnknown q = true) : triage m = .error () := by
  unfold triage; rw [h]; simp [hk]

theorem triage_many {m : Message} (h : 2 ≤ m.questions.length) : triage m = .error () := by
  unfold triage
  match hq : m.questions with
  | [] => rw [hq] at h; simp at h
  | [_] => rw [hq] at h; simp at h
  | _ :: _ :: _ => rfl

theorem triage_cases (m : Message) :
    triage m = .error () ∨ (m.questions = [] ∧ triage m = .ok none) ∨
    ∃ q, m.questions = [q] ∧ questionIsUnknown q = false ∧ triage m = .ok (some q) := by
  match hq : m.questions with
  | [] => exact .inr (.inl ⟨rfl, triage_nil hq⟩)
  | [q] =>
    cases hk : questionIsUnknown q with
    | true => exact .inl (triage_one_unknown hq hk)
    | false => exact .inr (.inr ⟨q, rfl, hk, triage_one_known hq hk⟩)
  | _ :: _ :: _ => exact .inl (triage_many (by rw [hq]; exact Nat.le_add_left 2 _))

/-- the reply skeleton: `make_response` with RA set from the configuration -/
def srvBase (authOnly : Bool) (m : Message) : Message :=
  { header := { id := m.header.id, isResponse := true, opcode := m.header.opcode,
                isAuthoritative := false, isTruncated := false,
                recursionDesired := m.header.recursionDesired,
                recursionAvailable := !authOnly, rcode := RCODE_NOERROR }
    questions := m.questions, answers := [], authority := [], additional := [] }

/-- the reply that carries a response code and no record (REFUSED, SERVFAIL without a question;
    NOTIMP is `srvRcodeReply false m RCODE_NOTIMP`) -/
def srvRcodeReply (authOnly : Bool) (m : Message) (rcode : Nat) : Message :=
  { srvBase authOnly m with header := { (srvBase authOnly m).header with rcode := rcode } }

theorem resolveAndBuildResponse_refused (a : Bool) (r : ServerResolver) (m : Message)
    (h : triage m = .error ()) :
    resolveAndBuildResponse a r m = srvRcodeReply a m RCODE_REFUSED := by
  unfold resolveAndBuildResponse
  simp only [h]
  rfl

theorem resolveAndBuildResponse_no_question (a : Bool) (r : ServerResolver) (m : Message)
    (h : triage m = .ok none) :
    resolveAndBuildResponse a r m = srvRcodeReply a m RCODE_SERVFAIL := by
  unfold resolveAndBuildResponse
  simp only [h]
  rfl

/-- `resolve_and_build_response` for one known question, as a function of the resolver's result,
    with the final SERVFAIL rule already applied (the `[] none` and `.error` arms) -/
def srvReplyOf (authOnly : Bool) (m : Message) :
    Except ResolutionError ResolvedRecord → Message
  | .ok (.authoritative rrs soa) =>
    { srvBase authOnly m with answers := rrs, authority := [soa]
                              header := { (srvBase authOnly m).header with isAuthoritative := true } }
  | .ok (.authoritativeNameError soa) =>
    { srvBase authOnly m with authority := [soa]
                              header := { (srvBase authOnly m).header with
                                            rcode := RCODE_NAMEERROR, isAuthoritative := true } }
  | .ok (.nonAuthoritative rrs (some s)) =>
    { srvBase authOnly m with answers := rrs, authority := [s] }
  | .ok (.nonAuthoritative [] none) => srvRcodeReply authOnly m RCODE_SERVFAIL
  | .ok (.nonAuthoritative (rr :: rrs) none) => { srvBase authOnly m with answers := rr :: rrs }
  | .error _ => srvRcodeReply authOnly m RCODE_SERVFAIL

/-- the answer section of `srvReplyOf a m res`, as a function of the resolver's result alone: its
    records, none for an error (`srv_replyOf_fields`, field `answers`) -/
def srvAnswersOf : Except ResolutionError ResolvedRecord → List RR
  | .ok rec => rec.rrs
  | .error _ => []

/-- its authority section: the SOA record when the result carries one -/
def srvAuthorityOf : Except ResolutionError ResolvedRecord → List RR
  | .ok rec => rec.soaRR.toList
  | .error _ => []

theorem srv_authorityOf_length (res : Except ResolutionError ResolvedRecord) :
    (srvAuthorityOf res).length ≤ 1 := by
  match res with
  | .error _ => exact Nat.zero_le 1
  | .ok rec =>
    show rec.soaRR.toList.length ≤ 1
    cases rec.soaRR with
    | none => exact Nat.zero_le 1
    | some _ => exact Nat.le_refl 1

theorem resolveAndBuildResponse_question (a : Bool) (r : ServerResolver) (m : Message) (q : Question)
    (h : triage m = .ok (some q)) :
    resolveAndBuildResponse a r m = srvReplyOf a m (r q (m.header.recursionDesired && !a)) := by
  unfold resolveAndBuildResponse
  simp only [h, makeResponse]
  generalize r q (m.header.recursionDesired && !a) = res
  match res with
  | .ok (.authoritative rrs soa) => cases rrs <;> rfl
  | .ok (.authoritativeNameError soa) => rfl
  | .ok (.nonAuthoritative rrs (some s)) => cases rrs <;> rfl
  | .ok (.nonAuthoritative [] none) => rfl
  | .ok (.nonAuthoritative (rr :: rrs) none) => rfl
  | .error _ => rfl

/-- The replies `resolve_and_build_response` builds for the query `m`, by the outcome of
    `triage`. -/
inductive SrvAnswerTo (a : Bool) (r : ServerResolver) (m : Message) : Message → Prop
  | refused (ht : triage m = .error ()) : SrvAnswerTo a r m (srvRcodeReply a m RCODE_REFUSED)
  | noQuestion (hz : m.questions = []) : SrvAnswerTo a r m (srvRcodeReply a m RCODE_SERVFAIL)
  | question (q : Question) (hq : m.questions = [q]) (hk : questionIsUnknown q = false) :
      SrvAnswerTo a r m (srvReplyOf a m (r q (m.header.recursionDesired && !a)))

theorem resolveAndBuildResponse_answerTo (a : Bool) (r : ServerResolver) (m : Message) :
    SrvAnswerTo a r m (resolveAndBuildResponse a r m) := by
  rcases triage_cases m with h | ⟨hz, h⟩ | ⟨q, hq, hk, h⟩
  · rw [resolveAndBuildResponse_refused a r m h]; exact .refused h
  · rw [resolveAndBuildResponse_no_question a r m h]; exact .noQuestion hz
  · rw [resolveAndBuildResponse_question a r m q h]; exact .question q hq hk

/-- the NOTIMP reply: `make_response` with the response code replaced.  RA stays at the 1 that
    `make_response` sets, whatever the configuration: `srvNotImp m` is `srvRcodeReply false m
    RCODE_NOTIMP` by computation. -/
def srvNotImp (m : Message) : Message :=
  { makeResponse m with header := { (makeResponse m).header with rcode := RCODE_NOTIMP } }

section
variable {a : Bool} {r : ServerResolver} {buf : List UInt8} {m reply : Message}

theorem handleRawMessage_error {e : DErr}
    (hd : decodeMessage buf = .error e) :
    handleRawMessage a r buf = e.id.map makeFormatErrorResponse := by
  unfold handleRawMessage; rw [hd]

theorem handleRawMessage_decoded (hd : decodeMessage buf = .ok m) :
    handleRawMessage a r buf =
      if m.header.isResponse then none
      else if m.header.opcode = OPCODE_STANDARD then some (resolveAndBuildResponse a r m)
      else some (srvNotImp m) := by
  unfold handleRawMessage; rw [hd]
  simp only [beq_iff_eq, srvNotImp]

theorem handleRawMessage_response (hd : decodeMessage buf = .ok m) (hr : m.header.isResponse = true) :
    handleRawMessage a r buf = none := by
  rw [handleRawMessage_decoded hd, if_pos hr]

theorem handleRawMessage_query (hd : decodeMessage buf = .ok m) (hr : m.header.isResponse = false)
    (ho : m.header.opcode = OPCODE_STANDARD) :
    handleRawMessage a r buf = some (resolveAndBuildResponse a r m) := by
  rw [handleRawMessage_decoded hd, if_neg (Bool.eq_false_iff.mp hr), if_pos ho]

theorem handleRawMessage_notimp (hd : decodeMessage buf = .ok m) (hr : m.header.isResponse = false)
    (ho : m.header.opcode ≠ OPCODE_STANDARD) :
    handleRawMessage a r buf = some (srvNotImp m) := by
  rw [handleRawMessage_decoded hd, if_neg (Bool.eq_false_iff.mp hr), if_neg ho]

theorem handleRawMessage_refused (hd : decodeMessage buf = .ok m) (hr : m.header.isResponse = false)
    (ho : m.header.opcode = OPCODE_STANDARD) (ht : triage m = .error ()) :
    handleRawMessage a r buf = some (srvRcodeReply a m RCODE_REFUSED) := by
  rw [handleRawMessage_query hd hr ho, resolveAndBuildResponse_refused a r m ht]

theorem handleRawMessage_no_question (hd : decodeMessage buf = .ok m) (hr : m.header.isResponse = false)
    (ho : m.header.opcode = OPCODE_STANDARD) (hz : m.questions = []) :
    handleRawMessage a r buf = some (srvRcodeReply a m RCODE_SERVFAIL) := by
  rw [handleRawMessage_query hd hr ho, resolveAndBuildResponse_no_question a r m (triage_nil hz)]

theorem handleRawMessage_question {q : Question} (hd : decodeMessage buf = .ok m)
    (hr : m.header.isResponse = false)
    (ho : m.header.opcode = OPCODE_STANDARD) (hq : m.questions = [q])
    (hk : questionIsUnknown q = false) :
    handleRawMessage a r buf = some (srvReplyOf a m (r q (m.header.recursionDesired && !a))) := by
  rw [handleRawMessage_query hd hr ho,
    resolveAndBuildResponse_question a r m q (triage_one_known hq hk)]

/-- The replies `handle_raw_message` gives to a decoded query `m`: NOTIMP for another opcode,
    otherwise what `resolve_and_build_response` builds (`SrvAnswerTo`). -/
inductive SrvReplyTo (a : Bool) (r : ServerResolver) (m : Message) : Message → Prop
  | notImp (ho : m.header.opcode ≠ OPCODE_STANDARD) : SrvReplyTo a r m (srvNotImp m)
  | answer {reply : Message} (ho : m.header.opcode = OPCODE_STANDARD)
      (h : SrvAnswerTo a r m reply) : SrvReplyTo a r m reply

theorem handleRawMessage_reply (hd : decodeMessage buf = .ok m)
    (h : handleRawMessage a r buf = some reply) :
    m.header.isResponse = false ∧ SrvReplyTo a r m reply := by
  rw [handleRawMessage_decoded hd] at h
  cases hr : m.header.isResponse with
  | true => rw [hr, if_pos rfl] at h; cases h
  | false =>
    rw [hr, if_neg Bool.false_ne_true] at h
    refine ⟨rfl, ?_⟩
    by_cases ho : m.header.opcode = OPCODE_STANDARD
    · rw [if_pos ho] at h; cases h; exact .answer ho (resolveAndBuildResponse_answerTo a r m)
    · rw [if_neg ho] at h; cases h; exact .notImp ho

theorem handleRawMessage_cases (h : handleRawMessage a r buf = some reply) :
    (∃ e id, decodeMessage buf = .error e ∧ e.id = some id ∧ reply = makeFormatErrorResponse id) ∨
    ∃ m, decodeMessage buf = .ok m ∧ SrvReplyTo a r m reply := by
  cases hd : decodeMessage buf with
  | error e =>
    rw [handleRawMessage_error hd] at h
    cases hid : e.id with
    | none => rw [hid] at h; cases h
    | some id => rw [hid] at h; cases h; exact .inl ⟨e, id, rfl, hid, rfl⟩
  | ok m =>
    exact .inr ⟨m, rfl, (handleRawMessage_reply hd h).2⟩

/-- what every reply to a decoded query `m` takes over from it, and what it never carries -/
structure SrvEchoes (m reply : Message) : Prop where
  id : reply.header.id = m.header.id
  qr : reply.header.isResponse = true
  opcode : reply.header.opcode = m.header.opcode
  tc : reply.header.isTruncated = false
  rd : reply.header.recursionDesired = m.header.recursionDesired
  questions : reply.questions = m.questions
  additional : reply.additional = []

theorem SrvEchoes.rcodeReply (a : Bool) (m : Message) (rc : Nat) : SrvEchoes m (srvRcodeReply a m rc) :=
  ⟨rfl, rfl, rfl, rfl, rfl, rfl, rfl⟩

structure SrvReplyOfFields (a : Bool) (m : Message) (res : Except ResolutionError ResolvedRecord)
    (reply : Message) : Prop where
  echoes : SrvEchoes m reply
  ra : reply.header.recursionAvailable = !a
  answers : reply.answers = srvAnswersOf res
  authority : reply.authority = srvAuthorityOf res
  fallback : servfailFallback reply = srvRcodeReply a m RCODE_SERVFAIL

theorem srv_replyOf_fields (a : Bool) (m : Message) (res : Except ResolutionError ResolvedRecord) :
    SrvReplyOfFields a m res (srvReplyOf a m res) := by
  match res with
  | .ok (.authoritative rrs soa) => exact ⟨⟨rfl, rfl, rfl, rfl, rfl, rfl, rfl⟩, rfl, rfl, rfl, rfl⟩
  | .ok (.authoritativeNameError soa) => exact ⟨⟨rfl, rfl, rfl, rfl, rfl, rfl, rfl⟩, rfl, rfl, rfl, rfl⟩
  | .ok (.nonAuthoritative rrs (some s)) =>
    exact ⟨⟨rfl, rfl, rfl, rfl, rfl, rfl, rfl⟩, rfl, rfl, rfl, rfl⟩
  | .ok (.nonAuthoritative [] none) => exact ⟨SrvEchoes.rcodeReply a m _, rfl, rfl, rfl, rfl⟩
  | .ok (.nonAuthoritative (rr :: rrs) none) =>
    exact ⟨⟨rfl, rfl, rfl, rfl, rfl, rfl, rfl⟩, rfl, rfl, rfl, rfl⟩
  | .error _ => exact ⟨SrvEchoes.rcodeReply a m _, rfl, rfl, rfl, rfl⟩

/-- AA and RCODE of `srvReplyOf` against the resolver's result; the last two clauses are the
    SERVFAIL rule at the end of `resolve_and_build_response` -/
structure SrvReplyOfCodes (res : Except ResolutionError ResolvedRecord) (reply : Message) : Prop where
  aa_iff : reply.header.isAuthoritative = true ↔
    ((∃ rrs soa, res = .ok (.authoritative rrs soa)) ∨ ∃ soa, res = .ok (.authoritativeNameError soa))
  nameerror_iff : reply.header.rcode = RCODE_NAMEERROR ↔ ∃ soa, res = .ok (.authoritativeNameError soa)
  servfail_iff : reply.header.rcode = RCODE_SERVFAIL ↔
    ((∃ e, res = .error e) ∨ res = .ok (.nonAuthoritative [] none))
  rcode_cases : reply.header.rcode = RCODE_NOERROR ∨ reply.header.rcode = RCODE_NAMEERROR ∨
    reply.header.rcode = RCODE_SERVFAIL
  noerror_says : ¬ (reply.header.rcode = RCODE_NOERROR ∧ reply.answers = [] ∧ reply.authority = [])
  servfail_empty : reply.header.rcode = RCODE_SERVFAIL →
    reply.answers = [] ∧ reply.authority = [] ∧ reply.header.isAuthoritative = false

theorem srv_replyOf_codes (a : Bool) (m : Message) (res : Except ResolutionError ResolvedRecord) :
    SrvReplyOfCodes res (srvReplyOf a m res) := by
  match res with
  | .ok (.authoritative rrs soa) =>
    constructor <;> simp [srvReplyOf, srvBase, RCODE_NOERROR, RCODE_NAMEERROR, RCODE_SERVFAIL]
  | .ok (.authoritativeNameError soa) =>
    constructor <;> simp [srvReplyOf, srvBase, RCODE_NOERROR, RCODE_NAMEERROR, RCODE_SERVFAIL]
  | .ok (.nonAuthoritative rrs (some s)) =>
    constructor <;> simp [srvReplyOf, srvBase, RCODE_NOERROR, RCODE_NAMEERROR, RCODE_SERVFAIL]
  | .ok (.nonAuthoritative [] none) =>
    constructor <;>
      simp [srvReplyOf, srvBase, srvRcodeReply, RCODE_NOERROR, RCODE_NAMEERROR, RCODE_SERVFAIL]
  | .ok (.nonAuthoritative (rr :: rrs) none) =>
    constructor <;> simp [srvReplyOf, srvBase, RCODE_NOERROR, RCODE_NAMEERROR, RCODE_SERVFAIL]
  | .error _ =>
    constructor <;>
      simp [srvReplyOf, srvBase, srvRcodeReply, RCODE_NOERROR, RCODE_NAMEERROR, RCODE_SERVFAIL]

theorem SrvAnswerTo.echo (h : SrvAnswerTo a r m reply) :
    SrvEchoes m reply ∧ reply.header.recursionAvailable = !a := by
  cases h with
  | refused => exact ⟨.rcodeReply a m _, rfl⟩
  | noQuestion => exact ⟨.rcodeReply a m _, rfl⟩
  | question q =>
    have f := srv_replyOf_fields a m (r q (m.header.recursionDesired && !a))
    exact ⟨f.echoes, f.ra⟩

/-- NOTIMP included, whose RA is always 1: hence no RA clause -/
theorem SrvReplyTo.echo (h : SrvReplyTo a r m reply) : SrvEchoes m reply := by
  cases h with
  | notImp => exact .rcodeReply false m _
  | answer _ h' => exact (SrvAnswerTo.echo h').1

theorem srv_reply_echo (hd : decodeMessage buf = .ok m) (h : handleRawMessage a r buf = some reply) :
    SrvEchoes m reply :=
  (handleRawMessage_reply hd h).2.echo

/-- what every reply of `handle_raw_message` has, FORMERR included (`SrvEchoes` speaks of replies
    to a decoded query only): `qdcount` makes the SERVFAIL fallback serialise, `tc` lets a fitting
    serialisation pass the senders unchanged -/
structure SrvEveryReply (reply : Message) : Prop where
  qr : reply.header.isResponse = true
  tc : reply.header.isTruncated = false
  additional : reply.additional = []
  qdcount : reply.questions.length < 65536

theorem srv_every_reply {a : Bool} {r : ServerResolver} {buf : List UInt8} {reply : Message}
    (h : handleRawMessage a r buf = some reply) : SrvEveryReply reply := by
  rcases handleRawMessage_cases h with ⟨_, id, _, _, rfl⟩ | ⟨m, hd, _⟩
  · exact ⟨rfl, rfl, rfl, Nat.zero_lt_succ _⟩
  · have e := srv_reply_echo hd h
    exact ⟨e.qr, e.tc, e.additional, by rw [e.questions]; exact (decodeMessage_counts hd).1⟩

theorem SrvAnswerTo.servfail_rule (h : SrvAnswerTo a r m reply) :
    ¬ (reply.header.rcode = RCODE_NOERROR ∧ reply.answers = [] ∧ reply.authority = []) ∧
    (reply.header.rcode = RCODE_SERVFAIL →
      reply.answers = [] ∧ reply.authority = [] ∧ reply.header.isAuthoritative = false) := by
  cases h with
  | refused =>
    exact ⟨fun hc => absurd hc.1 (by show RCODE_REFUSED ≠ RCODE_NOERROR; decide),
      fun hc => absurd hc (by show RCODE_REFUSED ≠ RCODE_SERVFAIL; decide)⟩
  | noQuestion =>
    exact ⟨fun hc => absurd hc.1 (by show RCODE_SERVFAIL ≠ RCODE_NOERROR; decide),
      fun _ => ⟨rfl, rfl, rfl⟩⟩
  | question q =>
    have c := srv_replyOf_codes a m (r q (m.header.recursionDesired && !a))
    exact ⟨c.noerror_says, c.servfail_empty⟩

theorem SrvReplyTo.sections (h : SrvReplyTo a r m reply) :
    (reply.answers = [] ∧ reply.authority = []) ∨
    ∃ q, m.questions = [q] ∧
      reply.answers = srvAnswersOf (r q (m.header.recursionDesired && !a)) ∧
      reply.authority = srvAuthorityOf (r q (m.header.recursionDesired && !a)) := by
  cases h with
  | notImp => exact .inl ⟨rfl, rfl⟩
  | answer _ h' =>
    cases h' with
    | refused => exact .inl ⟨rfl, rfl⟩
    | noQuestion => exact .inl ⟨rfl, rfl⟩
    | question q hq =>
      have f := srv_replyOf_fields a m (r q (m.header.recursionDesired && !a))
      exact .inr ⟨q, hq, f.answers, f.authority⟩

theorem handleRawMessage_answers {a : Bool} {res : ServerResolver} {buf : List UInt8} {m r : Message}
    {q : Question} (hd : decodeMessage buf = .ok m) (hq : m.questions = [q])
    (h : handleRawMessage a res buf = some r) :
    r.answers = [] ∨ r.answers = srvAnswersOf (res q (m.header.recursionDesired && !a)) := by
  rcases (handleRawMessage_reply hd h).2.sections with ⟨h0, _⟩ | ⟨q', hq', h1, _⟩
  · exact .inl h0
  · rw [hq] at hq'; cases hq'
    exact .inr h1

theorem handleRawMessage_question_reply {a : Bool} {res : ServerResolver} {buf : List UInt8} {m r : Message}
    {q : Question} (hd : decodeMessage buf = .ok m) (ho : m.header.opcode = OPCODE_STANDARD)
    (hq : m.questions = [q]) (hk : questionIsUnknown q = false)
    (h : handleRawMessage a res buf = some r) :
    r = srvReplyOf a m (res q (m.header.recursionDesired && !a)) :=
  Option.some.inj (h.symm.trans (handleRawMessage_question hd (handleRawMessage_reply hd h).1 ho hq hk))

/-- the hypothesis on the resolver under which a reply serialises and reads back as itself
    (`srv_reply_wf`, `C09_udp_reply_decodes`): every record of the result, and its SOA, is `RRWF` —
    well-formed names, 16/32-bit fields, RDATA matching the type's layout; an error has no records -/
def srvResultWF : Except ResolutionError ResolvedRecord → Prop
  | .ok rec => (∀ rr ∈ rec.rrs, RRWF rr) ∧ (∀ s, rec.soaRR = some s → RRWF s)
  | .error _ => True

theorem srv_wf_of_echo {m reply : Message} (hm : WfMsg m) (he : SrvEchoes m reply)
    (hrc : reply.header.rcode < 16) (han : ∀ rr ∈ reply.answers, RRWF rr)
    (hau : ∀ rr ∈ reply.authority, RRWF rr) : WfMsg reply := by
  obtain ⟨⟨h1, h2, _⟩, hqs, _⟩ := hm
  refine ⟨⟨he.id ▸ h1, he.opcode ▸ h2, hrc⟩, he.questions ▸ hqs, han, hau, ?_⟩
  rw [he.additional]; intro rr hrr; cases hrr

theorem srv_rcodeReply_wf (a : Bool) {m : Message} (hm : WfMsg m) {rc : Nat} (h : rc < 16) :
    WfMsg (srvRcodeReply a m rc) :=
  srv_wf_of_echo hm (.rcodeReply a m rc) h (fun _ h => nomatch h) (fun _ h => nomatch h)

theorem srv_replyOf_wf (a : Bool) (m : Message) (res : Except ResolutionError ResolvedRecord)
    (hm : WfMsg m) (hres : srvResultWF res) : WfMsg (srvReplyOf a m res) := by
  have f := srv_replyOf_fields a m res
  have hrc : (srvReplyOf a m res).header.rcode < 16 := by
    rcases (srv_replyOf_codes a m res).rcode_cases with h | h | h <;> rw [h] <;> decide
  have han : ∀ rr ∈ srvAnswersOf res, RRWF rr := by
    cases res with
    | ok rec => exact hres.1
    | error _ => intro rr hrr; cases hrr
  have hau : ∀ rr ∈ srvAuthorityOf res, RRWF rr := by
    cases res with
    | ok rec => intro rr hrr; exact hres.2 rr (Option.mem_toList.mp hrr)
    | error _ => intro rr hrr; cases hrr
  exact srv_wf_of_echo hm f.echoes hrc (f.answers ▸ han) (f.authority ▸ hau)

theorem srv_formerr_wf (id : Nat) (h : id < 65536) : WfMsg (makeFormatErrorResponse id) := by
  refine ⟨⟨h, (by show OPCODE_STANDARD < 16; decide), (by show RCODE_FORMERR < 16; decide)⟩,
    ?_, ?_, ?_, ?_⟩ <;> intro r hr <;> cases hr

/-- only the result for the message's own question has to be serialisable -/
theorem SrvReplyTo.wf (hm : WfMsg m)
    (hres : ∀ q ∈ m.questions, srvResultWF (r q (m.header.recursionDesired && !a)))
    (h : SrvReplyTo a r m reply) : WfMsg reply := by
  cases h with
  | notImp => exact srv_rcodeReply_wf false hm (by decide)
  | answer _ h' =>
    cases h' with
    | refused => exact srv_rcodeReply_wf a hm (by decide)
    | noQuestion => exact srv_rcodeReply_wf a hm (by decide)
    | question q hq => exact srv_replyOf_wf a m _ hm (hres q (hq ▸ List.mem_singleton_self q))

theorem srv_reply_wf
    (hres : ∀ m, decodeMessage buf = .ok m →
      ∀ q ∈ m.questions, srvResultWF (r q (m.header.recursionDesired && !a)))
    (h : handleRawMessage a r buf = some reply) : WfMsg reply := by
  rcases handleRawMessage_cases h with ⟨e, id, hd, hid, rfl⟩ | ⟨m, hd, h'⟩
  · exact srv_formerr_wf id (decodeMessage_err_id_lt hd hid)
  · exact h'.wf (decodeMessage_wf hd) (hres m hd)

end

/-- `128 = 0x80` = QR, `129 = 0x81` = RA + RCODE 1, then four zero counts -/
theorem srv_formerr_encode (id : Nat) :
    encodeMessage (makeFormatErrorResponse id) =
      .ok (u16Bytes id ++ [128, 129, 0, 0, 0, 0, 0, 0, 0, 0]) := by
  simp [encodeMessage, makeFormatErrorResponse, usizeToU16, encodeHeader, WBuf.writeU16,
    WBuf.writeU8, WBuf.writeOctets, WBuf.empty, encodeRRs, flag, u16Bytes, u8, OPCODE_STANDARD,
    RCODE_FORMERR, HEADER_MASK_QR, HEADER_MASK_OPCODE, HEADER_OFFSET_OPCODE,
    HEADER_MASK_RA, HEADER_MASK_RCODE, HEADER_OFFSET_RCODE]

theorem and_two_eq_zero_or_two (x : Nat) : x &&& 2 = 0 ∨ x &&& 2 = 2 := by
  have h1 : (x &&& 2) % 2 = 0 := by
    rw [← Nat.and_one_is_mod, Nat.and_assoc]; exact Nat.and_zero x
  have h2 : x &&& 2 ≤ 2 := Nat.and_le_right
  omega

theorem and_253_or_and_two {x : Nat} (h : x < 2 ^ 8) : x &&& 253 ||| x &&& 2 = x := by
  rw [← Nat.and_or_distrib_left]; exact Nat.and_two_pow_sub_one_of_lt_two_pow h

theorem and_two_ne_zero_iff_div_two_odd (x : Nat) : x &&& 2 ≠ 0 ↔ x / 2 % 2 = 1 := by
  have h : (x &&& 2) / 2 = x / 2 % 2 := by
    rw [← Nat.and_one_is_mod]; exact Nat.and_div_two_pow (a := x) (b := 2) (n := 1)
  rcases and_two_eq_zero_or_two x with h0 | h0 <;> rw [h0] at h ⊢ <;> omega

/-- octet 2 with the TC bit forced on / off, as `send_udp_bytes_to` / `send_tcp_bytes` do -/
def srvTcOctet (on : Bool) (b : UInt8) : UInt8 :=
  if on then UInt8.ofNat (b.toNat ||| 2) else UInt8.ofNat (b.toNat &&& 253)

theorem srv_tcOctet_toNat (on : Bool) (b : UInt8) :
    (srvTcOctet on b).toNat = if on then b.toNat ||| 2 else b.toNat &&& 253 := by
  have hb : b.toNat < 2 ^ 8 := b.toNat_lt
  cases on
  · exact Nat.mod_eq_of_lt (Nat.lt_of_le_of_lt Nat.and_le_left hb)
  · exact Nat.mod_eq_of_lt (Nat.or_lt_two_pow hb (by decide))

theorem srv_tcOctet_bit (on : Bool) (b : UInt8) :
    testBit (srvTcOctet on b).toNat HEADER_MASK_TC = on := by
  rw [srv_tcOctet_toNat]
  cases on
  · show (b.toNat &&& 253 &&& 2 != 0) = false
    rw [Nat.and_assoc, show 253 &&& 2 = 0 from rfl, Nat.and_zero]; rfl
  · show ((b.toNat ||| 2) &&& 2 != 0) = true
    rw [Nat.and_or_distrib_right]
    exact bne_iff_ne.mpr (Nat.ne_of_gt (Nat.lt_of_lt_of_le (by decide) Nat.right_le_or))

theorem srv_tcOctet_others (on : Bool) (b : UInt8) :
    (srvTcOctet on b).toNat &&& 253 = b.toNat &&& 253 := by
  rw [srv_tcOctet_toNat]
  cases on
  · show b.toNat &&& 253 &&& 253 = b.toNat &&& 253
    rw [Nat.and_assoc, Nat.and_self]
  · show (b.toNat ||| 2) &&& 253 = b.toNat &&& 253
    rw [Nat.and_or_distrib_right]; exact Nat.or_zero _

theorem srv_tcOctet_clear (b : UInt8) (h : testBit b.toNat HEADER_MASK_TC = false) :
    srvTcOctet false b = b := by
  apply UInt8.toNat_inj.mp
  have h0 : b.toNat &&& 2 = 0 := by simpa [testBit, HEADER_MASK_TC] using h
  have hs := and_253_or_and_two b.toNat_lt
  rw [h0, Nat.or_zero] at hs
  rw [srv_tcOctet_toNat]
  exact hs

/-- the TC bit of a serialised message: bit 1 of octet 2 (`none` if there is no octet 2) -/
def srvTcOf (bytes : List UInt8) : Option Bool :=
  bytes[2]?.map (fun b => testBit b.toNat HEADER_MASK_TC)

theorem srv_setTcBit_eq {bytes : List UInt8} (on : Bool) (h : 2 < bytes.length) :
    setTcBit bytes on = bytes.set 2 (srvTcOctet on bytes[2]) := by
  unfold setTcBit; rw [List.getElem?_eq_getElem h]; rfl

@[simp] theorem srv_setTcBit_length (bytes : List UInt8) (on : Bool) :
    (setTcBit bytes on).length = bytes.length := by
  unfold setTcBit; split <;> simp

theorem srv_setTcBit_get {bytes : List UInt8} (on : Bool) (h : 2 < bytes.length) (i : Nat) :
    (setTcBit bytes on)[i]? = if i = 2 then some (srvTcOctet on bytes[2]) else bytes[i]? := by
  rw [srv_setTcBit_eq on h, List.getElem?_set]
  by_cases hi : i = 2
  · rw [if_pos hi.symm, if_pos h, if_pos hi]
  · rw [if_neg (Ne.symm hi), if_neg hi]

theorem srv_setTcBit_tc (bytes : List UInt8) (on : Bool) (h : 2 < bytes.length) :
    srvTcOf (setTcBit bytes on) = some on := by
  unfold srvTcOf
  rw [srv_setTcBit_get on h, if_pos rfl, Option.map_some, srv_tcOctet_bit]

theorem srv_setTcBit_clear (bytes : List UInt8) (h : srvTcOf bytes = some false) :
    setTcBit bytes false = bytes := by
  have hlt : 2 < bytes.length := Nat.lt_of_not_le fun hn => by
    rw [srvTcOf, List.getElem?_eq_none hn] at h; cases h
  rw [srvTcOf, List.getElem?_eq_getElem hlt] at h
  rw [srv_setTcBit_eq false hlt, srv_tcOctet_clear _ (Option.some.inj h), List.set_getElem_self]

theorem srv_udpFrame_none_iff (bytes : List UInt8) : udpFrame bytes = none ↔ bytes.length < 12 := by
  unfold udpFrame
  constructor
  · intro h; split at h
    · assumption
    · split at h <;> cases h
  · intro h; rw [if_pos h]

/-- the limits are spelt out (`Gen.UDP_MAX` = 512) as in the statements of C09 -/
theorem srv_udpFrame_big {bytes : List UInt8} (h : bytes.length > 512) :
    udpFrame bytes = some ((setTcBit bytes true).take 512) := by
  unfold udpFrame
  rw [if_neg (by omega), if_pos (by simpa [UDP_MAX] using h)]; rfl

theorem srv_udpFrame_small {bytes : List UInt8} (h12 : 12 ≤ bytes.length) (h : bytes.length ≤ 512) :
    udpFrame bytes = some (setTcBit bytes false) := by
  unfold udpFrame
  rw [if_neg (by omega), if_neg (by simp only [UDP_MAX]; omega)]

theorem srv_tcpFrame_none_iff (bytes : List UInt8) : tcpFrame bytes = none ↔ bytes.length < 12 := by
  unfold tcpFrame
  constructor
  · intro h; split at h
    · assumption
    · split at h <;> cases h
  · intro h; rw [if_pos h]

theorem srv_tcpFrame_big {bytes : List UInt8} (h : bytes.length > 65535) :
    tcpFrame bytes = some (u16Bytes 65535 ++ (setTcBit bytes true).take 65535) := by
  unfold tcpFrame
  rw [if_neg (by omega), if_neg (by omega)]

theorem srv_tcpFrame_small {bytes : List UInt8} (h12 : 12 ≤ bytes.length) (h : bytes.length ≤ 65535) :
    tcpFrame bytes = some (u16Bytes bytes.length ++ setTcBit bytes false) := by
  unfold tcpFrame
  rw [if_neg (by omega), if_pos h]

/-- both branches of `send_udp_bytes_to` in one formula -/
theorem srv_udpFrame_some {bytes out : List UInt8} (h : udpFrame bytes = some out) :
    12 ≤ bytes.length ∧ out = (setTcBit bytes (decide (bytes.length > 512))).take 512 := by
  have h12 : 12 ≤ bytes.length :=
    Nat.le_of_not_lt fun hn => by rw [(srv_udpFrame_none_iff bytes).mpr hn] at h; cases h
  refine ⟨h12, Option.some.inj (h.symm.trans ?_)⟩
  by_cases hbig : bytes.length > 512
  · rw [srv_udpFrame_big hbig, decide_eq_true hbig]
  · rw [srv_udpFrame_small h12 (Nat.le_of_not_lt hbig), decide_eq_false hbig,
      List.take_of_length_le (by rw [srv_setTcBit_length]; exact Nat.le_of_not_lt hbig)]

theorem srv_tcpFrame_some {bytes out : List UInt8} (h : tcpFrame bytes = some out) :
    12 ≤ bytes.length ∧ out = u16Bytes (min bytes.length 65535) ++
      (setTcBit bytes (decide (bytes.length > 65535))).take 65535 := by
  have h12 : 12 ≤ bytes.length :=
    Nat.le_of_not_lt fun hn => by rw [(srv_tcpFrame_none_iff bytes).mpr hn] at h; cases h
  refine ⟨h12, Option.some.inj (h.symm.trans ?_)⟩
  by_cases hbig : bytes.length > 65535
  · rw [srv_tcpFrame_big hbig, decide_eq_true hbig, Nat.min_eq_right (Nat.le_of_lt hbig)]
  · have hle := Nat.le_of_not_lt hbig
    rw [srv_tcpFrame_small h12 hle, decide_eq_false hbig, Nat.min_eq_left hle,
      List.take_of_length_le (by rw [srv_setTcBit_length]; exact hle)]

theorem srv_tcOf_take (l : List UInt8) (n : Nat) (h : 2 < n) : srvTcOf (l.take n) = srvTcOf l := by
  unfold srvTcOf; rw [List.getElem?_take, if_pos h]

/-- What both senders do to the serialised reply; nothing else changes. -/
theorem srv_cut (bytes : List UInt8) (on : Bool) (n : Nat) (hn : 2 < n) (hb : 2 < bytes.length) :
    ((setTcBit bytes on).take n).length = min n bytes.length ∧
    srvTcOf ((setTcBit bytes on).take n) = some on ∧
    (∀ i, i < n → i ≠ 2 → ((setTcBit bytes on).take n)[i]? = bytes[i]?) ∧
    (bytes.length ≤ n → ∀ i, i ≠ 2 → ((setTcBit bytes on).take n)[i]? = bytes[i]?) ∧
    ∃ b b', bytes[2]? = some b ∧ ((setTcBit bytes on).take n)[2]? = some b' ∧
      b'.toNat &&& 253 = b.toNat &&& 253 ∧ testBit b'.toNat HEADER_MASK_TC = on := by
  have h2 : bytes[2]? = some bytes[2] := List.getElem?_eq_getElem hb
  refine ⟨by rw [List.length_take, srv_setTcBit_length], ?_, ?_, ?_, bytes[2],
    srvTcOctet on bytes[2], h2, ?_, srv_tcOctet_others _ _, srv_tcOctet_bit _ _⟩
  · rw [srv_tcOf_take _ _ hn, srv_setTcBit_tc _ _ hb]
  · intro i hi hne
    rw [List.getElem?_take, if_pos hi, srv_setTcBit_get on hb, if_neg hne]
  · intro hle i hne
    rw [List.take_of_length_le (by rw [srv_setTcBit_length]; exact hle), srv_setTcBit_get on hb,
      if_neg hne]
  · rw [List.getElem?_take, if_pos hn, srv_setTcBit_get on hb, if_pos rfl]

/-- serialise (with the SERVFAIL fallback) and frame for UDP (`none` = nothing is sent) -/
def srvSendUdp : Option Message → Option (List UInt8)
  | none => none
  | some m =>
    match serialiseResponse m with
    | some (_, bs) => udpFrame bs
    | none => none

/-- the same for TCP: serialise, then the length prefix and the cut at 65 535 -/
def srvSendTcp : Option Message → Option (List UInt8)
  | none => none
  | some m =>
    match serialiseResponse m with
    | some (_, bs) => tcpFrame bs
    | none => none

theorem serialiseResponse_ok {m : Message} {bs : List UInt8} (h : encodeMessage m = .ok bs) :
    serialiseResponse m = some (m, bs) := by
  unfold serialiseResponse; rw [h]

theorem serialiseResponse_err {m : Message} {e : EErr} (h : encodeMessage m = .error e) :
    serialiseResponse m =
      match encodeMessage (servfailFallback m) with
      | .ok bs => some (servfailFallback m, bs)
      | .error _ => none := by
  unfold serialiseResponse; rw [h]
  cases encodeMessage (servfailFallback m) <;> rfl

theorem srv_send_of_serialise {m m' : Message} {bs : List UInt8}
    (hs : serialiseResponse m = some (m', bs)) :
    srvSendUdp (some m) = udpFrame bs ∧ srvSendTcp (some m) = tcpFrame bs := by
  simp only [srvSendUdp, srvSendTcp, hs, and_self]

theorem srv_frame_fitting {m : Message} {bs : List UInt8} (he : encodeMessage m = .ok bs)
    (htc : m.header.isTruncated = false) :
    (bs.length ≤ 512 → udpFrame bs = some bs) ∧
    (bs.length ≤ 65535 → tcpFrame bs = some (u16Bytes bs.length ++ bs)) := by
  have h12 := encodeMessage_length_ge he
  have hb : srvTcOf bs = some false := by
    obtain ⟨b, h2, ht⟩ := encodeMessage_tc he
    rw [srvTcOf, h2, Option.map_some, ht, htc]
  exact ⟨fun hle => by rw [srv_udpFrame_small h12 hle, srv_setTcBit_clear _ hb],
    fun hle => by rw [srv_tcpFrame_small h12 hle, srv_setTcBit_clear _ hb]⟩

theorem serialiseResponse_some {m m' : Message} {bs : List UInt8}
    (h : serialiseResponse m = some (m', bs)) :
    encodeMessage m' = .ok bs ∧
    ((m' = m) ∨ (m' = servfailFallback m ∧ ∃ e, encodeMessage m = .error e)) := by
  cases he : encodeMessage m with
  | ok bs0 =>
    rw [serialiseResponse_ok he] at h; cases h
    exact ⟨he, .inl rfl⟩
  | error e =>
    rw [serialiseResponse_err he] at h
    cases hf : encodeMessage (servfailFallback m) with
    | ok bs1 => rw [hf] at h; cases h; exact ⟨hf, .inr ⟨rfl, e, rfl⟩⟩
    | error e' => rw [hf] at h; cases h

theorem srv_fallback_encodes (m : Message) (hq : m.questions.length < 65536) :
    ∃ bs, encodeMessage (servfailFallback m) = .ok bs :=
  encodeMessage_questions_only (servfailFallback m) hq rfl rfl rfl

theorem serialiseResponse_total (m : Message) (hq : m.questions.length < 65536) :
    ∃ m' bs, serialiseResponse m = some (m', bs) := by
  cases he : encodeMessage m with
  | ok bs => exact ⟨m, bs, serialiseResponse_ok he⟩
  | error e =>
    obtain ⟨bs, hf⟩ := srv_fallback_encodes m hq
    refine ⟨servfailFallback m, bs, ?_⟩
    rw [serialiseResponse_err he, hf]

theorem srv_fallback_rcodeReply (a : Bool) (m : Message) (rc : Nat) :
    servfailFallback (srvRcodeReply a m rc) = srvRcodeReply a m RCODE_SERVFAIL := rfl

theorem srv_serveUdp_eq (a : Bool) (r : ServerResolver) (d : List UInt8) :
    serveUdp a r d = srvSendUdp (handleRawMessage a r d) := by
  unfold serveUdp
  cases handleRawMessage a r d <;> rfl

theorem srv_serveTcp_eq (a : Bool) (r : ServerResolver) (e : Nat) (rec : List UInt8) :
    serveTcp a r e rec = srvSendTcp (match tcpRead e rec with
      | .ok bytes => handleRawMessage a r bytes
      | .error id => id.map makeFormatErrorResponse) := by
  unfold serveTcp
  cases tcpRead e rec with
  | ok b => simp only; cases handleRawMessage a r b <;> rfl
  | error id => cases id <;> rfl

theorem tcpRead_full {e : Nat} {rec : List UInt8} (h : e ≤ rec.length) :
    tcpRead e rec = .ok (rec.take e) := by
  unfold tcpRead; rw [if_pos h]

theorem srv_serveTcp_full (a : Bool) (r : ServerResolver) {e : Nat} {rec : List UInt8}
    (h : e ≤ rec.length) :
    serveTcp a r e rec = srvSendTcp (handleRawMessage a r (rec.take e)) := by
  rw [srv_serveTcp_eq, tcpRead_full h]

theorem tcpRead_short {e : Nat} {rec : List UInt8} (h : rec.length < e) :
    tcpRead e rec = .error (if h2 : 2 ≤ rec.length then
      some ((rec[0]'(by omega)).toNat * 256 + (rec[1]'(by omega)).toNat) else none) := by
  unfold tcpRead; rw [if_neg (by omega)]
  match rec with
  | [] => rfl
  | [_] => rfl
  | _ :: _ :: _ => simp

/-! ## Reload and the loader (C19) -/

/-- the live configuration after a sequence of reload attempts (`none` = some file failed) -/
def reloadHistory (init : Zones) (hist : List (Option Zones)) : Zones :=
  hist.foldl (fun live l => (reload live l).1) init

@[simp] theorem srv_reload_none (live : Zones) : (reload live none).1 = live := rfl
@[simp] theorem srv_reload_some (live z : Zones) : (reload live (some z)).1 = z := rfl

@[simp] theorem srv_reloadHistory_nil (init : Zones) : reloadHistory init [] = init := rfl

@[simp] theorem srv_reloadHistory_cons (init : Zones) (l : Option Zones) (hist : List (Option Zones)) :
    reloadHistory init (l :: hist) = reloadHistory (reload init l).1 hist := rfl

theorem srv_reloadHistory_append (init : Zones) (h1 h2 : List (Option Zones)) :
    reloadHistory init (h1 ++ h2) = reloadHistory (reloadHistory init h1) h2 := by
  unfold reloadHistory; rw [List.foldl_append]

theorem loadConfiguration_missing {zoneFiles : List (Option Zone)} {hosts : Option Zone}
    (h : none ∈ zoneFiles ∨ hosts = none) : loadConfiguration zoneFiles hosts = none := by
  have hc : (zoneFiles.any Option.isNone || hosts.isNone) = true := by
    rcases h with h | h
    · rw [List.any_eq_true.mpr ⟨none, h, rfl⟩]; rfl
    · rw [h]; exact Bool.or_true _
  unfold loadConfiguration
  rw [if_pos hc]

theorem eq_map_some_filterMap_id {α : Type} : ∀ {l : List (Option α)}, none ∉ l → l = (l.filterMap id).map some
  | [], _ => rfl
  | none :: _, h => absurd List.mem_cons_self h
  | some x :: _, h =>
    congrArg (some x :: ·) (eq_map_some_filterMap_id fun hm => h (List.mem_cons_of_mem _ hm))

theorem loadConfiguration_all_some (zs : List Zone) (h : Zone) :
    loadConfiguration (zs.map some) (some h) =
      (zs.foldl (fun acc z => acc.bind (·.insertMerge z)) (some Zones.empty)).bind
        (·.insertMerge h) := by
  unfold loadConfiguration
  have h1 : (zs.map some).any Option.isNone = false := by
    simp [List.any_eq_false]
  have h2 : (zs.map some).filterMap id = zs := by
    simp [List.filterMap_map]
  rw [h1, h2]
  simp only [Option.isNone_some, Bool.or_self, Bool.false_eq_true, if_false]
  cases zs.foldl (fun acc z => acc.bind (·.insertMerge z)) (some Zones.empty) <;> rfl

/-- `load_zone_configuration`, by cases; the hosts zone is merged like one more zone file, after
    the others -/
theorem loadConfiguration_cases (zoneFiles : List (Option Zone)) (hosts : Option Zone) :
    ((none ∈ zoneFiles ∨ hosts = none) ∧ loadConfiguration zoneFiles hosts = none) ∨
    ∃ (zs : List Zone) (h : Zone), zoneFiles = zs.map some ∧ hosts = some h ∧
      loadConfiguration zoneFiles hosts =
        (zs ++ [h]).foldl (fun acc z => acc.bind (·.insertMerge z)) (some Zones.empty) := by
  by_cases h1 : none ∈ zoneFiles
  · exact .inl ⟨.inl h1, loadConfiguration_missing (.inl h1)⟩
  · cases hosts with
    | none => exact .inl ⟨.inr rfl, loadConfiguration_missing (.inr rfl)⟩
    | some h =>
      refine .inr ⟨zoneFiles.filterMap id, h, eq_map_some_filterMap_id h1, rfl, ?_⟩
      conv => lhs; rw [eq_map_some_filterMap_id h1]
      rw [loadConfiguration_all_some, List.foldl_append]
      rfl

end Resolved
