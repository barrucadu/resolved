/-
  Fuel sufficiency of the recursive machine under explicit size bounds (C08).  The fuel is a NESTING-DEPTH budget:
  every call passes `fuel` to its callees from `fuel + 1`.  Nested `resolveRec` calls see a strictly longer question
  stack and refuse at `RECURSION_LIMIT`; at one level the candidate loop makes at most `(labels − mc)·(2H+2) + width`
  iterations (the C07 measure), each nesting at most `|rtypes| + 1 ≤ 3` frames of `tryTypes`: with at most `H` hosts
  per delegation and `L` labels per question name one level costs `fb_perLevel H L = (L+1)(2H+2) + 3`.  Part 2
  discharges the hypothesis on local lookups (`fb_LocalBounded`) from a syntactic invariant on zones, cache, oracle.
-/
import Resolved.Proofs.ResolverLocalWalk
import Resolved.Proofs.ResolverMachineReach
import Resolved.Proofs.ResolverMachineFuel
import Resolved.Proofs.ResolverMachineLoop
import Resolved.Proofs.UpstreamFollow

namespace Resolved

open Gen

set_option autoImplicit false

/-! # Part 1: the induction over the call tree -/

/-- fuel one level of the question stack can use up. -/
def fb_perLevel (H L : Nat) : Nat := (L + 1) * (2 * H + 2) + 3

/-- fuel that suffices when delegations have ≤ `H` hosts and question names ≤ `L` labels:
    `RECURSION_LIMIT · fb_perLevel H L + 1` (the `+ 1`: the call that refuses at the limit). -/
def FUEL_BOUND (H L : Nat) : Nat := RECURSION_LIMIT * ((L + 1) * (2 * H + 2) + 3) + 1

/-! ## The hypotheses -/

def fb_OracleNames (oracle : Oracle) (L : Nat) : Prop :=
  ∀ ex m, (oracle ex).reply = some m → ∀ rr ∈ m.answers ++ m.authority, ∀ t,
    (nsTarget rr = some t ∨ cnameTarget rr = some t) → t.labels.length ≤ L

/-- of ONE local lookup: an alias target of ≤ `L` labels; a delegation with ≤ `H` hosts of ≤ `L` labels;
    for an NS question (the lookups of `candidate_nameservers`) ≤ `H` NS targets of ≤ `L` labels. -/
def fb_LocalBounded (H L : Nat) (q : Question) : Except ResolutionError LocalResult → Prop
  | .ok (.cname _ cq) => cq.name.labels.length ≤ L
  | .ok (.delegation _ _ d) => d.hostnames.length ≤ H ∧ ∀ h ∈ d.hostnames, h.labels.length ≤ L
  | .ok (.done resolved) =>
    q.qtype = RT_NS → (resolved.rrs.filterMap nsTarget).length ≤ H ∧
      ∀ h ∈ resolved.rrs.filterMap nsTarget, h.labels.length ≤ L
  | _ => True

/-- what `fb_Hyp.hostLen` ranges over: every host list a validation could hand to `hostOrder`. -/
def fb_Referral (oracle : Oracle) (hs : List Name) : Prop :=
  ∃ ex m q mc rrs zone, (oracle ex).reply = some m ∧
    validateNameserverResponse q m mc = some (.delegation rrs hs zone)

/-- what the induction over the call tree assumes: of the host order, of the oracle, and of every local lookup on a
    state reached from `st0`, the state the resolution starts from. -/
structure fb_Hyp (cfg : RecCfg) (H L : Nat) (st0 : St) : Prop where
  /-- only needed of host sets of actual referrals -/
  hostLen : ∀ hs, fb_Referral cfg.oracle hs → (cfg.hostOrder hs).length ≤ H
  hostSub : ∀ hs h, h ∈ cfg.hostOrder hs → h ∈ hs
  oracle : fb_OracleNames cfg.oracle L
  loc : ∀ st, Reach cfg.net st0 st → ∀ q,
    fb_LocalBounded H L q (resolveLocal (RECURSION_LIMIT + 1) st.ctx q).2

theorem fb_reply_names {oracle : Oracle} {L : Nat} (ho : fb_OracleNames oracle L) {run : Run} {addr : FieldVal}
    {port : Nat} {q : Question} {rd : Bool} {mc : Nat} {resp : NameserverResponse}
    (hq : q.name.labels.length ≤ L)
    (h : (queryNameserver oracle run addr port q rd).2.bind (fun res => validateNameserverResponse q res mc)
      = some resp) :
    (∀ rrs hs zone, resp = .delegation rrs hs zone →
      zone.labels.length > mc ∧ q.name.isSubdomainOf zone = true ∧ hs ≠ [] ∧
      (∀ h ∈ hs, h.labels.length ≤ L) ∧ fb_Referral oracle hs) ∧
    (∀ rrs c, resp = .cname rrs c → c.labels.length ≤ L) := by
  obtain ⟨m, hm, h⟩ := Option.bind_eq_some_iff.mp h
  obtain ⟨⟨ex, _, _, hex⟩, _⟩ := queryNameserver_reply hm
  have hnames := ho ex m hex
  constructor
  · rintro rrs hs zone rfl
    have sp := validate_delegation_spec h
    refine ⟨sp.closer, sp.sub, sp.ne, fun n hn => ?_, ex, m, q, mc, rrs, zone, hex, h⟩
    obtain ⟨rr, hrr, ht, _⟩ := (sp.hosts n).mp hn
    exact hnames rr hrr n (Or.inl ht)
  · rintro rrs c rfl
    obtain ⟨fol, hf, _⟩ := validate_cname h
    rcases followCnames_fin hf with hc | ⟨rr, hrr, ht⟩
    · rw [hc]; exact hq
    · exact hnames rr (List.mem_append_left _ hrr) c (Or.inr ht)

/-! ## The induction -/

theorem rtypesFor_length_le (mode : ProtocolMode) : (rtypesFor mode).length ≤ 2 := by
  cases mode <;> simp [rtypesFor]

section

variable {cfg : RecCfg} {H L : Nat} {st0 : St}

/-- where the induction stands: a state the machine reaches from `st0`, with room for `ℓ` more
    questions on its stack. -/
def fb_At (cfg : RecCfg) (st0 : St) (ℓ : Nat) (st : St) : Prop :=
  Reach cfg.net st0 st ∧ st.ctx.stack.length + ℓ = RECURSION_LIMIT

theorem fb_At.good {ℓ : Nat} {st st' : St} (h : fb_At cfg st0 ℓ st) (hg : Good cfg.net st st') :
    fb_At cfg st0 ℓ st' :=
  ⟨h.1.trans hg.reach, by rw [hg.stack]; exact h.2⟩

/-- the two stack guards as the `if`s of `okRec` give them, read on the context the local lookup returns. -/
theorem guards_after_local {st : St} {q : Question} (hl : ¬st.ctx.atRecursionLimit = true)
    (hd : ¬st.ctx.isDuplicate q = true) (fuel : Nat) :
    (resolveLocal fuel st.ctx q).1.stack.length ≠ RECURSION_LIMIT ∧ q ∉ (resolveLocal fuel st.ctx q).1.stack := by
  rw [resolveLocal_stack]
  exact ⟨mt Ctx.atRecursionLimit_iff.mpr hl, mt Ctx.isDuplicate_iff.mpr hd⟩

theorem fb_At.push {ℓ : Nat} {st : St} (h : fb_At cfg st0 (ℓ + 1) st) (q : Question)
    (ht : st.run.timedOut = false) (hl : ¬st.ctx.atRecursionLimit = true) (hd : ¬st.ctx.isDuplicate q = true) :
    fb_At cfg st0 ℓ ⟨(resolveLocal (RECURSION_LIMIT + 1) st.ctx q).1.push q, st.run⟩ := by
  obtain ⟨hl', hd'⟩ := guards_after_local hl hd (RECURSION_LIMIT + 1)
  refine ⟨h.1.trans ((Reach.loc st _ q).trans (Reach.push ⟨_, st.run⟩ q ht
    (Ctx.atRecursionLimit_eq_false.mpr hl') (Ctx.isDuplicate_eq_false.mpr hd'))), ?_⟩
  simp only [Ctx.push, List.length_append, List.length_singleton, resolveLocal_stack]
  exact (Nat.add_right_comm _ 1 ℓ).trans h.2

theorem fb_candidateNameservers (hyp : fb_Hyp cfg H L st0) (labels : List Label) (st : St)
    (hr : Reach cfg.net st0 st) (ns : Nameservers) (h : (candidateNameservers st labels).2 = some ns) :
    ns.hostnames.length ≤ H ∧ ∀ h ∈ ns.hostnames, h.labels.length ≤ L := by
  obtain ⟨st1, r, h1, _, hl, he, _⟩ := (candidateNameservers_rel (R := Reach cfg.net) Reach.refl Reach.trans
    (fun st q => Reach.loc st _ q) labels st).2 ns h
  have hb := hyp.loc st1 (hr.trans h1) ⟨ns.name, RT_NS, CLASS_IN⟩
  rw [hl] at hb
  exact he ▸ hb rfl

/-- "enough fuel for `ℓ` more levels of the question stack makes `okRec` true". -/
def fb_RecOK (cfg : RecCfg) (H L : Nat) (st0 : St) (ℓ : Nat) : Prop :=
  ∀ st q n, fb_At cfg st0 ℓ st → q.name.labels.length ≤ L → ℓ * fb_perLevel H L ≤ n → okRec cfg (n + 1) st q = true

/-- `tryTypes`: one frame per record type, plus one for the exhausted list, on top of a level. -/
theorem fb_try (ℓ : Nat) (ih : fb_RecOK cfg H L st0 ℓ) : ∀ (types : List Nat) (n : Nat) (st : St)
    (locally : Bool) (host : Name), fb_At cfg st0 ℓ st → host.labels.length ≤ L →
    ℓ * fb_perLevel H L + types.length ≤ n → okTry cfg (n + 1) st locally host types = true := by
  intro types
  induction types with
  | nil => intro n st locally host _ _ _; rw [okTry]
  | cons t more ihT =>
    intro n st locally host hat hl hn
    rw [List.length_cons] at hn
    cases n with
    | zero => exact absurd hn (Nat.not_succ_le_zero _)
    | succ k =>
      rw [okTry]
      by_cases ht : st.run.timedOut = true
      · simp only [ht, ↓reduceIte]
      simp only [if_neg ht, Bool.and_eq_true, Bool.or_eq_true]
      have hk : ℓ * fb_perLevel H L + more.length ≤ k := Nat.le_of_succ_le_succ hn
      refine ⟨Or.inr (ih st _ k hat hl (Nat.le_trans (Nat.le_add_right _ _) hk)), ?_⟩
      cases hstep : (lookupStep cfg (k + 1) st locally host t).2 with
      | some a => rfl
      | none => exact ihT k _ locally host (hat.good (lookupStep_good (machine_good cfg (k + 1)).1 st locally host t)) hl hk

theorem fb_step {a a' : LoopArgs} {q : Question} {M : Nat} (h : LoopNext cfg q a a')
    (hH : a.mc < a'.mc → a'.cands.length ≤ H) (hm : a.measure q.name.labels.length H < M + 1) :
    a'.measure q.name.labels.length H < M :=
  Nat.lt_of_lt_of_le (h.measure_lt_of H hH) (Nat.le_of_lt_succ hm)

/-- `k` units pay for the deeper levels, `M` (above the C07 measure of the loop variables) for the
    iterations, 3 for the `tryTypes` frames of an iteration. -/
theorem fb_loop (hyp : fb_Hyp cfg H L st0) (ℓ : Nat) (ih : fb_RecOK cfg H L st0 ℓ) (k : Nat)
    (hk : ℓ * fb_perLevel H L ≤ k) :
    ∀ (M : Nat) (a : LoopArgs) (q : Question) (combined : List RR),
    fb_At cfg st0 ℓ a.st → q.name.labels.length ≤ L →
    (∀ c ∈ a.cands, c.labels.length ≤ L) → (∀ c ∈ a.next, c.labels.length ≤ L) →
    a.measure q.name.labels.length H < M →
    okLoop cfg (k + M + 3) a.st q combined a.mc a.cands a.next a.locally = true := by
  intro M
  induction M with
  | zero => intro a q combined _ _ _ _ hm; exact absurd hm (Nat.not_lt_zero _)
  | succ M ihM =>
    intro a q combined hat hq hcands hnext hmeas
    obtain ⟨st, mc, cands, next, locally⟩ := a
    have hfuel : k + (M + 1) + 3 = (k + M + 3) + 1 := rfl
    simp only at hat hcands hnext ⊢
    rw [hfuel, okLoop_succ]
    by_cases ht : st.run.timedOut = true
    · simp only [ht, ↓reduceIte]
    simp only [if_neg ht]
    cases hc : cands.getLast? with
    | none => rfl
    | some candidate =>
      have hcmem : candidate ∈ cands := List.mem_of_getLast? hc
      simp only [Bool.and_eq_true]
      refine ⟨fb_try ℓ ih _ (k + M + 2) st locally candidate hat (hcands _ hcmem)
        (Nat.add_le_add (Nat.le_trans hk (Nat.le_add_right k M)) (rtypesFor_length_le cfg.mode)), ?_⟩
      have hgood := (machine_good cfg (k + M + 3)).2.2.2 st locally candidate (rtypesFor cfg.mode)
      have hfam := fun addr => tryTypes_family cfg (k + M + 3) st locally candidate addr
      generalize tryTypes cfg (k + M + 3) st locally candidate (rtypesFor cfg.mode) = p at hgood hfam ⊢
      obtain ⟨st1, ip⟩ := p
      have hat1 := hat.good hgood
      have same : ∀ {n : Nat}, ¬(n < n) := Nat.lt_irrefl _
      by_cases ht1 : st1.run.timedOut = true
      · simp only [okAfterTry, ht1, ↓reduceIte]
      simp only [okAfterTry, if_neg ht1]
      cases ip with
      | none =>
        have hnext' : ∀ c ∈ next ++ [candidate], c.labels.length ≤ L := by
          intro c hcm
          rcases List.mem_append.mp hcm with h | h
          · exact hnext c h
          · rw [List.mem_singleton.mp h]; exact hcands _ hcmem
        have hdrop : ∀ c ∈ cands.dropLast, c.labels.length ≤ L :=
          fun c hcm => hcands c (List.dropLast_subset _ hcm)
        cases locally with
        | true =>
          simp only [if_true]
          by_cases he : cands.dropLast.isEmpty = true
          · simp only [if_pos he]
            exact ihM ⟨st1, mc, next ++ [candidate], [], false⟩ q combined hat1 hq hnext' (fun _ h => nomatch h)
              (fb_step (cfg := cfg) (.switchSlow ⟨st, mc, cands, next, true⟩ st1 candidate rfl hc he) (absurd · same) hmeas)
          · simp only [if_neg he]
            exact ihM ⟨st1, mc, cands.dropLast, next ++ [candidate], true⟩ q combined hat1 hq hdrop hnext'
              (fb_step (cfg := cfg) (.skipFast ⟨st, mc, cands, next, true⟩ st1 candidate rfl hc (eq_false_of_ne_true he))
                (absurd · same) hmeas)
        | false =>
          simp only [Bool.false_eq_true, if_false]
          exact ihM ⟨st1, mc, cands.dropLast, next, false⟩ q combined hat1 hq hdrop hnext
            (fb_step (cfg := cfg) (.dropSlow ⟨st, mc, cands, next, false⟩ st1 candidate rfl hc) (absurd · same) hmeas)
      | some addr =>
        by_cases ht2 : (queryNameserver cfg.oracle st1.run addr cfg.port q false).1.timedOut = true
        · simp only [okAfterQuery, ht2, ↓reduceIte]
        simp only [okAfterQuery, if_neg ht2]
        cases hresp : (queryNameserver cfg.oracle st1.run addr cfg.port q false).2.bind
            (fun res => validateNameserverResponse q res mc) with
        | none => rfl
        | some resp =>
          have hat3 := hat1.good (Good.reply (hfam addr rfl) (eq_false_of_ne_true ht1) hresp)
          obtain ⟨hdel, hcn⟩ := fb_reply_names hyp.oracle hq hresp
          cases resp with
          | answer rrs soa => rfl
          | cname rrs c =>
            simp only
            rw [okComb]
            exact ih _ _ (k + M + 1) hat3 (hcn rrs c rfl) (Nat.le_trans hk (Nat.le_add_right k (M + 1)))
          | delegation rrs hs' zone =>
            simp only
            cases hg : glueFor q rrs with
            | some rr => rfl
            | none =>
              obtain ⟨hz1, hz2, hz3, hz4, hz5⟩ := hdel rrs hs' zone rfl
              exact ihM ⟨_, zone.labels.length, cfg.hostOrder hs', [], true⟩ q combined hat3 hq
                (fun c hcm => hz4 c (hyp.hostSub _ _ hcm)) (fun _ h => nomatch h)
                (fb_step (cfg := cfg) (.referral ⟨st, mc, cands, next, locally⟩ _ zone hs' hz1 hz2 hz3)
                  (fun _ => hyp.hostLen hs' hz5) hmeas)

/-- the first candidates are bounded, so the initial measure is below `(L + 1)·(2H + 2)` and
    `fb_perLevel H L` units on top of the deeper levels suffice. -/
theorem fb_upstream (hyp : fb_Hyp cfg H L st0) (ℓ : Nat) (ih : fb_RecOK cfg H L st0 ℓ) {k : Nat}
    (hk : ℓ * fb_perLevel H L ≤ k) {st2 : St} {q : Question} (hat : fb_At cfg st0 ℓ st2) (hq : q.name.labels.length ≤ L)
    {other : Except ResolutionError LocalResult} (hb : fb_LocalBounded H L q other) :
    okUpstream cfg (k + fb_perLevel H L) st2 q other = true := by
  unfold okUpstream
  have hg := initialCandidates_good cfg.net st2 q other
  cases hc : (initialCandidates st2 q other).2 with
  | none => rfl
  | some c =>
    have hbound : c.hostnames.length ≤ H ∧ ∀ h ∈ c.hostnames, h.labels.length ≤ L := by
      rcases initialCandidates_cases st2 q other with ⟨_, _, d, rfl, e⟩ | e <;> rw [e] at hc
      · exact Option.some.inj hc ▸ hb
      · exact fb_candidateNameservers hyp _ _ hat.1 c hc
    exact fb_loop hyp ℓ ih k hk ((L + 1) * (2 * H + 2)) ⟨_, c.matchCount, c.hostnames, [], true⟩ q _
      (hat.good hg) hq hbound.2 (fun _ h => nomatch h)
      (loopMeasure_fresh (Nat.le_trans (Nat.sub_le _ _) hq) hbound.1)

/-- `okRec` starts with the three guards of `resolveRec`, each ending the call. -/
theorem threeGuards {α : Type} {P : α → Prop} {c1 c2 c3 : Prop} [Decidable c1] [Decidable c2] [Decidable c3]
    {a b c d : α} (ha : P a) (hb : P b) (hc : P c) (hd : ¬c1 → ¬c2 → ¬c3 → P d) :
    P (if c1 then a else if c2 then b else if c3 then c else d) := by
  by_cases h1 : c1
  · rw [if_pos h1]; exact ha
  by_cases h2 : c2
  · rw [if_neg h1, if_pos h2]; exact hb
  by_cases h3 : c3
  · rw [if_neg h1, if_neg h2, if_pos h3]; exact hc
  rw [if_neg h1, if_neg h2, if_neg h3]; exact hd h1 h2 h3

theorem fb_levels (hyp : fb_Hyp cfg H L st0) : ∀ ℓ, fb_RecOK cfg H L st0 ℓ := by
  intro ℓ
  induction ℓ with
  | zero =>
    intro st q n hat _ _
    rw [okRec_succ]
    exact threeGuards (P := (· = true)) rfl rfl rfl fun _ hl _ => absurd (Ctx.atRecursionLimit_iff.mpr hat.2) hl
  | succ ℓ ih =>
    intro st q n hat hq hn
    rw [Nat.succ_mul] at hn
    obtain ⟨k, rfl⟩ := Nat.exists_eq_add_of_le' (Nat.le_trans (Nat.le_add_left _ _) hn)
    have hk : ℓ * fb_perLevel H L ≤ k := Nat.le_of_add_le_add_right hn
    rw [okRec_succ]
    refine threeGuards (P := (· = true)) rfl rfl rfl fun ht hl hd => ?_
    have hat2 := hat.push q (eq_false_of_ne_true ht) hl hd
    have hb := hyp.loc st hat.1 q
    split
    · rfl
    · rename_i rrs cq heq
      rw [heq] at hb
      have hfuel : k + fb_perLevel H L = (k + (L + 1) * (2 * H + 2) + 2) + 1 := rfl
      rw [hfuel, okComb]
      exact ih _ _ _ hat2 hb (Nat.le_trans hk (Nat.le_add_right k ((L + 1) * (2 * H + 2) + 1)))
    · exact fb_upstream hyp ℓ ih hk hat2 hq hb

theorem fb_okRec (hyp : fb_Hyp cfg H L st0) (st : St) (q : Question) (n : Nat)
    (hr : Reach cfg.net st0 st) (hs : st.ctx.stack.length ≤ RECURSION_LIMIT)
    (hq : q.name.labels.length ≤ L) (hn : FUEL_BOUND H L ≤ n) : okRec cfg n st q = true := by
  obtain ⟨k, rfl⟩ := Nat.exists_eq_add_of_le' hn
  exact fb_levels hyp (RECURSION_LIMIT - st.ctx.stack.length) st q (k + RECURSION_LIMIT * fb_perLevel H L)
    ⟨hr, Nat.add_sub_cancel' hs⟩ hq
    (Nat.le_trans (Nat.mul_le_mul_right _ (Nat.sub_le _ _)) (Nat.le_add_left _ _))

end

/-! # Part 2: the local-lookup bound from a syntactic invariant on zones, cache and oracle -/

/-! ## Names inside RDATA -/

def fb_fieldOK (L : Nat) : FieldVal → Bool
  | .name t => decide (t.labels.length ≤ L)
  | _ => true

def fb_fieldsOK (L : Nat) (fs : List FieldVal) : Bool := fs.all (fb_fieldOK L)

theorem fb_fieldsOK_single {L : Nat} {t : Name} (h : fb_fieldsOK L [.name t] = true) : t.labels.length ≤ L := by
  simpa [fb_fieldsOK, fb_fieldOK] using h

theorem fb_nsTarget_len {L : Nat} {rr : RR} {t : Name} (hf : fb_fieldsOK L rr.fields = true)
    (h : nsTarget rr = some t) : t.labels.length ≤ L :=
  fb_fieldsOK_single ((nsTarget_eq_some_iff.mp h).2 ▸ hf)

theorem fb_cnameTarget_len {L : Nat} {rr : RR} {t : Name} (hf : fb_fieldsOK L rr.fields = true)
    (h : cnameTarget rr = some t) : t.labels.length ≤ L :=
  fb_fieldsOK_single ((cnameTarget_eq_some_iff.mp h).2 ▸ hf)

theorem nsTarget_none_of_cname {rr : RR} (h : rr.rtype = RT_CNAME) : nsTarget rr = none := by
  cases hn : nsTarget rr with
  | none => rfl
  | some t => exact absurd ((nsTarget_eq_some_iff.mp hn).1.symm.trans h) (by decide)

def fb_rrsOK (L : Nat) (rrs : List RR) : Prop := ∀ rr ∈ rrs, fb_fieldsOK L rr.fields = true

def fb_nsCount (rrs : List RR) : Nat := (rrs.filterMap nsTarget).length

theorem fb_nsCount_le_length (rrs : List RR) : fb_nsCount rrs ≤ rrs.length :=
  List.length_filterMap_le _ _

theorem fb_nsCount_append (a b : List RR) : fb_nsCount (a ++ b) = fb_nsCount a + fb_nsCount b := by
  simp [fb_nsCount, List.filterMap_append]

theorem fb_nsCount_filter (p : RR → Bool) (rrs : List RR) : fb_nsCount (rrs.filter p) ≤ fb_nsCount rrs :=
  (List.Sublist.filterMap nsTarget List.filter_sublist).length_le

theorem fb_rrsOK_nil (L : Nat) : fb_rrsOK L [] := by intro r hr; cases hr

theorem fb_nsTargets_len {L : Nat} {rrs : List RR} (h : fb_rrsOK L rrs) :
    ∀ t ∈ rrs.filterMap nsTarget, t.labels.length ≤ L := by
  intro t ht
  obtain ⟨rr, hrr, hn⟩ := List.mem_filterMap.mp ht
  exact fb_nsTarget_len (h rr hrr) hn

/-! ## Zones: a checkable condition -/

/-- a record map is keyed consistently, its RDATA names have ≤ `L` labels, and its NS set has at
    most `H` records. -/
def fb_recMapOK (H L : Nat) (m : RecMap) : Bool :=
  m.all (fun kv => kv.2.all (fun zr => zr.rtype == kv.1 && fb_fieldsOK L zr.fields) &&
    (kv.1 != RT_NS || decide (kv.2.length ≤ H)))

theorem fb_recMapOK_mem {H L : Nat} {m : RecMap} (h : fb_recMapOK H L m = true) {k : Nat} {zrs : List ZoneRecord}
    (hm : (k, zrs) ∈ m) :
    (∀ zr ∈ zrs, zr.rtype = k ∧ fb_fieldsOK L zr.fields = true) ∧ (k = RT_NS → zrs.length ≤ H) := by
  unfold fb_recMapOK at h
  have := List.all_eq_true.mp h (k, zrs) hm
  simp only [Bool.and_eq_true, List.all_eq_true, beq_iff_eq, Bool.or_eq_true, bne_iff_ne, ne_eq,
    decide_eq_true_eq] at this
  refine ⟨fun zr hzr => this.1 zr hzr, fun hk => ?_⟩
  rcases this.2 with h1 | h1
  · exact absurd hk h1
  · exact h1

theorem fb_recMapOK_get {H L : Nat} {m : RecMap} (h : fb_recMapOK H L m = true) {k : Nat} {zrs : List ZoneRecord}
    (hg : m.get k = some zrs) :
    (∀ zr ∈ zrs, zr.rtype = k ∧ fb_fieldsOK L zr.fields = true) ∧ (k = RT_NS → zrs.length ≤ H) :=
  fb_recMapOK_mem h (RecMap.get_mem hg)

def fb_zonesOK (H L : Nat) (zs : Zones) : Bool :=
  zs.zones.all (fun kz => fb_nodeAll (fb_recMapOK H L) kz.2.records)

theorem fb_zonesOK_get {H L : Nat} {zs : Zones} (h : fb_zonesOK H L zs = true) {name : Name} {z : Zone}
    (hg : zs.get name = some z) : fb_nodeAll (fb_recMapOK H L) z.records = true := by
  obtain ⟨k, hl⟩ := Zones.get_mem hg
  exact List.all_eq_true.mp h (k, z) (Zones.lookup_mem hl)

structure fb_ZrOK (H L : Nat) (qtype : Nat) (zr : ZoneResult) : Prop where
  answer : ∀ rrs, zr = .answer rrs → fb_rrsOK L rrs ∧ (qtype = RT_NS → rrs.length ≤ H)
  cname : ∀ c rr, zr = .cname c rr →
    c.labels.length ≤ L ∧ fb_fieldsOK L rr.fields = true ∧ rr.rtype = RT_CNAME
  delegation : ∀ rrs, zr = .delegation rrs → fb_rrsOK L rrs ∧ rrs.length ≤ H

theorem fb_nsSet_ok {H L : Nat} {m : RecMap} (h : fb_recMapOK H L m = true) {zrs : List ZoneRecord}
    (hg : m.get RT_NS = some zrs) (owner : Name) :
    fb_rrsOK L (zrs.map (·.toRR owner)) ∧ (zrs.map (·.toRR owner)).length ≤ H := by
  refine ⟨fun rr hrr => ?_, ?_⟩
  · obtain ⟨zr, hzr, rfl⟩ := List.mem_map.mp hrr
    exact ((fb_recMapOK_get h hg).1 zr hzr).2
  · rw [List.length_map]
    exact (fb_recMapOK_get h hg).2 rfl

theorem fb_zones_resolve_ok {H L : Nat} {zs : Zones} (hz : fb_zonesOK H L zs = true) {name : Name} {qtype : Nat}
    {z : Zone} {zr : ZoneResult} (h : zs.resolve name qtype = some (z, some zr)) : fb_ZrOK H L qtype zr := by
  obtain ⟨hg, recs, nsd, hs, hv⟩ := Zones.resolve_from h
  have hm : fb_recMapOK H L recs = true :=
    fb_nodeAll_stores (fb_zonesOK_get hz hg) recs hs
  refine ⟨fun rrs ha => ⟨fun rr hrr => ?_, fun hq => ?_⟩, fun c rr h => ?_, fun rrs h => ?_⟩
  · obtain ⟨k, zrs, z0, hk, hz0, he, _⟩ := hv.answer rrs ha rr hrr
    rw [he]; exact ((fb_recMapOK_mem hm hk).1 z0 hz0).2
  · -- an NS question is answered with the whole NS set, whose size the checker bounds
    subst hq
    by_cases hne : rrs = []
    · rw [hne]; exact Nat.zero_le _
    · obtain ⟨zrs, hg, rfl⟩ := hv.answerTyped rrs ha (by decide) hne
      rw [List.length_map]
      exact (fb_recMapOK_get hm hg).2 rfl
  · obtain ⟨z0, zs0, hg, hf, he, _⟩ := hv.cname c rr h
    obtain ⟨h1, h2⟩ := (fb_recMapOK_get hm hg).1 z0 List.mem_cons_self
    subst he
    exact ⟨fb_fieldsOK_single (hf ▸ h2), h2, h1⟩
  · obtain ⟨z0, zs0, hg, rfl⟩ := hv.delegation rrs h
    exact fb_nsSet_ok hm hg nsd

/-! ## Cache: the invariant -/

/-- `fb_CacheOK L U c` unfolds to `Inv c ∧ Stored (fb_TupleOK L U) c`. -/
def fb_TupleOK (L : Nat) (U : Name → List CRec) (k : Name) (rk : Nat) (t : CRec × Nat) : Prop :=
  fb_fieldsOK L t.1.fields = true ∧ (rk = RT_NS → t.1 ∈ U k)

/-- `U k`: a finite universe for the NS data stored under owner `k`.  A universe and not a count: the cache merges
    the NS sets different replies give for one owner, so a count is not kept by insertion, membership in a given
    set is. -/
def fb_CacheOK (L : Nat) (U : Name → List CRec) (c : PCache) : Prop :=
  Inv c ∧ ∀ k rk t, t ∈ tuplesAt c k rk → fb_fieldsOK L t.1.fields = true ∧ (rk = RT_NS → t.1 ∈ U k)

/-- a record that may enter the cache. -/
def fb_rrOK (L : Nat) (U : Name → List CRec) (rr : RR) : Prop :=
  fb_fieldsOK L rr.fields = true ∧ (rr.rtype = RT_NS → (⟨rr.rtype, rr.fields⟩ : CRec) ∈ U rr.name)

theorem fb_cacheOK_new (L : Nat) (U : Name → List CRec) (d : Nat) : fb_CacheOK L U (PCache.new d) :=
  ⟨Inv.new d, Stored.new _ d⟩

theorem fb_cacheGet_ok {H L : Nat} {U : Name → List CRec} {c : PCache} (h : fb_CacheOK L U c)
    (hU : ∀ k, (U k).length ≤ H) (name : Name) (qtype now : Nat) :
    fb_rrsOK L (cacheGet c name qtype now).2 ∧
    (qtype = RT_NS → fb_nsCount (cacheGet c name qtype now).2 ≤ H) := by
  refine ⟨fun rr hrr => ?_, ?_⟩
  · obtain ⟨rk, t, _, _, hP, _, rfl⟩ := Stored.mem_cacheGet (P := fb_TupleOK L U) h.2 h.1 hrr
    exact hP.1
  · intro hq
    subst hq
    rw [cacheGet_snd, hits_typed lookupNat_qt_RT_NS]
    refine Nat.le_trans (fb_nsCount_le_length _) ?_
    rw [List.length_map]
    exact Nat.le_trans (List.length_filter_le _ _)
      (Nat.le_trans (h.1.tuplesAt_length_le fun t ht => (h.2 name RT_NS t ht).2 rfl) (hU name))

theorem fb_sharedInsertAll_ok {L : Nat} {U : Name → List CRec} (rrs : List RR) (now : Nat) :
    ∀ {c : PCache}, fb_CacheOK L U c → (∀ rr ∈ rrs, fb_rrOK L U rr) → fb_CacheOK L U (sharedInsertAll c rrs now) :=
  fun h hrrs => ⟨h.1.sharedInsertAll rrs now,
    Stored.sharedInsertAll (P := fb_TupleOK L U) h.2 fun rr hr _ => hrrs rr hr⟩

/-! ## The local resolver keeps the invariant and hands back bounded results -/

def fb_CtxOK (H L : Nat) (U : Name → List CRec) (ctx : Ctx) : Prop :=
  fb_zonesOK H L ctx.zones = true ∧ fb_CacheOK L U ctx.cache

/-- a local result within the bounds; stronger than `fb_LocalBounded` (it also bounds the records), so that it goes
    through the alias wrapper and the merge of the final stage. -/
def fb_ResOK (H L : Nat) (q : Question) : Except ResolutionError LocalResult → Prop
  | .ok (.done r) => fb_rrsOK L r.rrs ∧ (q.qtype = RT_NS → fb_nsCount r.rrs ≤ H)
  | .ok (.partialAnswer rrs) => fb_rrsOK L rrs ∧ (q.qtype = RT_NS → fb_nsCount rrs ≤ H)
  | .ok (.cname _ cq) => cq.name.labels.length ≤ L
  | .ok (.delegation _ _ d) => d.hostnames.length ≤ H ∧ ∀ h ∈ d.hostnames, h.labels.length ≤ L
  | .error _ => True

theorem fb_ResOK_localBounded {H L : Nat} {q : Question} {r : Except ResolutionError LocalResult}
    (h : fb_ResOK H L q r) : fb_LocalBounded H L q r := by
  cases r with
  | error e => trivial
  | ok lr =>
    cases lr with
    | done res =>
      intro hq
      exact ⟨h.2 hq, fb_nsTargets_len h.1⟩
    | partialAnswer rrs => trivial
    | cname rrs cq => exact h
    | delegation rrs soa d => exact h

section

variable {H L : Nat} {U : Name → List CRec}

theorem fb_CtxOK.looked {a b : Ctx} (hl : a.Looked b) (h : fb_CtxOK H L U b) : fb_CtxOK H L U a :=
  ⟨hl.zones ▸ h.1, hl.touches.inv h.2.1, Stored.touches (P := fb_TupleOK L U) h.2.2 hl.touches⟩

theorem fb_prepend_alias {rr : RR} {rrs : List RR} {qt qt' : Nat} (hrr : fb_fieldsOK L rr.fields = true)
    (hns : nsTarget rr = none) (hqt : qt' = qt) (h : fb_rrsOK L rrs ∧ (qt' = RT_NS → fb_nsCount rrs ≤ H)) :
    fb_rrsOK L ([rr] ++ rrs) ∧ (qt = RT_NS → fb_nsCount ([rr] ++ rrs) ≤ H) :=
  ⟨fun r hr => (List.mem_cons.mp hr).elim (fun e => e ▸ hrr) (h.1 r), fun hq => by
    have e : fb_nsCount ([rr] ++ rrs) = fb_nsCount rrs := by simp [fb_nsCount, hns]
    rw [e]; exact h.2 (hqt.trans hq)⟩

theorem fb_zoneCnameAnswer_ok {rr : RR} {cq q : Question} {sub : Except ResolutionError LocalResult}
    (hrr : fb_fieldsOK L rr.fields = true) (hrt : rr.rtype = RT_CNAME) (hcq : cq.name.labels.length ≤ L)
    (hqt : cq.qtype = q.qtype) (hsub : fb_ResOK H L cq sub) :
    fb_ResOK H L q (.ok (zoneCnameAnswer rr cq sub)) := by
  have hns := nsTarget_none_of_cname hrt
  apply zoneCnameAnswer_cases (motive := fun w => fb_ResOK H L q (.ok w))
  case cname => intro _ _ hs; subst hs; exact hsub
  case stuck => exact fun _ => hcq
  all_goals intros; rename_i hs; subst hs; exact fb_prepend_alias hrr hns hqt hsub

/-- of the value of `cachePart`. -/
def fb_CpOK (H L : Nat) (q : Question) : Except ResolutionError (List RR × Option Name) → Prop
  | .error _ => True
  | .ok (rc, none) => fb_rrsOK L rc ∧ (q.qtype = RT_NS → fb_nsCount rc ≤ H)
  | .ok (_, some c) => c.labels.length ≤ L

theorem fb_ResOK.finishOk {q : Question} {rz : List RR} (hrz : fb_rrsOK L rz) (hrz0 : q.qtype ≠ QTYPE_WILDCARD → rz = [])
    {rc : List RR} {fc : Option Name} (hcp : fb_CpOK H L q (.ok (rc, fc))) :
    fb_ResOK H L q (.ok (finishOk q (prioritisingMerge rz rc) fc)) := by
  cases fc with
  | some cn => exact hcp
  | none =>
    have : fb_rrsOK L (prioritisingMerge rz rc) ∧ (q.qtype = RT_NS → fb_nsCount (prioritisingMerge rz rc) ≤ H) :=
      ⟨fun rr hrr => (mem_prioritisingMerge hrr).elim (hrz rr) (hcp.1 rr), fun hq => by
        rw [hrz0 (by rw [hq]; decide)]; exact Nat.le_trans (fb_nsCount_filter _ _) (hcp.2 hq)⟩
    show fb_ResOK H L q (.ok (if _ then _ else _))
    split <;> exact this

theorem fb_ResOK.flat {q : Question} {w : LocalResult} (h : fb_ResOK H L q (.ok w))
    (hnd : ∀ rs o d, w ≠ .delegation rs o d) : fb_CpOK H L q (.ok w.flat) := by
  cases w with
  | delegation rs o d => exact absurd rfl (hnd rs o d)
  | _ => exact h

/-- the zones' verdicts are bounded by `fb_zones_resolve_ok`; of the cache only what it answers matters. -/
theorem fb_ResOK.of_walk {zs : Zones} {get : Name → Nat → List RR} (hzs : fb_zonesOK H L zs = true)
    (hget : ∀ n t, fb_rrsOK L (get n t) ∧ (t = RT_NS → fb_nsCount (get n t) ≤ H))
    {s : List Question} {q : Question} {r : LocalResult} (h : LocalWalk zs get s q r) : fb_ResOK H L q (.ok r) := by
  have hans : ∀ {q : Question} {zone rrs}, zs.resolve q.name q.qtype = some (zone, some (.answer rrs)) →
      fb_rrsOK L rrs ∧ (q.qtype = RT_NS → fb_nsCount rrs ≤ H) := fun h =>
    ⟨((fb_zones_resolve_ok hzs h).answer _ rfl).1, fun hq =>
      Nat.le_trans (fb_nsCount_le_length _) (((fb_zones_resolve_ok hzs h).answer _ rfl).2 hq)⟩
  have hfalls : ∀ {q rz}, ZoneFalls zs q rz → fb_rrsOK L rz ∧ (q.qtype ≠ QTYPE_WILDCARD → rz = []) := fun hf =>
    ⟨by rcases hf.contribution with h | ⟨_, _, _, hz⟩
        · rw [h]; exact fb_rrsOK_nil L
        · exact (hans hz).1, hf.nil_of_ne_any⟩
  have sub : ∀ {cq : Question} {sub : Except ResolutionError LocalResult},
      (∀ r', sub = .ok r' → fb_ResOK H L cq (.ok r')) → fb_ResOK H L cq sub := fun {cq sub} ih => by
    cases sub with
    | error => trivial
    | ok r' => exact ih r' rfl
  induction h with
  | answerAuth _ _ hz => exact hans hz
  | answerNonauth _ _ hz => exact hans hz
  | nameError => exact ⟨fb_rrsOK_nil L, fun _ => Nat.zero_le _⟩
  | referral _ _ hz =>
    obtain ⟨h1, h2⟩ := (fb_zones_resolve_ok hzs hz).delegation _ rfl
    exact ⟨Nat.le_trans (List.length_filterMap_le _ _) h2, fb_nsTargets_len h1⟩
  | zoneAlias _ _ hz _ hr ih =>
    obtain ⟨h1, h2, h3⟩ := (fb_zones_resolve_ok hzs hz).cname _ _ rfl
    exact hr ▸ fb_zoneCnameAnswer_ok h2 h3 h1 rfl (sub ih)
  | cacheAnswer _ _ hf _ _ hr => exact hr ▸ fb_ResOK.finishOk (hfalls hf).1 (hfalls hf).2 (hget _ _)
  | cacheAlias _ _ hf _ _ hc ht _ hw hr ih =>
    have hrr := (hget _ _).1 _ (hc ▸ List.mem_cons_self)
    refine hr ▸ fb_ResOK.finishOk (hfalls hf).1 (hfalls hf).2
      (fb_ResOK.flat (hw ▸ ?_) (hw ▸ zoneCnameAnswer_ne_delegation _ _ _))
    exact fb_zoneCnameAnswer_ok hrr (cnameTarget_eq_some_iff.mp ht).1 (fb_cnameTarget_len hrr ht) rfl (sub ih)

theorem fb_resolveLocal_ok (hU : ∀ k, (U k).length ≤ H) (fuel : Nat) (ctx : Ctx) (q : Question)
    (h : fb_CtxOK H L U ctx) : fb_ResOK H L q (resolveLocal fuel ctx q).2 := by
  cases hr : (resolveLocal fuel ctx q).2 with
  | error => trivial
  | ok r => exact .of_walk h.1 (fun n t => fb_cacheGet_ok h.2 hU n t ctx.now) (resolveLocal_walk hr)

end

/-! ## The oracle and the states the machine can reach -/

def fb_OracleOK (L : Nat) (U : Name → List CRec) (oracle : Oracle) : Prop :=
  ∀ ex m, (oracle ex).reply = some m → ∀ rr ∈ m.allRrs, fb_rrOK L U rr

theorem fb_oracleOK_names {L : Nat} {U : Name → List CRec} {oracle : Oracle} (h : fb_OracleOK L U oracle) :
    fb_OracleNames oracle L := by
  intro ex m hm rr hrr t ht
  have hf := (h ex m hm rr (Message.mem_allRrs.mpr (or_assoc.mp (.inl (List.mem_append.mp hrr))))).1
  rcases ht with ht | ht
  · exact fb_nsTarget_len hf ht
  · exact fb_cnameTarget_len hf ht

theorem fb_reach_ctxOK {H L : Nat} {U : Name → List CRec} {n : Net}
    (ho : fb_OracleOK L U n.oracle) {a b : St} (h : Reach n a b) :
    fb_CtxOK H L U a.ctx → fb_CtxOK H L U b.ctx := by
  induction h with
  | refl => exact id
  | trans _ _ ih1 ih2 => exact fun h => ih2 (ih1 h)
  | loc st fuel q => exact fb_CtxOK.looked (resolveLocal_looked fuel st.ctx q)
  | push | pop | query => exact id
  | cache st rrs hsrc =>
    intro h
    refine ⟨h.1, fb_sharedInsertAll_ok rrs st.ctx.now h.2 ?_⟩
    intro rr hrr
    obtain ⟨ex, _, m, hm, hin⟩ := hsrc rr hrr
    exact ho ex m hm rr hin

theorem fb_hyp_of_invariant {cfg : RecCfg} {H L : Nat} {U : Name → List CRec} {st0 : St}
    (hlen : ∀ hs, fb_Referral cfg.oracle hs → (cfg.hostOrder hs).length ≤ H)
    (hsub : ∀ hs h, h ∈ cfg.hostOrder hs → h ∈ hs)
    (hU : ∀ k, (U k).length ≤ H) (ho : fb_OracleOK L U cfg.oracle) (h0 : fb_CtxOK H L U st0.ctx) :
    fb_Hyp cfg H L st0 where
  hostLen := hlen
  hostSub := hsub
  oracle := fb_oracleOK_names ho
  loc := fun st hr q =>
    fb_ResOK_localBounded (fb_resolveLocal_ok hU _ st.ctx q (fb_reach_ctxOK (n := cfg.net) ho hr h0))

end Resolved
