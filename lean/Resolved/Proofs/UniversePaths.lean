/-
  C07 over consistent universes: the records of a universe (NS records, `uniGlue`); delegation paths and what zones
  say at their ends, the clauses of one referral step as `Refers` (`DelegPath` as the instance of `DelegPathM` with
  single-record NS sets); answers of typed zones are well-formed (`uni_zoneSaysWF_of_typed`);
  `Consistent` universes (a path exists for every question; the decidable check); the root hints zone as `Zone::insert`
  builds it, for arbitrary names (`uni_hints_resolve`); the canonical oracles (`uniCfg`, glue for every host named;
  `uniCfgB`, in-bailiwick glue only).
-/
import Resolved.Spec.UniverseSpec
import Resolved.Proofs.ResolverLocalSources
import Resolved.Proofs.ZoneTree
import Resolved.Proofs.UpstreamLemmas

namespace Resolved

open Gen

set_option autoImplicit false

/-! ## The records of a universe -/

theorem uni_nsTarget_nsRR (C : UEntry) (ttl : Nat) : nsTarget (C.nsRR ttl) = some C.host :=
  nsTarget_eq_some_iff.mpr ⟨rfl, rfl⟩

theorem uni_mem_glueRRs {E : UEntry} {g : RR} :
    g ∈ E.glueRRs ↔ g = E.glueRR ∨ ∃ g6, E.addr6 = some g6 ∧ g = E.glue6RR g6 := by
  unfold UEntry.glueRRs
  cases h6 : E.addr6 with
  | none => simp
  | some g6 => simp

theorem uni_mem_uniGlue {U : Universe} {nsRrs : List RR} {g : RR} :
    g ∈ uniGlue U nsRrs ↔ ∃ E ∈ U, E.host ∈ nsRrs.filterMap nsTarget ∧ g ∈ E.glueRRs := by
  unfold uniGlue
  simp only [List.mem_flatMap, List.mem_filter, List.contains_iff_mem]
  constructor
  · rintro ⟨E, ⟨hE, hh⟩, hg⟩; exact ⟨E, hE, hh, hg⟩
  · rintro ⟨E, hE, hh, hg⟩; exact ⟨E, ⟨hE, hh⟩, hg⟩

theorem glueRR_mem_uniGlue {U : Universe} {sibs : List UEntry} {nsRrs : List RR} (hsibs : ∀ D ∈ sibs, D ∈ U)
    (hall : ∀ D ∈ sibs, ∃ rr ∈ nsRrs, rr = D.nsRR rr.ttl) : ∀ D ∈ sibs, D.glueRR ∈ uniGlue U nsRrs := by
  intro D hD
  obtain ⟨rr, hr, he⟩ := hall D hD
  exact uni_mem_uniGlue.mpr ⟨D, hsibs D hD, List.mem_filterMap.mpr ⟨rr, hr, by rw [he]; exact uni_nsTarget_nsRR D rr.ttl⟩,
    uni_mem_glueRRs.mpr (Or.inl rfl)⟩

/-! ## Delegation paths and what the zones at their ends say -/

theorem uni_resolve_sub {z : Zone} {name : Name} {qtype : Nat} (h : (z.resolve name qtype).isSome = true) :
    name.isSubdomainOf z.apex = true :=
  (Zone.resolve_isSome z name qtype).symm.trans h

theorem path_mem_universe {U : Universe} {q : Question} {Y Z : UEntry} {rest : List UEntry}
    (hp : DelegPath U q Y rest Z) : Y ∈ U ∧ ∀ C ∈ rest, C ∈ U := by
  induction hp with
  | here Z hZ => exact ⟨hZ, by simp⟩
  | down Y C Z rest ttl hY hC _ _ _ _ ih =>
    refine ⟨hY, ?_⟩
    intro D hD
    rcases List.mem_cons.mp hD with rfl | hD
    · exact hC
    · exact ih.2 D hD

theorem path_end_mem_servers {U : Universe} {q : Question} {Y Z : UEntry} {rest : List UEntry}
    (hp : DelegPath U q Y rest Z) : Z ∈ Y :: rest := by
  induction hp with
  | here _ _ => exact List.mem_cons_self
  | down _ _ _ _ _ _ _ _ _ _ _ ih => exact List.mem_cons_of_mem _ ih

theorem path_end_mem_universe {U : Universe} {q : Question} {Y Z : UEntry} {rest : List UEntry}
    (hp : DelegPath U q Y rest Z) : Z ∈ U :=
  (List.mem_cons.mp (path_end_mem_servers hp)).elim (fun h => h ▸ (path_mem_universe hp).1) ((path_mem_universe hp).2 Z)

theorem expectedAt_eq_some {Z : UEntry} {q : Question} {res : ResolvedRecord} :
    expectedAt Z q = some res ↔ ∃ soa, Z.zone.soaRR = some soa ∧
      ((∃ rrs, Z.zone.resolve q.name q.qtype = some (.answer rrs) ∧ rrs ≠ [] ∧ res = .nonAuthoritative rrs none) ∨
       ((Z.zone.resolve q.name q.qtype = some (.answer []) ∨ Z.zone.resolve q.name q.qtype = some .nameError) ∧
        res = .nonAuthoritative [] (some soa))) := by
  unfold expectedAt
  constructor
  · intro h
    split at h
    · rename_i rrs soa hres hsoa
      split at h
      · rename_i hemp
        cases h
        exact ⟨soa, hsoa, Or.inr ⟨Or.inl (by rw [hres, List.isEmpty_iff.mp hemp]), rfl⟩⟩
      · rename_i hemp
        cases h
        exact ⟨soa, hsoa, Or.inl ⟨rrs, hres, fun he => hemp (by rw [he]; rfl), rfl⟩⟩
    · rename_i soa hres hsoa
      cases h
      exact ⟨soa, hsoa, Or.inr ⟨Or.inr hres, rfl⟩⟩
    · cases h
  · rintro ⟨soa, hsoa, ⟨rrs, hres, hne, rfl⟩ | ⟨hres | hres, rfl⟩⟩
    · rw [hres, hsoa]
      cases rrs with
      | nil => exact absurd rfl hne
      | cons _ _ => rfl
    · rw [hres, hsoa]
      rfl
    · rw [hres, hsoa]

theorem expectedAt_isSome {Z : UEntry} {q : Question} {res : ResolvedRecord} (h : expectedAt Z q = some res) :
    (Z.zone.resolve q.name q.qtype).isSome = true := by
  obtain ⟨_, _, ⟨_, hres, _⟩ | ⟨hres | hres, _⟩⟩ := expectedAt_eq_some.mp h <;> rw [hres] <;> rfl

theorem expectedAt_nondeleg {Z : UEntry} {q : Question} {res : ResolvedRecord} (h : expectedAt Z q = some res) :
    ∀ ns, Z.zone.resolve q.name q.qtype ≠ some (.delegation ns) := by
  intro ns hns
  obtain ⟨_, _, ⟨_, hres, _⟩ | ⟨hres | hres, _⟩⟩ := expectedAt_eq_some.mp h <;> rw [hres] at hns <;> cases hns

theorem expectedAt_answer {Z : UEntry} {q : Question} {rrs : List RR} {soa : RR}
    (hres : Z.zone.resolve q.name q.qtype = some (.answer rrs)) (hne : rrs ≠ []) (hsoa : Z.zone.soaRR = some soa) :
    expectedAt Z q = some (.nonAuthoritative rrs none) :=
  expectedAt_eq_some.mpr ⟨soa, hsoa, Or.inl ⟨rrs, hres, hne, rfl⟩⟩

theorem expectedAt_empty (Z : UEntry) (q : Question) (soa : RR)
    (h1 : Z.zone.resolve q.name q.qtype = some (.answer []) ∨ Z.zone.resolve q.name q.qtype = some .nameError)
    (h2 : Z.zone.soaRR = some soa) : expectedAt Z q = some (.nonAuthoritative [] (some soa)) :=
  expectedAt_eq_some.mpr ⟨soa, h2, Or.inr ⟨h1, rfl⟩⟩

theorem expectedAt_rrs {Z : UEntry} {q : Question} {res : ResolvedRecord} (hexp : expectedAt Z q = some res)
    (hsays : ZoneSaysWF Z.zone q) : ∀ rr ∈ res.rrs, rr.name = q.name ∧ rr.rtype = q.qtype := by
  obtain ⟨_, _, ⟨rrs, hres, _, rfl⟩ | ⟨_, rfl⟩⟩ := expectedAt_eq_some.mp hexp
  · exact fun rr hrr => ⟨(hsays.1 rrs hres rr hrr).1, (hsays.1 rrs hres rr hrr).2.1⟩
  · exact fun rr hrr => nomatch hrr

theorem expectedAt_ne_nil {Z : UEntry} {q : Question} {rrs : List RR}
    (hexp : expectedAt Z q = some (.nonAuthoritative rrs none)) : rrs ≠ [] := by
  obtain ⟨_, _, ⟨rrs', _, hne, he⟩ | ⟨_, he⟩⟩ := expectedAt_eq_some.mp hexp
  · cases he; exact hne
  · cases he

/-! ### Depth, length and time of a path -/

theorem path_strictly_deeper {U : Universe} {q : Question} {Y Z : UEntry} {rest : List UEntry}
    (hp : DelegPath U q Y rest Z) (hz : (Z.zone.resolve q.name q.qtype).isSome = true) :
    List.Pairwise (fun (A B : UEntry) => A.apex.labels.length < B.apex.labels.length) (Y :: rest) ∧
    ∀ E ∈ Y :: rest, q.name.isSubdomainOf E.apex = true := by
  induction hp with
  | here Z _ => exact ⟨by simp, by intro E hE; simp at hE; subst hE; exact uni_resolve_sub hz⟩
  | down Y C Z rest ttl hY hC hres _ hd hpath ih =>
    obtain ⟨ih1, ih2⟩ := ih hz
    constructor
    · rw [List.pairwise_cons]
      refine ⟨?_, ih1⟩
      intro B hB
      rcases List.mem_cons.mp hB with rfl | hB
      · exact hd
      · exact Nat.lt_trans hd ((List.pairwise_cons.mp ih1).1 B hB)
    · intro E hE
      rcases List.mem_cons.mp hE with rfl | hE
      · exact uni_resolve_sub (by rw [hres]; rfl)
      · exact ih2 E hE

theorem path_sub {U : Universe} {q : Question} {Y Z : UEntry} {rest : List UEntry}
    (hp : DelegPath U q Y rest Z) (hz : (Z.zone.resolve q.name q.qtype).isSome = true) :
    q.name.isSubdomainOf Y.apex = true :=
  (path_strictly_deeper hp hz).2 Y List.mem_cons_self

theorem path_length_le {U : Universe} {q : Question} {Y Z : UEntry} {rest : List UEntry}
    (hp : DelegPath U q Y rest Z) (hz : (Z.zone.resolve q.name q.qtype).isSome = true) :
    rest.length + Y.apex.labels.length ≤ q.name.labels.length := by
  induction hp with
  | here Z _ =>
    have := uni_resolve_sub hz
    have := (Name.isSubdomainOf_iff.mp this).length_le
    simp only [List.length_nil, Nat.zero_add]; exact this
  | down Y C Z rest ttl _ _ _ _ hd _ ih =>
    have := ih hz
    simp only [List.length_cons]
    omega

theorem uni_totalDelay_cons (E : UEntry) (es : List UEntry) : totalDelay (E :: es) = E.delayMs + totalDelay es := by
  simp [totalDelay]

theorem uni_totalDelay_le (es : List UEntry) (D : Nat) (h : ∀ E ∈ es, E.delayMs ≤ D) :
    totalDelay es ≤ D * es.length := by
  induction es with
  | nil => simp [totalDelay]
  | cons E es ih =>
    rw [uni_totalDelay_cons, List.length_cons, Nat.mul_succ]
    have := h E List.mem_cons_self
    have := ih (fun F hF => h F (List.mem_cons_of_mem _ hF))
    omega

theorem uni_start_of_all {U : Universe} {zs : Zones} {q : Question} {R Z : UEntry} {D : Nat} {rest : List UEntry}
    (hs : UniStartAll U zs q R D) (hp : DelegPath U q R rest Z)
    (hz : (Z.zone.resolve q.name q.qtype).isSome = true) : UniStart zs q R rest := by
  have hlen := path_length_le hp hz
  have hdeep := (List.pairwise_cons.mp (path_strictly_deeper hp hz).1).1
  have hmem := path_mem_universe hp
  have hr1 : R.apex.labels.length = 1 := by rw [hs.root]; rfl
  have hne : ∀ C ∈ rest, C.apex.labels.length ≠ 1 := by
    intro C hC; have := hdeep C hC; omega
  refine ⟨hs.root, hs.hints, hs.qmiss, hs.cand, ?_, ?_, ?_, ?_⟩
  · intro C hC; exact hs.hostsMiss C (hmem.2 C hC) (hne C hC)
  · intro h1 C hC; exact hs.notHost h1 C (hmem.2 C hC) (hne C hC)
  · have h1 := uni_totalDelay_le (R :: rest) D (by
      intro E hE
      rcases List.mem_cons.mp hE with rfl | hE
      · exact hs.delay _ hmem.1
      · exact hs.delay E (hmem.2 E hE))
    have h2 : (R :: rest).length ≤ q.name.labels.length := by
      simp only [List.length_cons]; omega
    have h3 : D * (R :: rest).length ≤ D * q.name.labels.length := Nat.mul_le_mul_left D h2
    have := hs.time
    omega
  · have := hs.fuel; omega

theorem pathM_sub {U : Universe} {order : List Name → List Name} {q : Question} {Y Z : UEntry}
    {rest vis : List UEntry} (hp : DelegPathM U order q Y rest vis Z)
    (hz : (Z.zone.resolve q.name q.qtype).isSome = true) : q.name.isSubdomainOf Y.apex = true := by
  cases hp with
  | here _ _ => exact uni_resolve_sub hz
  | down _ _ _ _ _ _ _ _ _ _ hres _ _ _ _ _ => exact uni_resolve_sub (by rw [hres]; rfl)

theorem pathM_ends_mem_universe {U : Universe} {order : List Name → List Name} {q : Question} {Y Z : UEntry}
    {rest vis : List UEntry} (hp : DelegPathM U order q Y rest vis Z) : Y ∈ U ∧ Z ∈ U := by
  induction hp with
  | here _ h1 => exact ⟨h1, h1⟩
  | down _ _ _ _ _ _ _ hY _ _ _ _ _ _ _ _ ih => exact ⟨hY, ih.2⟩

/-! ### One referral step -/

/-- `Y` refers, for `q`, to the zone served by exactly the servers `sibs` (one of them `C`), NS set `nsRrs`: the six
    premises of one step of `DelegPathM.down` (Spec), in its order.  `WalkRuns.pathM` repacks them;
    `authReplyG_referral`, `loopAfterReply_referral` and `WalkRuns.glued` take them as one. -/
structure Refers (U : Universe) (q : Question) (Y C : UEntry) (sibs : List UEntry) (nsRrs : List RR) : Prop where
  mem : C ∈ sibs
  srv : ∀ D ∈ sibs, D ∈ U ∧ D.apex = C.apex
  res : Y.zone.resolve q.name q.qtype = some (.delegation nsRrs)
  ns : ∀ rr ∈ nsRrs, 0 < rr.ttl ∧ ∃ D ∈ sibs, rr = D.nsRR rr.ttl
  all : ∀ D ∈ sibs, ∃ rr ∈ nsRrs, rr = D.nsRR rr.ttl
  depth : Y.apex.labels.length < C.apex.labels.length

/-- … the single NS record of `C`. -/
theorem Refers.single {U : Universe} {q : Question} {Y C : UEntry} {ttl : Nat} (hC : C ∈ U)
    (hres : Y.zone.resolve q.name q.qtype = some (.delegation [C.nsRR ttl])) (httl : 0 < ttl)
    (hdepth : Y.apex.labels.length < C.apex.labels.length) : Refers U q Y C [C] [C.nsRR ttl] :=
  ⟨List.mem_cons_self, fun D hD => by rw [List.mem_singleton.mp hD]; exact ⟨hC, rfl⟩, hres,
    fun rr hr => by rw [List.mem_singleton.mp hr]; exact ⟨httl, C, List.mem_cons_self, rfl⟩,
    fun D hD => by rw [List.mem_singleton.mp hD]; exact ⟨_, List.mem_cons_self, rfl⟩, hdepth⟩

/-! ### `DelegPath` is `DelegPathM` with every NS set a single record -/

theorem uni_nsHosts_single (C : UEntry) (ttl : Nat) : nsHosts [C.nsRR ttl] = [C.host] := by
  simp [nsHosts, uni_nsTarget_nsRR, insertSet]

theorem uni_pathM_of_path {U : Universe} {order : List Name → List Name} (ho : ∀ h, order [h] = [h]) {q : Question}
    {Y Z : UEntry} {rest : List UEntry} (hp : DelegPath U q Y rest Z) : DelegPathM U order q Y rest rest Z := by
  induction hp with
  | here Z hZ => exact .here Z hZ
  | down Y C Z rest ttl hY hC hres httl hdepth _ ih =>
    have r := Refers.single (q := q) (Y := Y) hC hres httl hdepth
    exact .down Y C Z rest rest [C] [C.nsRR ttl] hY r.mem r.srv hres r.ns r.all
      (by rw [uni_nsHosts_single, ho]; rfl) hdepth ih

/-! ## Answers of well-keyed zones are well-formed -/

theorem uni_answerOK {z : Zone} (ht : z.records.Typed) (q : Question)
    (hq : lookupNat queryTypeFromU16 q.qtype = none) (hk : rtypeIsUnknown q.qtype = false) (rrs : List RR)
    (h : z.resolve q.name q.qtype = some (.answer rrs)) :
    ∀ rr ∈ rrs, rr.name = q.name ∧ rr.rtype = q.qtype ∧ rrIsUnknown rr = false := by
  obtain ⟨recs, nsd, hs, hv⟩ := Zone.resolve_from h
  intro rr hrr
  obtain ⟨zrs, hg, rfl⟩ := hv.answerTyped rrs rfl hq (List.ne_nil_of_mem hrr)
  obtain ⟨z0, hz0, rfl⟩ := List.mem_map.mp hrr
  have h2 : z0.rtype = q.qtype := ZNode.typed_iff_stores.mp ht recs hs _ zrs hg z0 hz0
  refine ⟨rfl, h2, ?_⟩
  unfold rrIsUnknown
  rw [show (z0.toRR q.name).rtype = q.qtype from h2, hk, show (z0.toRR q.name).rclass = CLASS_IN from rfl]
  decide

theorem uni_cnameOK {z : Zone} (ht : z.records.Typed) (q : Question) (tn : Name) (rr : RR)
    (h : z.resolve q.name q.qtype = some (.cname tn rr)) :
    (rr.name = q.name ∧ rr.rtype = RT_CNAME ∧ rr.fields = [.name tn] ∧ rrIsUnknown rr = false) ∧
    q.qtype ≠ RT_CNAME := by
  obtain ⟨recs, nsd, hs, hv⟩ := Zone.resolve_from h
  obtain ⟨z0, zs0, hg, hf, rfl, hm⟩ := hv.cname tn rr rfl
  have hrt : z0.rtype = RT_CNAME := ZNode.typed_iff_stores.mp ht recs hs RT_CNAME _ hg z0 List.mem_cons_self
  refine ⟨⟨rfl, hrt, hf, ?_⟩, fun hq => ?_⟩
  · unfold rrIsUnknown
    rw [show (z0.toRR q.name).rtype = RT_CNAME from hrt, show (z0.toRR q.name).rclass = CLASS_IN from rfl]
    decide
  · rw [hq] at hm; revert hm; decide

theorem uni_zoneSaysWF_of_typed {z : Zone} (ht : z.records.Typed) (q : Question)
    (hq : lookupNat queryTypeFromU16 q.qtype = none) (hk : rtypeIsUnknown q.qtype = false) : ZoneSaysWF z q :=
  ⟨fun rrs h => uni_answerOK ht q hq hk rrs h, fun tn rr h => (uni_cnameOK ht q tn rr h).1⟩

/-! ## Consistent universes: a path exists for every question -/

theorem uni_depth_bound (U : Universe) : ∃ B, ∀ E ∈ U, E.apex.labels.length ≤ B := by
  induction U with
  | nil => exact ⟨0, by simp⟩
  | cons F rest ih =>
    obtain ⟨B, hB⟩ := ih
    refine ⟨B + F.apex.labels.length, ?_⟩
    intro E hE
    rcases List.mem_cons.mp hE with rfl | hE
    · omega
    · have := hB E hE; omega

theorem uni_path_exists {U : Universe} (hU : Consistent U) (q : Question) (Y : UEntry) (hY : Y ∈ U) :
    ∃ rest Z, DelegPath U q Y rest Z ∧ ∀ ns, Z.zone.resolve q.name q.qtype ≠ some (.delegation ns) := by
  obtain ⟨B, hB⟩ := uni_depth_bound U
  -- every referral leads strictly deeper, and no zone is deeper than `B`
  generalize hn : B - Y.apex.labels.length = n
  induction n using Nat.strongRecOn generalizing Y with
  | _ n ih =>
    by_cases hd : ∃ ns, Y.zone.resolve q.name q.qtype = some (.delegation ns)
    · obtain ⟨ns, hns⟩ := hd
      obtain ⟨C, hC, ttl, hnsEq, httl, hlt⟩ := hU Y hY q.name q.qtype ns hns
      have hBC := hB C hC
      obtain ⟨rest, Z, hp, hz⟩ := ih (B - C.apex.labels.length) (by omega) C hC rfl
      rw [hnsEq] at hns
      exact ⟨C :: rest, Z, .down Y C Z rest ttl hY hC hns httl hlt hp, hz⟩
    · exact ⟨[], Y, .here Y hY, fun ns hns => hd ⟨ns, hns⟩⟩

/-! ## A decidable check for `Consistent` -/

theorem uni_nodesAll_descend (P : ZNode → Bool) (fuel : Nat) (node : ZNode) (p : List Label) (n : ZNode)
    (h : nodesAll P fuel node = true) (hd : node.descend p = some n) : P n = true := by
  obtain ⟨f, hf⟩ := ZNode.descend_closed (Q := fun n => ∃ f, nodesAll P f n = true) (fun {n l c} ⟨f, h⟩ hc => by
    cases f with
    | zero =>
      simp only [nodesAll, Bool.and_eq_true, List.isEmpty_iff] at h
      rw [h.2] at hc; cases hc
    | succ f =>
      simp only [nodesAll, Bool.and_eq_true, List.all_eq_true] at h
      exact ⟨f, h.2 (l, c) (ZNode.mem_of_childGet hc)⟩) p ⟨fuel, h⟩ hd
  cases f <;> simp only [nodesAll, Bool.and_eq_true] at hf <;> exact hf.1

/-- The check is sound for every `fuel` (with less than the depth of a tree it fails: `nodesAll`).  `nsOK` rejects
    nodes with a wildcard map because such a node can answer with a delegation that is not its own NS set
    (`ZNode.resolve_delegation`). -/
theorem uni_consistent_of_check (U : Universe) (fuel : Nat) (h : universeConsistent U fuel = true) :
    Consistent U := by
  intro Y hY name qtype ns hres
  unfold universeConsistent at h
  have hz := List.all_eq_true.mp h Y hY
  unfold zoneConsistent at hz
  simp only [Bool.and_eq_true, List.all_eq_true] at hz
  obtain ⟨hw0, hch⟩ := hz
  have hdesc : ∀ p n, p ≠ [] → Y.zone.records.descend p = some n → nsOK U Y.apex.labels.length n = true := by
    intro p n hp hd
    cases p with
    | nil => exact absurd rfl hp
    | cons l rest =>
      rw [ZNode.descend_cons] at hd
      cases hc : ZNode.childGet Y.zone.records.children l with
      | none => rw [hc] at hd; cases hd
      | some c =>
        rw [hc] at hd
        exact uni_nodesAll_descend _ fuel c rest n (hch (l, c) (ZNode.mem_of_childGet hc)) hd
  have hwild : ∀ p n, Y.zone.records.descend p = some n → n.wildcards = none := by
    intro p n hd
    by_cases hp : p = []
    · subst hp; simp at hd; subst hd; simpa using hw0
    · have := hdesc p n hp hd
      unfold nsOK at this
      simp only [Bool.and_eq_true] at this
      simpa using this.1
  obtain ⟨rel, _, hres⟩ := Zone.resolve_eq_some_iff.mp hres
  obtain ⟨p, n, hd, hor⟩ := ZNode.resolve_delegation hres
  obtain ⟨z, zs, hg, he, hp⟩ := hor.resolve_right fun hw => hw (hwild p n hd)
  have hpne : p ≠ [] := fun hh => by have := hp hh; cases this
  have hok := hdesc p n hpne hd
  unfold nsOK at hok
  rw [hg] at hok
  simp only [Bool.and_eq_true] at hok
  cases zs with
  | cons z2 zs2 => simp at hok
  | nil =>
    simp only [Bool.and_eq_true, List.any_eq_true, beq_iff_eq, decide_eq_true_eq] at hok
    obtain ⟨_, ⟨hrt, httl⟩, C, hC, ⟨hf, hn⟩, hdep⟩ := hok
    refine ⟨C, hC, z.ttl, ?_, httl, hdep⟩
    rw [he]
    simp only [List.map_cons, List.map_nil, ZoneRecord.toRR, UEntry.nsRR, hrt, hf, hn, UEntry.apex]

/-! ## The root hints zone `rootHintsZone host addr ttl`, for any host -/

theorem uni_hints_tree (host : Name) (addr ttl : Nat) (hz : Zone) (hb : rootHintsZone host addr ttl = some hz)
    {hrel : List Label} (hl : host.labels = hrel ++ [[]]) :
    hz.apex = Name.root ∧ hz.soa = none ∧
    ∃ n1, (ZNode.new Name.root).insertRev [] ⟨RT_NS, [.name host], ttl⟩ false = some n1 ∧
      n1.insertRev hrel.reverse ⟨RT_A, [.a addr], ttl⟩ false = some hz.records := by
  obtain ⟨z1, h1, h2⟩ := Option.bind_eq_some_iff.mp hb
  obtain ⟨a1, s1, hc1⟩ := Zone.insert_cases _ _ _ _ _ _ _ h1
  obtain ⟨a2, s2, hc2⟩ := Zone.insert_cases _ _ _ _ _ _ _ h2
  have hr1 : Zone.default.relativeDomain Name.root = some [] := Zone.relativeDomain_eq_some_iff.mpr rfl
  have hr2 : z1.relativeDomain host = some hrel := Zone.relativeDomain_eq_some_iff.mpr (by rw [a1, hl]; rfl)
  rcases hc1 with ⟨hn, _⟩ | ⟨rel1, hrel1, hi1⟩
  · rw [hr1] at hn; cases hn
  cases hr1.symm.trans hrel1
  rcases hc2 with ⟨hn, _⟩ | ⟨rel2, hrel2, hi2⟩
  · rw [hr2] at hn; cases hn
  cases hr2.symm.trans hrel2
  exact ⟨a2.trans a1, s2.trans s1, z1.records, hi1,
    by simpa [Zone.actualTtl, s1, show Zone.default.soa = none from rfl] using hi2⟩

theorem uni_hints_get (hz : Zone) (ha : hz.apex = Name.root) : ∀ (pre : List Label),
    (Zones.empty.insert hz).getLoop (pre ++ [[]]) = some hz := by
  have hl : ∀ n, Zones.lookup (Zones.empty.insert hz).zones n = if hz.apex = n then some hz else none :=
    fun n => Zones.lookup_insert Zones.empty hz n
  intro pre
  induction pre with
  | nil => simp only [List.nil_append, Zones.getLoop, Name.fromLabels_root, Option.bind_some, hl, if_pos ha]
  | cons l pre ih =>
    simp only [List.cons_append, Zones.getLoop]
    cases hn : Name.fromLabels (l :: (pre ++ [[]])) with
    | none => simp only [Option.bind_none]; exact ih
    | some n =>
      simp only [Option.bind_some, hl]
      by_cases h : hz.apex = n
      · rw [if_pos h]
      · rw [if_neg h]; exact ih

theorem uni_hints_resolve (host : Name) (addr ttl : Nat) (hz : Zone) (hb : rootHintsZone host addr ttl = some hz)
    (hhost : Name.fromLabels host.labels = some host) (hne : host ≠ Name.root)
    (name : Name) (hname : Name.fromLabels name.labels = some name) (qtype : Nat)
    (hq : lookupNat queryTypeFromU16 qtype = none) :
    ∃ r, (Zones.empty.insert hz).resolve name qtype = some (hz, some r) ∧ hz.soa = none ∧
      (name = Name.root → qtype = RT_NS →
        r = .answer [{ name := Name.root, rtype := RT_NS, fields := [.name host], rclass := CLASS_IN, ttl := ttl }]) ∧
      (name = host → qtype = RT_A →
        r = .answer [{ name := host, rtype := RT_A, fields := [.a addr], rclass := CLASS_IN, ttl := ttl }]) ∧
      (¬ (name = Name.root ∧ qtype = RT_NS) → ¬ (name = host ∧ qtype = RT_A) → r = .nameError ∨ r = .answer []) := by
  obtain ⟨hsh, hlen, _⟩ := Name.fromLabels_self.mp hhost
  obtain ⟨nsh, nlen, _⟩ := Name.fromLabels_self.mp hname
  obtain ⟨hrel, hhl, _⟩ := hsh.eq_concat
  obtain ⟨hapex, hsoa, n1, hi1, hi2⟩ := uni_hints_tree host addr ttl hz hb hhl
  obtain ⟨rel, hpre, _⟩ := nsh.eq_concat
  have hget : (Zones.empty.insert hz).get name = some hz := by
    unfold Zones.get; rw [hpre]; exact uni_hints_get hz hapex rel
  refine ⟨hz.records.resolve name qtype rel true, ?_, hsoa, ?_⟩
  · exact Zones.resolve_eq_some_iff.mpr ⟨hget, (Zone.resolve_eq_some_iff.mpr
      ⟨rel, Zone.relativeDomain_eq_some_iff.mpr (by rw [hapex, hpre]; rfl), rfl⟩).symm⟩
  obtain ⟨hp, hhp⟩ : ∃ hp, hp = hrel.reverse := ⟨_, rfl⟩
  rw [← hhp] at hi2
  have hhost_iff : rel.reverse = hp ↔ name = host := by
    constructor
    · intro hr
      rw [hhp] at hr
      exact Name.eq_of_labels nlen hlen (by rw [hhl, hpre, List.reverse_inj.mp hr])
    · intro hnh
      rw [hnh, hhl] at hpre
      rw [hhp, List.append_cancel_right hpre]
  have hroot_iff : rel = [] ↔ name = Name.root :=
    ⟨fun hr => Name.eq_of_labels nlen rfl (by rw [hpre, hr]; rfl), fun hr => by
      rw [hr] at hpre; exact (List.append_cancel_right (as := []) hpre).symm⟩
  have hpne : hp ≠ [] := fun he =>
    hne (Name.eq_of_labels hlen rfl (by rw [hhl, List.reverse_eq_nil_iff.mp (hhp.symm.trans he)]; rfl))
  -- the record sets of the tree, node by node: the two insertions, nothing else, no wildcards
  have hnode : ∀ p n, hz.records.descend p = some n → n.wildcards = none ∧
      n.this = if p = hp then [(RT_A, [⟨RT_A, [.a addr], ttl⟩])]
        else if p = [] then [(RT_NS, [⟨RT_NS, [.name host], ttl⟩])] else [] := by
    intro p n hd
    have hv := ZNode.insertRev_baseView hi2 p
    rw [ZNode.insertRev_baseView hi1, ZNode.baseView_new, ZNode.baseView, hd] at hv
    by_cases h1 : p = hp
    · rw [if_pos h1, if_neg (h1 ▸ hpne)] at hv
      rw [if_pos h1]
      exact ⟨congrArg Prod.snd hv, congrArg Prod.fst hv⟩
    · rw [if_neg h1] at hv
      rw [if_neg h1]
      by_cases h2 : p = []
      · rw [if_pos h2] at hv; rw [if_pos h2]; exact ⟨congrArg Prod.snd hv, congrArg Prod.fst hv⟩
      · rw [if_neg h2] at hv; rw [if_neg h2]; exact ⟨congrArg Prod.snd hv, congrArg Prod.fst hv⟩
  rcases hz.records.resolve_cases name qtype rel true with ⟨n, hn, he⟩ | ⟨hnone, _, lbl, suf, n, _, hn, _, hres⟩
  · -- the name owns a node: its record set decides
    obtain ⟨_, hthis⟩ := hnode rel.reverse n hn
    rw [he]
    by_cases h1 : rel.reverse = hp
    · have hnh := hhost_iff.mp h1
      rw [if_pos h1] at hthis
      rw [zoneResultHelper_plain name qtype n.this n.nsdname _ hq (Or.inr (Or.inr (nsOf_eq_nil_iff.mpr (Or.inl (by rw [hthis]; rfl))))) (by rw [hthis]; rfl), hthis]
      refine ⟨fun hr => absurd (hnh.symm.trans hr) hne, fun _ hqt => by rw [hqt, hnh]; rfl, fun _ h2 => Or.inr ?_⟩
      have : RT_A ≠ qtype := fun hh => h2 ⟨hnh, hh.symm⟩
      simp [RecMap.get, this]
    · rw [if_neg h1] at hthis
      by_cases h2 : rel = []
      · have hr := hroot_iff.mp h2
        rw [if_pos (by rw [h2]; rfl)] at hthis
        rw [zoneResultHelper_plain name qtype n.this n.nsdname _ hq (Or.inl (by rw [h2]; rfl)) (by rw [hthis]; rfl), hthis]
        refine ⟨fun _ hqt => by rw [hqt, hr]; rfl, fun hnh => absurd (hnh.symm.trans hr) hne, fun h3 _ => Or.inr ?_⟩
        have : RT_NS ≠ qtype := fun hh => h3 ⟨hr, hh.symm⟩
        simp [RecMap.get, this]
      · rw [if_neg (fun he => h2 (List.reverse_eq_nil_iff.mp he))] at hthis
        rw [zoneResultHelper_plain name qtype n.this n.nsdname _ hq (Or.inr (Or.inr (nsOf_eq_nil_iff.mpr (Or.inl (by rw [hthis]; rfl))))) (by rw [hthis]; rfl), hthis]
        exact ⟨fun hr => absurd (hroot_iff.mpr hr) h2, fun hnh => absurd (hhost_iff.mpr hnh) h1, fun _ _ => Or.inr rfl⟩
  · -- no node: the descent stops at a node without wildcards, at the apex or without NS set
    obtain ⟨hw, hthis⟩ := hnode suf.reverse n hn
    have hr : n.stopResult name qtype lbl (true && suf.isEmpty) = .nameError := by
      rw [ZNode.stopResult_noWild hw, if_pos]
      cases suf with
      | nil => exact Or.inl rfl
      | cons a t =>
        refine Or.inr ?_
        rw [hthis]
        by_cases h1 : (a :: t).reverse = hp
        · rw [if_pos h1]; rfl
        · rw [if_neg h1, if_neg (fun he => by cases List.reverse_eq_nil_iff.mp he)]; rfl
    rw [hres, hr]
    refine ⟨fun hroot _ => ?_, fun hnh _ => ?_, fun _ _ => Or.inl rfl⟩
    · rw [hroot_iff.mpr hroot] at hnone; cases hnone
    · have hs := ZNode.insertRev_descend_isSome _ _ _ _ _ hp hi2
      rw [← hhost_iff.mpr hnh, show hz.records.descend rel.reverse = none from hnone] at hs
      simp at hs

theorem uni_hints_rootHints (host : Name) (addr ttl : Nat) (hz : Zone) (hb : rootHintsZone host addr ttl = some hz)
    (hhost : Name.fromLabels host.labels = some host) (hne : host ≠ Name.root) :
    RootHints (Zones.empty.insert hz) host addr := by
  constructor
  · obtain ⟨r, h1, h2, h3, _, _⟩ := uni_hints_resolve host addr ttl hz hb hhost hne Name.root (by decide) RT_NS
      (by decide)
    exact ⟨hz, ttl, by rw [h1, h3 rfl rfl], h2⟩
  · obtain ⟨r, h1, h2, _, h4, _⟩ := uni_hints_resolve host addr ttl hz hb hhost hne host hhost RT_A (by decide)
    exact ⟨hz, ttl, by rw [h1, h4 rfl rfl], h2⟩

theorem uni_hints_miss (host : Name) (addr ttl : Nat) (hz : Zone) (hb : rootHintsZone host addr ttl = some hz)
    (hhost : Name.fromLabels host.labels = some host) (hne : host ≠ Name.root)
    (name : Name) (hname : Name.fromLabels name.labels = some name) (qtype : Nat)
    (hq : lookupNat queryTypeFromU16 qtype = none)
    (h1 : ¬ (name = Name.root ∧ qtype = RT_NS)) (h2 : ¬ (name = host ∧ qtype = RT_A)) :
    localMiss (Zones.empty.insert hz) name qtype = true := by
  obtain ⟨r, hr, hs, _, _, h5⟩ := uni_hints_resolve host addr ttl hz hb hhost hne name hname qtype hq
  unfold localMiss
  rw [hr]
  simp only [hs, Option.isNone_none, Bool.true_and]
  rcases h5 h1 h2 with h | h <;> rw [h] <;> rfl

theorem uni_hints_candMiss (host : Name) (addr ttl : Nat) (hz : Zone) (hb : rootHintsZone host addr ttl = some hz)
    (hhost : Name.fromLabels host.labels = some host) (hne : host ≠ Name.root) :
    ∀ ls : List Label, candMiss (Zones.empty.insert hz) ls = true := by
  intro ls
  induction ls with
  | nil => rfl
  | cons l ls ih =>
    unfold candMiss
    rw [ih, Bool.and_true]
    cases hls : ls with
    | nil => rfl
    | cons l2 ls2 =>
      simp only [List.isEmpty_cons, Bool.false_or]
      cases hn : Name.fromLabels (l :: l2 :: ls2) with
      | none => rfl
      | some n =>
        simp only
        have hl : n.labels = l :: l2 :: ls2 := Name.fromLabels_labels hn
        have hwf : Name.fromLabels n.labels = some n := Name.fromLabels_self_of hn
        apply uni_hints_miss host addr ttl hz hb hhost hne n hwf RT_NS (by decide)
        · intro hh
          have : n.labels.length = 1 := by rw [hh.1]; rfl
          rw [hl] at this
          simp at this
        · intro hh
          exact absurd hh.2 (by decide)

/-! ## The canonical oracle is faithful -/

theorem uni_find_addr (U : Universe) (hnd : (U.map (·.addr)).Nodup) (E : UEntry) (hE : E ∈ U) :
    U.find? (fun E' => E'.addr == E.addr) = some E := by
  induction U with
  | nil => cases hE
  | cons F rest ih =>
    simp only [List.map_cons, List.nodup_cons] at hnd
    rcases List.mem_cons.mp hE with rfl | hE
    · simp
    · have hne : F.addr ≠ E.addr := by
        intro he
        exact hnd.1 (by rw [he]; exact List.mem_map.mpr ⟨E, hE, rfl⟩)
      rw [List.find?_cons]
      have : (F.addr == E.addr) = false := by simp [hne]
      rw [this]
      exact ih hnd.2 hE

theorem uniCfg_faithful (U : Universe) (port : Nat) (hnd : (U.map (·.addr)).Nodup) :
    Faithful U (uniCfg U port) := by
  intro E hE q rd tcp
  simp only [uniCfg, uniOracle, uni_find_addr U hnd E hE, if_true]

theorem uniCfg_ok (U : Universe) (port : Nat) (hnd : (U.map (·.addr)).Nodup) (hh : HostsFunctional U)
    (ha : ∀ E ∈ U, ∀ E' ∈ U, E.apex = E'.apex → E.host = E'.host)
    (hd : ∀ E ∈ U, E.delayMs < EXCHANGE_TIMEOUT_MS) (hg : ∀ E ∈ U, 0 < E.glueTtl) : UniOK U (uniCfg U port) :=
  ⟨uniCfg_faithful U port hnd, Or.inl rfl, fun _ => rfl, hh, ha, hd, hg⟩

theorem UniOK.preferV4 {U : Universe} {cfg : RecCfg} (h : UniOK U cfg) : UniOK U { cfg with mode := .preferV4 } :=
  ⟨h.faithful, Or.inr rfl, h.order, h.hosts, h.apexes, h.delay, h.glueTtl⟩

theorem uni_cfg_prefer_ok (U : Universe) (port : Nat) (hnd : (U.map (·.addr)).Nodup) (hh : HostsFunctional U)
    (ha : ∀ E ∈ U, ∀ E' ∈ U, E.apex = E'.apex → E.host = E'.host)
    (hd : ∀ E ∈ U, E.delayMs < EXCHANGE_TIMEOUT_MS) (hg : ∀ E ∈ U, 0 < E.glueTtl) :
    UniOK U (uniCfgPrefer U port) :=
  (uniCfg_ok U port hnd hh ha hd hg).preferV4

/-! ### … with in-bailiwick glue -/

theorem uniGlueB_sub (U : Universe) (ns : List RR) (g : RR) (h : g ∈ uniGlueB U ns) : g ∈ uniGlue U ns := by
  unfold uniGlueB at h
  unfold uniGlue
  simp only [List.mem_flatMap, List.mem_filter, List.any_eq_true, Bool.and_eq_true, beq_iff_eq] at h ⊢
  obtain ⟨C, ⟨hC, rr, hrr, ht, _⟩, hg⟩ := h
  exact ⟨C, ⟨hC, by
    simp only [List.contains_iff_mem, List.mem_filterMap]
    exact ⟨rr, hrr, ht⟩⟩, hg⟩

theorem uniGlueB_mem {U : Universe} {C : UEntry} (hC : C ∈ U) (hb : C.host.isSubdomainOf C.apex = true) (ttl : Nat) :
    C.glueRR ∈ uniGlueB U [C.nsRR ttl] := by
  unfold uniGlueB
  simp only [List.mem_flatMap, List.mem_filter, List.any_cons, List.any_nil, Bool.or_false, Bool.and_eq_true,
    beq_iff_eq, uni_nsTarget_nsRR]
  exact ⟨C, ⟨hC, rfl, hb⟩, uni_mem_glueRRs.mpr (Or.inl rfl)⟩

theorem uniGlueB_nil {U : Universe} {C : UEntry} (hb : ∀ E ∈ U, E.host = C.host → E.host.isSubdomainOf C.apex = false)
    (ttl : Nat) : uniGlueB U [C.nsRR ttl] = [] := by
  unfold uniGlueB
  rw [List.flatMap_eq_nil_iff]
  intro E hE
  simp only [List.mem_filter, List.any_cons, List.any_nil, Bool.or_false, Bool.and_eq_true, beq_iff_eq,
    uni_nsTarget_nsRR, Option.some.injEq] at hE
  obtain ⟨hEU, hh, hs⟩ := hE
  have := hb E hEU hh.symm
  rw [show (C.nsRR ttl).name = C.apex from rfl] at hs
  rw [this] at hs
  cases hs

theorem uniOracleG_faithful (gp : List RR → List RR) (U : Universe) (mode : ProtocolMode) (port : Nat)
    (order : List Name → List Name) (hnd : (U.map (·.addr)).Nodup) :
    FaithfulG gp U ⟨mode, port, uniOracleG gp U port, order⟩ := by
  intro E hE q rd tcp
  simp only [uniOracleG, uni_find_addr U hnd E hE, if_true]

theorem uniCfgB_ok (U : Universe) (port : Nat) (hnd : (U.map (·.addr)).Nodup) (hh : HostsFunctional U)
    (ha : ∀ E ∈ U, ∀ E' ∈ U, E.apex = E'.apex → E.host = E'.host)
    (hd : ∀ E ∈ U, E.delayMs < EXCHANGE_TIMEOUT_MS) (hg : ∀ E ∈ U, 0 < E.glueTtl) :
    UniOKG (uniGlueB U) U (uniCfgB U port) :=
  ⟨uniOracleG_faithful _ U _ port _ hnd, uniGlueB_sub U, Or.inl rfl, fun _ => rfl, hh, ha, hd, hg⟩

end Resolved
