/-
  `Split.on p`: a list cut at every element that satisfies `p`, empty pieces kept.  `Name.splitDot`
  (`str::split('.')`), `HSpec.splitRaw` and `HSpec.splitNl` are this function at three predicates; each is
  bridged to it once, where its lemmas stand.
-/

namespace Resolved

namespace Split

variable {α : Type} (p : α → Prop) [DecidablePred p]

def on : List α → List (List α)
  | [] => [[]]
  | x :: xs =>
    if p x then [] :: on xs
    else
      match on xs with
      | [] => [[x]]
      | c :: cs => (x :: c) :: cs

theorem on_eq_cons (s : List α) : ∃ c cs, on p s = c :: cs := by
  cases s with
  | nil => exact ⟨_, _, rfl⟩
  | cons x xs =>
    rw [on]
    split
    · exact ⟨_, _, rfl⟩
    · split <;> exact ⟨_, _, rfl⟩

theorem on_ne_nil (s : List α) : on p s ≠ [] := by
  obtain ⟨c, cs, h⟩ := on_eq_cons p s
  rw [h]; exact List.cons_ne_nil _ _

variable {p}

theorem on_cons_sep {x : α} (hx : p x) (xs : List α) : on p (x :: xs) = [] :: on p xs := by
  rw [on, if_pos hx]

theorem on_cons_of_not {x : α} (hx : ¬ p x) {xs c : List α} {cs : List (List α)} (h : on p xs = c :: cs) :
    on p (x :: xs) = (x :: c) :: cs := by
  rw [on, if_neg hx, h]

theorem on_append_of_none {l : List α} (hl : ∀ x ∈ l, ¬ p x) {r c : List α} {cs : List (List α)}
    (h : on p r = c :: cs) : on p (l ++ r) = (l ++ c) :: cs := by
  induction l with
  | nil => exact h
  | cons x xs ih =>
    exact on_cons_of_not (hl x List.mem_cons_self) (ih fun y hy => hl y (List.mem_cons_of_mem _ hy))

theorem on_of_none {l : List α} (hl : ∀ x ∈ l, ¬ p x) : on p l = [l] := by
  simpa using on_append_of_none hl (r := []) rfl

theorem on_append_sep (a : List α) {s : α} (hs : p s) (r : List α) :
    on p (a ++ s :: r) = on p a ++ on p r := by
  induction a with
  | nil => exact on_cons_sep hs r
  | cons x xs ih =>
    rw [List.cons_append]
    by_cases hx : p x
    · rw [on_cons_sep hx, on_cons_sep hx, ih, List.cons_append]
    · obtain ⟨c, cs, hc⟩ := on_eq_cons p xs
      rw [on_cons_of_not hx hc, on_cons_of_not hx (ih.trans (congrArg (· ++ _) hc))]
      rfl

theorem on_append_sep_of_none {l : List α} (hl : ∀ x ∈ l, ¬ p x) {s : α} (hs : p s) (r : List α) :
    on p (l ++ s :: r) = l :: on p r := by
  rw [on_append_sep l hs, on_of_none hl]; rfl

theorem mem_on (s : List α) : ∀ c ∈ on p s, ∀ x ∈ c, x ∈ s ∧ ¬ p x := by
  induction s with
  | nil => intro c hc x hx; cases List.mem_singleton.mp hc; cases hx
  | cons y ys ih =>
    have lift : ∀ {x}, x ∈ ys ∧ ¬ p x → x ∈ y :: ys ∧ ¬ p x := fun h => ⟨List.mem_cons_of_mem _ h.1, h.2⟩
    intro c hc x hx
    by_cases hy : p y
    · rw [on_cons_sep hy] at hc
      rcases List.mem_cons.mp hc with rfl | hc
      · cases hx
      · exact lift (ih c hc x hx)
    · obtain ⟨c0, cs, heq⟩ := on_eq_cons p ys
      rw [on_cons_of_not hy heq] at hc
      rw [heq] at ih
      rcases List.mem_cons.mp hc with rfl | hc
      · rcases List.mem_cons.mp hx with rfl | hx
        · exact ⟨List.mem_cons_self, hy⟩
        · exact lift (ih c0 List.mem_cons_self x hx)
      · exact lift (ih c (List.mem_cons_of_mem _ hc) x hx)

end Split

end Resolved
