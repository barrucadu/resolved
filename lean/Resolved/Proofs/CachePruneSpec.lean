/-
  What `prune` does on a state satisfying `Inv`: `remove_expired` purges every partition of its expired tuples, the
  eviction loop removes whole partitions in least-recently-used order while the cache is over its size (`EvictSpec`),
  the counts are exact, both loops return within their fuel (`Inv.prune_total`, with everything `prune` does as
  `PruneSpec`); histories of `SharedCache` operations (`CacheOp`, `runFrom`, `run`) keep the invariant.
-/
import Resolved.Proofs.CacheOps

namespace Resolved

open PCache

/-! ## Sums over partitions -/

theorem psum_filter_add (f : Partition → Nat) (q : Name × Partition → Bool) (ps : List (Name × Partition)) :
    psum f (ps.filter q) + psum f (ps.filter (fun x => !q x)) = psum f ps := by
  induction ps with
  | nil => rfl
  | cons x ps ih =>
    by_cases hq : q x = true
    · rw [List.filter_cons_of_pos hq, List.filter_cons_of_neg (by simp [hq])]
      simp only [psum_cons]; omega
    · rw [List.filter_cons_of_neg hq, List.filter_cons_of_pos (by simpa using hq)]
      simp only [psum_cons]; omega

def expiredTotal (c : PCache) (now : Nat) : Nat := psum (fun p => expiredIn p.records now) c.partitions

def liveTotal (c : PCache) (now : Nat) : Nat := psum (liveCount now) c.partitions

theorem totalTuples_eq_psum (c : PCache) : totalTuples c = psum (fun p => recCount p.records) c.partitions := rfl

theorem expired_add_live_total (c : PCache) (now : Nat) :
    expiredTotal c now + liveTotal c now = totalTuples c := by
  unfold expiredTotal liveTotal
  rw [totalTuples_eq_psum]
  induction c.partitions with
  | nil => rfl
  | cons x ps ih =>
    have := expiredIn_add_liveCount now x.2
    simp only [psum_cons] at ih ⊢
    omega

/-! ## One step of `remove_expired` against the purge -/

def purgeKP (now : Nat) (kp : Name × Partition) : Option (Name × Partition) :=
  (purgeP now kp.2).map (fun p' => (kp.1, p'))

theorem purgeKP_some {now : Nat} {kp kp' : Name × Partition} (h : purgeKP now kp = some kp') :
    kp'.1 = kp.1 ∧ purgeP now kp.2 = some kp'.2 := by
  unfold purgeKP at h
  cases hp : purgeP now kp.2 with
  | none => rw [hp] at h; cases h
  | some p' => rw [hp] at h; cases h; exact ⟨rfl, rfl⟩

theorem purgeKP_none {now : Nat} {kp : Name × Partition} (h : purgeKP now kp = none) : liveCount now kp.2 = 0 := by
  unfold purgeKP at h
  cases hp : purgeP now kp.2 with
  | none => exact purgeP_none hp
  | some p' => rw [hp] at h; cases h

theorem filterMap_purge_self {now : Nat} {ps : List (Name × Partition)}
    (h : ∀ kp ∈ ps, kp.2.nextExpiry > now) : ps.filterMap (purgeKP now) = ps := by
  induction ps with
  | nil => rfl
  | cons x ps ih =>
    have hx := h x (by simp)
    rw [List.filterMap_cons]
    simp only [purgeKP, purgeP_of_live hx, Option.map_some]
    rw [ih (fun kp hkp => h kp (List.mem_cons_of_mem _ hkp))]

theorem Inv.removeExpiredStep_purge {c : PCache} (h : Inv c) (now : Nat) :
    (c.removeExpiredStep now).1.partitions.filterMap (purgeKP now) = c.partitions.filterMap (purgeKP now) ∧
    (c.removeExpiredStep now).2 + expiredTotal (c.removeExpiredStep now).1 now = expiredTotal c now ∧
    (c.removeExpiredStep now).1.desiredSize = c.desiredSize := by
  rcases h.removeExpiredStep_cases now with
    ⟨_, hs⟩ | ⟨k, p, hp, _, hn, _, hds, ⟨p', hpp, h1, _, _⟩ | ⟨hpp, h1, _, _⟩⟩
  · rw [hs]; exact ⟨rfl, Nat.zero_add _, rfl⟩
  · obtain ⟨a, b, hab, hka, _⟩ := AL.get_split_nodup h.keysNodup hp
    obtain ⟨_, hrec, _, hgt, _⟩ := purgeP_some (h.pinv_of_get hp) hpp
    have h2 : purgeKP now (k, p') = purgeKP now (k, p) := by
      simp only [purgeKP, purgeP_of_live hgt, hpp]
    have h3 : expiredIn p'.records now = 0 := by rw [hrec]; exact expiredIn_liveRecs _ _
    refine ⟨?_, ?_, hds⟩
    · rw [h1, hab, AL.set_split hka]
      simp only [List.filterMap_append, List.filterMap_cons, h2]
    · rw [hn, expiredTotal, expiredTotal, h1, hab, AL.set_split hka]
      simp only [psum_append, psum_cons, h3]; omega
  · obtain ⟨a, b, hab, hka, hkb⟩ := AL.get_split_nodup h.keysNodup hp
    have h2 : purgeKP now (k, p) = none := by simp only [purgeKP, hpp, Option.map_none]
    refine ⟨?_, ?_, hds⟩
    · rw [h1, hab, AL.erase_split hka hkb]
      simp only [List.filterMap_append, List.filterMap_cons, h2]
    · rw [hn, expiredTotal, expiredTotal, h1, hab, AL.erase_split hka hkb]
      simp only [psum_append, psum_cons]; omega

theorem Inv.removeExpiredStep_zero {c : PCache} (h : Inv c) {now : Nat} (h0 : (c.removeExpiredStep now).2 = 0) :
    ∀ kp ∈ (c.removeExpiredStep now).1.partitions, kp.2.nextExpiry > now := by
  rcases h.removeExpiredStep_cases now with ⟨hps, hs⟩ | ⟨k, p, hp, hmin, hn, _, _, hcase⟩
  · rw [hs, hps]; intro kp hkp; cases hkp
  · have hlive : p.nextExpiry > now := by
      apply Nat.lt_of_not_le
      intro he
      have := (h.pinv_of_get hp).expired_pos he
      omega
    rw [purgeP_of_live hlive] at hcase
    rcases hcase with ⟨p', hpp, h1, _, _⟩ | ⟨hpp, _⟩
    · cases hpp
      rw [h1, AL.set_self hp]
      intro kp hkp
      exact Nat.lt_of_lt_of_le hlive (hmin kp hkp)
    · cases hpp

theorem expiredTotal_zero {c : PCache} (h : Inv c) {now : Nat}
    (hl : ∀ kp ∈ c.partitions, kp.2.nextExpiry > now) : expiredTotal c now = 0 := by
  unfold expiredTotal
  have hp := h.parts
  generalize c.partitions = ps at hl hp ⊢
  induction ps with
  | nil => rfl
  | cons x ps ih =>
    rw [psum_cons, expiredIn_eq_zero ((hp x List.mem_cons_self).all_live (hl x List.mem_cons_self)),
      ih (fun kp hkp => hl kp (List.mem_cons_of_mem _ hkp)) (fun kp hkp => hp kp (List.mem_cons_of_mem _ hkp))]

/-! ## The loops one step unfolded; `prune` taken apart -/

theorem removeExpiredLoop_succ (fuel : Nat) (c : PCache) (now acc : Nat) :
    removeExpiredLoop (fuel + 1) c now acc =
      if (c.removeExpiredStep now).2 = 0 then some ((c.removeExpiredStep now).1, acc)
      else removeExpiredLoop fuel (c.removeExpiredStep now).1 now (acc + (c.removeExpiredStep now).2) := rfl

theorem pruneLoop_succ (fuel : Nat) (c : PCache) (acc : Nat) :
    pruneLoop (fuel + 1) c acc =
      if c.currentSize > c.desiredSize then pruneLoop fuel c.removeLRU.1 (acc + c.removeLRU.2)
      else some (c, acc) := rfl

theorem prune_eq_some {c c' : PCache} {now : Nat} {r : Bool × Nat × Nat × Nat}
    (h : c.prune now = some (c', r)) :
    ∃ c1 e p, c.removeExpired now = some (c1, e) ∧
      pruneLoop (c1.accessPriority.length + c1.partitions.length + 1) c1 0 = some (c', p) ∧
      r = (decide (c.currentSize > c.desiredSize), c'.currentSize, e, p) := by
  unfold PCache.prune at h
  simp only at h
  split at h
  · cases h
  · rename_i c1 e he
    split at h
    · cases h
    · rename_i c2 p hp
      cases h
      exact ⟨c1, e, p, he, hp, rfl⟩

/-! ## `remove_expired` as a whole -/

/-- `currentSize + 1` units of fuel suffice: a step that reports nothing ends the loop, every other step takes
    at least one tuple off the counter. -/
theorem Inv.removeExpiredLoop_spec {fuel : Nat} {c : PCache} (h : Inv c) (now acc : Nat)
    (hf : c.currentSize + 1 ≤ fuel) :
    ∃ c', PCache.removeExpiredLoop fuel c now acc = some (c', acc + expiredTotal c now) ∧ Inv c' ∧
      c'.partitions = c.partitions.filterMap (purgeKP now) ∧ c'.desiredSize = c.desiredSize := by
  induction fuel generalizing c acc with
  | zero => omega
  | succ fuel ih =>
    rw [removeExpiredLoop_succ]
    obtain ⟨h1, h2, h3⟩ := h.removeExpiredStep_purge now
    have hi := h.removeExpiredStep now
    have hsz := h.removeExpiredStep_size now
    split
    · rename_i h0
      have hz := h.removeExpiredStep_zero h0
      have := expiredTotal_zero hi hz
      refine ⟨_, by rw [show expiredTotal c now = 0 by omega]; rfl, hi, ?_, h3⟩
      rw [← h1, filterMap_purge_self hz]
    · obtain ⟨c', hl, hi', hp', hd'⟩ := ih hi (acc + (c.removeExpiredStep now).2) (by omega)
      exact ⟨c', by rw [hl, ← h2, Nat.add_assoc], hi', hp'.trans h1, hd'.trans h3⟩

/-! ## The eviction loop -/

theorem pruneLoop_size (fuel : Nat) (c c' : PCache) (acc n : Nat)
    (h : PCache.pruneLoop fuel c acc = some (c', n)) : c'.currentSize ≤ c'.desiredSize := by
  induction fuel generalizing c acc with
  | zero =>
    simp only [PCache.pruneLoop] at h
    split at h
    · cases h
    · cases h; omega
  | succ k ih =>
    rw [pruneLoop_succ] at h
    split at h
    · exact ih _ _ h
    · cases h; omega

theorem filter_keys_self (ps : List (Name × Partition)) :
    ps.filter (fun kp => decide (kp.1 ∈ AL.keys ps)) = ps := by
  rw [List.filter_eq_self]
  intro kp hkp
  simpa using AL.mem_keys_of_mem (show (kp.1, kp.2) ∈ ps from hkp)

/-- what the eviction loop, started in `c` with count `acc`, has done when it returns `(c2, n)` -/
structure EvictSpec (c c2 : PCache) (acc n : Nat) : Prop where
  kept : c2.partitions = c.partitions.filter (fun kp => decide (kp.1 ∈ AL.keys c2.partitions))
  sub : ∀ k p, AL.get c2.partitions k = some p → AL.get c.partitions k = some p
  lru : ∀ k p, AL.get c.partitions k = some p → AL.get c2.partitions k = none →
    ∀ k' p', AL.get c2.partitions k' = some p' → p.lastRead ≤ p'.lastRead
  count : n + c2.currentSize = acc + c.currentSize
  needed : n ≠ acc → ∃ k p, AL.get c.partitions k = some p ∧ AL.get c2.partitions k = none ∧
    c2.currentSize + p.size > c2.desiredSize
  desired : c2.desiredSize = c.desiredSize
  fits : c.currentSize ≤ c.desiredSize → c2 = c ∧ n = acc

theorem EvictSpec.refl (c : PCache) (acc : Nat) : EvictSpec c c acc acc where
  kept := (filter_keys_self _).symm
  sub := fun _ _ h => h
  lru := fun k p h1 h2 => by rw [h1] at h2; cases h2
  count := rfl
  needed := fun h => absurd rfl h
  desired := rfl
  fits := fun _ => ⟨rfl, rfl⟩

/-- With fuel for one eviction per partition the loop returns. -/
theorem Inv.pruneLoop_spec {fuel : Nat} {c : PCache} (h : Inv c) (acc : Nat) (hf : c.partitions.length ≤ fuel) :
    ∃ c2 n, PCache.pruneLoop fuel c acc = some (c2, n) ∧ Inv c2 ∧ EvictSpec c c2 acc n := by
  induction fuel generalizing c acc with
  | zero =>
    have := h.partitions_nil_size (List.length_eq_zero_iff.mp (by omega))
    exact ⟨c, acc, by simp only [PCache.pruneLoop]; rw [if_neg (by omega)], h, .refl c acc⟩
  | succ fuel ih =>
    rw [pruneLoop_succ]
    split
    · rename_i hov
      rcases h.removeLRU_cases with ⟨hps, _⟩ | ⟨k, p, hp, hmin, hs⟩
      · have := h.partitions_nil_size hps; omega
      have hi := h.removeLRU
      have hle := h.size_le hp
      have hlen := AL.length_erase_of_get h.keysNodup hp
      rw [hs] at hi ⊢
      obtain ⟨c2, n, hl, hi2, i⟩ := ih hi (acc + p.size) (by simp only; omega)
      refine ⟨c2, n, hl, hi2, ?_⟩
      have hk2 : AL.get c2.partitions k = none := by
        cases hg : AL.get c2.partitions k with
        | none => rfl
        | some p2 => exact absurd rfl (AL.get_erase_some (i.sub k p2 hg)).1
      have sub : ∀ k' p', AL.get c2.partitions k' = some p' → AL.get c.partitions k' = some p' :=
        fun k' p' hg => (AL.get_erase_some (i.sub k' p' hg)).2
      have hcount := i.count
      have hdes := i.desired
      simp only at hcount hdes
      have hsz : c.currentSize - p.size + p.size = c.currentSize := Nat.sub_add_cancel hle
      refine ⟨?_, sub, ?_, by rw [hcount, Nat.add_assoc, Nat.add_comm p.size, hsz], ?_, hdes,
        fun hfit => absurd hov (Nat.not_lt.mpr hfit)⟩
      · -- kept: the survivors filter the list without `k`; `k` is not among them, so they filter the whole list alike
        refine i.kept.trans ?_
        unfold AL.erase
        rw [List.filter_filter]
        apply List.filter_congr
        intro kp hkp
        by_cases hkk : kp.1 = k
        · have : ¬ kp.1 ∈ AL.keys c2.partitions := by rw [hkk]; exact AL.get_eq_none_iff.mp hk2
          simp [this]
        · simp [hkk]
      · -- lru: `k` itself was least recently read of all (`hmin`); for the others the rest of the loop vouches
        intro k0 p0 hg0 hn0 k' p' hg'
        by_cases hk0 : k0 = k
        · subst hk0
          rw [hp] at hg0; cases hg0
          exact hmin (k', p') (AL.mem_of_get (sub k' p' hg'))
        · exact i.lru k0 p0 (by rw [AL.get_erase, if_neg hk0]; exact hg0) hn0 k' p' hg'
      · -- needed: if the rest of the loop evicted nothing more, this eviction is the witness (the cache was over size)
        intro hne
        by_cases hn : n = acc + p.size
        · have h2 : c2.currentSize = c.currentSize - p.size := Nat.add_left_cancel (hn ▸ hcount)
          exact ⟨k, p, hp, hk2, by rw [hdes, h2, hsz]; exact hov⟩
        · obtain ⟨k0, p0, hg0, hn0, hs0⟩ := i.needed hn
          exact ⟨k0, p0, (AL.get_erase_some hg0).2, hn0, hs0⟩
    · exact ⟨c, acc, rfl, h, .refl c acc⟩

/-! ## `prune` as a whole -/

theorem psum_filter_purge (now : Nat) (q : Name → Bool) {ps : List (Name × Partition)}
    (hps : ∀ kp ∈ ps, PInv kp.2) :
    psum (fun p => recCount p.records) ((ps.filterMap (purgeKP now)).filter (fun kp => q kp.1)) =
      psum (liveCount now) (ps.filter (fun kp => q kp.1)) := by
  induction ps with
  | nil => rfl
  | cons x ps ih =>
    have ih' := ih (fun kp hkp => hps kp (List.mem_cons_of_mem _ hkp))
    have hx := hps x (by simp)
    rw [List.filterMap_cons]
    cases hp : purgeKP now x with
    | none =>
      simp only
      have h0 : liveCount now x.2 = 0 := purgeKP_none hp
      by_cases hq : q x.1 = true
      · rw [List.filter_cons_of_pos (by simpa using hq), psum_cons, h0, ih']; omega
      · rw [List.filter_cons_of_neg (by simpa using hq), ih']
    | some x' =>
      simp only
      obtain ⟨hk, hpp⟩ := purgeKP_some hp
      obtain ⟨_, hrec, _, _, _⟩ := purgeP_some hx hpp
      have hcnt : recCount x'.2.records = liveCount now x.2 := by rw [hrec, recCount_liveRecs]
      by_cases hq : q x.1 = true
      · rw [List.filter_cons_of_pos (by rw [hk]; simpa using hq), List.filter_cons_of_pos (by simpa using hq)]
        simp only [psum_cons, hcnt, ih']
      · rw [List.filter_cons_of_neg (by rw [hk]; simpa using hq), List.filter_cons_of_neg (by simpa using hq), ih']

theorem mem_filterMap_purge {now : Nat} {ps : List (Name × Partition)} {kp' : Name × Partition}
    (hps : ∀ kp ∈ ps, PInv kp.2) (h : kp' ∈ ps.filterMap (purgeKP now)) :
    ∃ kp ∈ ps, purgeKP now kp = some kp' ∧ kp.1 = kp'.1 ∧ kp'.2.records = liveRecs kp.2.records now ∧
      kp'.2.lastRead = kp.2.lastRead ∧ kp'.2.size = liveCount now kp.2 := by
  obtain ⟨kp, hkp, hpk⟩ := List.mem_filterMap.mp h
  obtain ⟨hk, hpp⟩ := purgeKP_some hpk
  obtain ⟨hpi, hrec, hlr, _, _⟩ := purgeP_some (hps kp hkp) hpp
  exact ⟨kp, hkp, hpk, hk.symm, hrec, hlr, by rw [hpi.size_eq, hrec, recCount_liveRecs]⟩

theorem mem_filterMap_purge_of_live {now : Nat} {ps : List (Name × Partition)} {kp : Name × Partition}
    (hps : ∀ kp ∈ ps, PInv kp.2) (hkp : kp ∈ ps) (hlive : liveCount now kp.2 > 0) :
    ∃ p1, (kp.1, p1) ∈ ps.filterMap (purgeKP now) ∧ p1.lastRead = kp.2.lastRead := by
  cases hpk : purgeKP now kp with
  | none => exact absurd (purgeKP_none hpk) (Nat.ne_of_gt hlive)
  | some kp1 =>
    obtain ⟨hk, hpp⟩ := purgeKP_some hpk
    exact ⟨kp1.2, hk ▸ List.mem_filterMap.mpr ⟨kp, hkp, hpk⟩, (purgeP_some (hps kp hkp) hpp).2.2.1⟩

/-- Everything `prune` does to `c`, yielding `c'` and the tuple `r`, in terms of the partitions of `c` and their
    live tuples. -/
structure PruneSpec (c c' : PCache) (now : Nat) (r : Bool × Nat × Nat × Nat) : Prop where
  inv' : Inv c'
  desired : c'.desiredSize = c.desiredSize
  survivors : ∀ kp' ∈ c'.partitions, ∃ kp ∈ c.partitions, kp.1 = kp'.1 ∧
    kp'.2.records = liveRecs kp.2.records now ∧ kp'.2.lastRead = kp.2.lastRead
  lru : ∀ kp ∈ c.partitions, liveCount now kp.2 > 0 → kp.1 ∉ AL.keys c'.partitions →
    ∀ kp' ∈ c'.partitions, kp.2.lastRead ≤ kp'.2.lastRead
  fits : liveTotal c now ≤ c.desiredSize →
    r.2.2.2 = 0 ∧ c'.partitions = c.partitions.filterMap (purgeKP now) ∧
      ∀ kp ∈ c.partitions, liveCount now kp.2 > 0 → kp.1 ∈ AL.keys c'.partitions
  needed : r.2.2.2 ≠ 0 → ∃ kp ∈ c.partitions, kp.1 ∉ AL.keys c'.partitions ∧ liveCount now kp.2 > 0 ∧
    c'.currentSize + liveCount now kp.2 > c'.desiredSize
  kept_size : c'.currentSize =
    psum (liveCount now) (c.partitions.filter (fun kp => decide (kp.1 ∈ AL.keys c'.partitions)))
  over : r.1 = decide (c.currentSize > c.desiredSize)
  size' : r.2.1 = c'.currentSize
  expired : r.2.2.1 = expiredTotal c now
  pruned : r.2.2.2 + c'.currentSize = liveTotal c now

/-- `c1` is the state between the two loops -/
theorem PruneSpec.of_loops {c c1 c' : PCache} {now n : Nat} (h : Inv c) (hi1 : Inv c1) (hi' : Inv c')
    (s1 : c1.partitions = c.partitions.filterMap (purgeKP now)) (s3 : c1.desiredSize = c.desiredSize)
    (l : EvictSpec c1 c' 0 n) :
    PruneSpec c c' now (decide (c.currentSize > c.desiredSize), c'.currentSize, expiredTotal c now, n) := by
  have size1 : c1.currentSize = liveTotal c now := by
    rw [← hi1.totalTuples_eq, totalTuples_eq_psum, s1]
    have := psum_filter_purge now (fun _ => true) h.parts
    rwa [List.filter_eq_self.mpr (fun _ _ => rfl), List.filter_eq_self.mpr (fun _ _ => rfl)] at this
  refine { inv' := hi', desired := l.desired.trans s3, over := rfl, size' := rfl, expired := rfl,
           pruned := by rw [← size1]; simpa using l.count,
           survivors := fun kp' hkp' => ?survivors, lru := fun kp hkp hlive hnot kp' hkp' => ?lru,
           fits := fun hfit => ?fits, needed := fun hev => ?needed, kept_size := ?kept_size }
  case survivors =>
    rw [l.kept] at hkp'
    have hk1 := (List.mem_filter.mp hkp').1
    rw [s1] at hk1
    obtain ⟨kp, hkp, _, hk, hrec, hlr, _⟩ := mem_filterMap_purge h.parts hk1
    exact ⟨kp, hkp, hk, hrec, hlr⟩
  case lru =>
    obtain ⟨p1, hm1, hlr⟩ := mem_filterMap_purge_of_live h.parts hkp hlive
    rw [← s1] at hm1
    exact hlr ▸ l.lru kp.1 p1 (AL.get_of_mem hi1.keysNodup hm1) (AL.get_eq_none_iff.mpr hnot)
      kp'.1 kp'.2 (AL.get_of_mem hi'.keysNodup hkp')
  case fits =>
    obtain ⟨rfl, h0⟩ := l.fits (by rw [size1, s3]; exact hfit)
    refine ⟨h0, s1, fun kp hkp hlive => ?_⟩
    obtain ⟨p1, hm1, _⟩ := mem_filterMap_purge_of_live h.parts hkp hlive
    rw [s1]
    exact AL.mem_keys_of_mem hm1
  case needed =>
    obtain ⟨k, p1, hg1, hg2, hsz⟩ := l.needed hev
    have hm := AL.mem_of_get hg1
    rw [s1] at hm
    obtain ⟨kp, hkp, _, hk, _, _, hcnt⟩ := mem_filterMap_purge h.parts hm
    have := (hi1.pinv_of_get hg1).one_le_size
    simp only at hk hcnt
    exact ⟨kp, hkp, by rw [hk]; exact AL.get_eq_none_iff.mp hg2, by omega, by omega⟩
  case kept_size =>
    rw [← hi'.totalTuples_eq, totalTuples_eq_psum]
    conv => lhs; rw [l.kept, s1]
    exact psum_filter_purge now (fun k => decide (k ∈ AL.keys c'.partitions)) h.parts

/-- The model's fuels, `totalTuples c + 2` and `accessPriority.length + partitions.length + 1`, are more than the
    loops need (`currentSize + 1` and `partitions.length`). -/
theorem Inv.prune_total {c : PCache} (h : Inv c) (now : Nat) :
    ∃ c' r, c.prune now = some (c', r) ∧ PruneSpec c c' now r := by
  obtain ⟨c1, hl1, hi1, s1, s3⟩ :=
    h.removeExpiredLoop_spec (fuel := totalTuples c + 2) now 0 (by rw [h.totalTuples_eq]; omega)
  obtain ⟨c2, n, hl2, hi2, l⟩ :=
    hi1.pruneLoop_spec (fuel := c1.accessPriority.length + c1.partitions.length + 1) 0 (by omega)
  exact ⟨c2, _, by simp only [PCache.prune, PCache.removeExpired, hl1, hl2, Nat.zero_add],
    PruneSpec.of_loops h hi1 hi2 s1 s3 l⟩

theorem Inv.prune_spec {c c' : PCache} {now : Nat} {r : Bool × Nat × Nat × Nat} (h : Inv c)
    (hp : c.prune now = some (c', r)) : PruneSpec c c' now r := by
  obtain ⟨c'', r', hp', hs⟩ := h.prune_total now
  rw [hp] at hp'
  cases hp'
  exact hs

theorem Inv.prune {c c' : PCache} {now : Nat} {r : Bool × Nat × Nat × Nat} (h : Inv c)
    (hp : c.prune now = some (c', r)) : Inv c' :=
  (h.prune_spec hp).inv'

/-! ## Histories of `SharedCache` operations -/

/-- the operations of `SharedCache` (each with the clock reading it observes) -/
inductive CacheOp where
  | insert (rr : RR) (now : Nat)
  | insertAll (rrs : List RR) (now : Nat)
  | get (name : Name) (qtype : Nat) (now : Nat)
  /-- `SharedCache::get_without_checking_expiration` -/
  | getUnchecked (name : Name) (qtype : Nat) (now : Nat)
  | prune (now : Nat)
deriving Repr

/-- a `prune` that would not terminate leaves the state alone (`Inv.prune_total`: this never happens on a state
    satisfying `Inv`) -/
def CacheOp.apply (c : PCache) : CacheOp → PCache
  | .insert rr now => sharedInsert c rr now
  | .insertAll rrs now => sharedInsertAll c rrs now
  | .get name qtype now => (cacheGet c name qtype now).1
  | .getUnchecked name qtype now => (cacheGetUnchecked c name qtype now).1
  | .prune now =>
    match c.prune now with
    | some (c', _) => c'
    | none => c

def runFrom (c : PCache) (ops : List CacheOp) : PCache := ops.foldl CacheOp.apply c

def run (d : Nat) (ops : List CacheOp) : PCache := runFrom (PCache.new d) ops

theorem Inv.apply {c : PCache} (h : Inv c) (op : CacheOp) : Inv (op.apply c) := by
  cases op with
  | insert rr now => exact h.sharedInsert rr now
  | insertAll rrs now => exact h.sharedInsertAll rrs now
  | get name qtype now => exact h.cacheGet name qtype now
  | getUnchecked name qtype now => exact h.cacheGetUnchecked name qtype now
  | prune now =>
    simp only [CacheOp.apply]
    split
    · rename_i c' r hp; exact h.prune hp
    · exact h

theorem Inv.runFrom {c : PCache} (h : Inv c) (ops : List CacheOp) : Inv (runFrom c ops) :=
  List.foldlRecOn ops _ h fun _ hc op _ => hc.apply op

end Resolved
