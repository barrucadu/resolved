/-
  What each operation of the cache does, in closed form case by case (`upsert_*`, `getTouch_*`,
  `getPartitionTouch_*`, `cacheGetUnchecked_*` by kind of query type `qtype_cases`, `removeExpiredStep_*` with the
  purge `purgeP` of one partition, `removeLRU_*`, `sharedInsert_*`), and that each keeps the invariant — all
  operations of `SharedCache` but `prune`.
-/
import Resolved.Proofs.CacheInv
import Resolved.Proofs.QueryType

namespace Resolved

open PCache

theorem mem_append_concat {α : Type} {A B C : List α} {x t : α} :
    t ∈ A ++ (B ++ [x]) ++ C ↔ t = x ∨ t ∈ A ++ B ++ C := by
  simp only [List.mem_append, List.mem_singleton]
  constructor
  · rintro ((h | h | h) | h) <;> simp [h]
  · rintro (h | (h | h) | h) <;> simp [h]

/-! ## `upsert`: the partition after the record-level update -/

theorem PInv.fresh {p : Partition} (h : PInv p) {rk : Nat} {v : CRec} (e lr : Nat) {ts : Tuples}
    (hts : (AL.get p.records rk).getD [] = ts) (hv : v ∉ ts.map (·.1)) (hrt : v.rtype = rk) :
    PInv { lastRead := lr, nextExpiry := if e < p.nextExpiry then e else p.nextExpiry, size := p.size + 1,
           records := AL.set p.records rk (ts ++ [(v, e)]) } := by
  obtain ⟨A, B, h1, h2⟩ := tuplesOf_set p.records rk (ts ++ [(v, e)])
  have hc := recCount_set p.records rk (ts ++ [(v, e)])
  rw [hts] at h1 hc
  refine h.setTuples (nodup_map_fst_concat e (hts ▸ h.getD_nodup rk) hv) ?_ ?_ ?_
  · intro t ht
    rcases List.mem_append.mp ht with ht | ht
    · exact h.getD_rtype rk t (hts ▸ ht)
    · rw [List.mem_singleton.mp ht]; exact hrt
  · exact h.nextExpiry_min.insert (x := (v, e)) fun t => by rw [h1, h2]; exact mem_append_concat
  · have := h.size_eq
    simp only [List.length_append, List.length_singleton] at hc
    omega

/-- Replacing a value the list under `rk` holds already, with expiry `d`.  When `d` was the
    partition's least expiry the new minimum is taken over ALL lists of the partition (`minExpiry` of the new record
    map) — taken over the list under `rk` alone, an earlier expiry under another type would be missed and that tuple
    would outlive a prune.  `size := p.size - 1 + 1` is the model's arithmetic verbatim; `PInv.one_le_size` makes it
    `p.size`. -/
theorem PInv.dup {p : Partition} (h : PInv p) {rk : Nat} {v : CRec} (e lr : Nat) {ts : Tuples} {i d : Nat}
    (hg : AL.get p.records rk = some ts) (hi : ts[i]? = some (v, d)) (hrt : v.rtype = rk) :
    PInv { lastRead := lr,
           nextExpiry :=
             if d = p.nextExpiry then minExpiry (AL.set p.records rk (swapRemove ts i ++ [(v, e)])) e
             else if e < p.nextExpiry then e else p.nextExpiry,
           size := p.size - 1 + 1,
           records := AL.set p.records rk (swapRemove ts i ++ [(v, e)]) } := by
  have hperm := swapRemove_perm hi
  generalize swapRemove ts i = sr at hperm ⊢
  obtain ⟨A, B, h1, h2⟩ := tuplesOf_set p.records rk (sr ++ [(v, e)])
  have hc := recCount_set p.records rk (sr ++ [(v, e)])
  rw [hg, Option.getD_some] at h1 hc
  have hmem : ∀ t, t ∈ ts ↔ t = (v, d) ∨ t ∈ sr := fun t => by rw [hperm.mem_iff, List.mem_cons]
  have hnd : (((v, d) :: sr).map (·.1)).Nodup := (hperm.map _).nodup_iff.mp (h.noDup _ (AL.mem_of_get hg))
  rw [List.map_cons, List.nodup_cons] at hnd
  -- membership in the old and the new tuple set, relative to the common rest
  have hold : ∀ t, t ∈ tuplesOf p.records ↔ t = (v, d) ∨ t ∈ A ++ sr ++ B := fun t => by
    rw [h1, (((hperm.trans (List.perm_append_singleton _ _).symm).append_left A).append_right B).mem_iff]
    exact mem_append_concat
  have hnew : ∀ t, t ∈ tuplesOf (AL.set p.records rk (sr ++ [(v, e)])) ↔ t = (v, e) ∨ t ∈ A ++ sr ++ B :=
    fun t => by rw [h2]; exact mem_append_concat
  refine h.setTuples (nodup_map_fst_concat e hnd.2 hnd.1) ?_ ?_ ?_
  · intro t ht
    rcases List.mem_append.mp ht with ht | ht
    · exact h.rtype_eq _ (AL.mem_of_get hg) t ((hmem t).mpr (Or.inr ht))
    · rw [List.mem_singleton.mp ht]; exact hrt
  · split
    · exact minExpiry_isMin ⟨(v, e), (hnew _).mpr (Or.inl rfl), rfl⟩
    · rename_i hd
      exact ((h.nextExpiry_min.remove (x := (v, d)) hold hd).insert (x := (v, e)) hnew)
  · have := h.size_eq
    have := h.one_le_size
    have := hperm.length_eq
    simp only [List.length_append, List.length_cons, List.length_nil] at hc this
    omega

/-! ## `upsert` in closed form, case by case -/

theorem upsert_new {c : PCache} {k : Name} (rk : Nat) (v : CRec) (ttl now : Nat)
    (hp : AL.get c.partitions k = none) :
    c.upsert k rk v ttl now =
      { c with partitions := AL.set c.partitions k
                 { lastRead := now, nextExpiry := now + ttl, size := 1, records := [(rk, [(v, now + ttl)])] }
               accessPriority := AL.set c.accessPriority k now
               expiryPriority := AL.set c.expiryPriority k (now + ttl)
               currentSize := c.currentSize + 1 } := by
  unfold PCache.upsert
  simp only [getPartition_eq, setPartition_eq, PQ_push_eq, hp]

/-- two branches of the model (no list under `rk`; a list none of whose tuples has `v`): they write the same
    state, the list being `[]` when there is none -/
theorem upsert_fresh {c : PCache} {k : Name} {p : Partition} (rk : Nat) (v : CRec) (ttl now : Nat)
    (hp : AL.get c.partitions k = some p) (hd : findDup ((AL.get p.records rk).getD []) v = none) :
    c.upsert k rk v ttl now =
      { c with partitions := AL.set c.partitions k
                 { lastRead := now, nextExpiry := if now + ttl < p.nextExpiry then now + ttl else p.nextExpiry,
                   size := p.size + 1,
                   records := AL.set p.records rk ((AL.get p.records rk).getD [] ++ [(v, now + ttl)]) }
               accessPriority := AL.change c.accessPriority k now
               expiryPriority := if now + ttl < p.nextExpiry then AL.change c.expiryPriority k (now + ttl)
                                 else c.expiryPriority
               currentSize := c.currentSize + 1 } := by
  unfold PCache.upsert
  cases hg : AL.get p.records rk with
  | none =>
    simp only [getPartition_eq, getTuples_eq, setTuples_eq, setPartition_eq, PQ_change_eq, hp, hg, Option.getD_none,
      List.nil_append]
    by_cases h : now + ttl < p.nextExpiry <;> simp only [h, ↓reduceIte]
  | some ts =>
    rw [hg, Option.getD_some] at hd
    simp only [getPartition_eq, getTuples_eq, setTuples_eq, setPartition_eq, PQ_change_eq, hp, hg, hd, Option.getD_some]
    by_cases h : now + ttl < p.nextExpiry <;> simp only [h, ↓reduceIte]

theorem findDup_getD_some {rs : List (Nat × Tuples)} {rk : Nat} {v : CRec} {i d : Nat}
    (hd : findDup ((AL.get rs rk).getD []) v = some (i, d)) :
    ∃ ts, AL.get rs rk = some ts ∧ findDup ts v = some (i, d) := by
  cases hg : AL.get rs rk with
  | none => rw [hg] at hd; cases hd
  | some ts => rw [hg] at hd; exact ⟨ts, rfl, hd⟩

theorem upsert_dup {c : PCache} {k : Name} {p : Partition} (rk : Nat) (v : CRec) (ttl now : Nat)
    {ts : Tuples} {i d : Nat} (hp : AL.get c.partitions k = some p) (hg : AL.get p.records rk = some ts)
    (hd : findDup ts v = some (i, d)) :
    c.upsert k rk v ttl now =
      { c with partitions := AL.set c.partitions k
                 { lastRead := now,
                   nextExpiry :=
                     if d = p.nextExpiry then
                       minExpiry (AL.set p.records rk (swapRemove ts i ++ [(v, now + ttl)])) (now + ttl)
                     else if now + ttl < p.nextExpiry then now + ttl else p.nextExpiry,
                   size := p.size - 1 + 1,
                   records := AL.set p.records rk (swapRemove ts i ++ [(v, now + ttl)]) }
               accessPriority := AL.change c.accessPriority k now
               expiryPriority :=
                 if d = p.nextExpiry then
                   AL.change c.expiryPriority k
                     (minExpiry (AL.set p.records rk (swapRemove ts i ++ [(v, now + ttl)])) (now + ttl))
                 else if now + ttl < p.nextExpiry then AL.change c.expiryPriority k (now + ttl)
                 else c.expiryPriority
               currentSize := c.currentSize - 1 + 1 } := by
  unfold PCache.upsert
  simp only [getPartition_eq, getTuples_eq, setTuples_eq, setPartition_eq, PQ_change_eq, hp, hg, hd]
  by_cases h1 : d = p.nextExpiry
  · have hle := minExpiry_le_init (AL.set p.records rk (swapRemove ts i ++ [(v, now + ttl)])) (now + ttl)
    have h2 : ¬ now + ttl <
        minExpiry (AL.set p.records rk (swapRemove ts i ++ [(v, now + ttl)])) (now + ttl) := by omega
    simp only [h1, h2, ↓reduceIte]
  · by_cases h : now + ttl < p.nextExpiry <;> simp only [h1, h, ↓reduceIte]

/-! ## `upsert` keeps `Inv` -/

theorem PInv.single (rk : Nat) (v : CRec) (e lr : Nat) (hrt : v.rtype = rk) :
    PInv { lastRead := lr, nextExpiry := e, size := 1, records := [(rk, [(v, e)])] } := by
  refine ⟨List.pairwise_singleton _ _, rfl, ⟨⟨(v, e), List.mem_cons_self, rfl⟩, fun t ht => ?_⟩,
    fun r hr => ?_, fun r hr t ht => ?_⟩
  · rw [List.mem_singleton.mp ht]; exact Nat.le_refl e
  · rw [List.mem_singleton.mp hr]; exact List.pairwise_singleton _ _
  · rw [List.mem_singleton.mp hr] at ht ⊢
    rw [List.mem_singleton.mp ht]; exact hrt

theorem QUpd.expiry_min {c : PCache} (h : Inv c) {k : Name} {p : Partition}
    (hp : AL.get c.partitions k = some p) (e : Nat) :
    QUpd c.expiryPriority (if e < p.nextExpiry then AL.change c.expiryPriority k e else c.expiryPriority)
      k (if e < p.nextExpiry then e else p.nextExpiry) := by
  split
  · exact QUpd.change h.eqNodup (h.eq_get_of hp) e
  · exact QUpd.same h.eqNodup (h.eq_get_of hp)

theorem Inv.upsert {c : PCache} (h : Inv c) (k : Name) {rk : Nat} {v : CRec} (ttl now : Nat)
    (hrt : v.rtype = rk) : Inv (c.upsert k rk v ttl now) := by
  cases hp : AL.get c.partitions k with
  | none =>
    rw [upsert_new rk v ttl now hp]
    exact h.setPartition (PInv.single rk v (now + ttl) now hrt) rfl (QUpd.set h.aqNodup k _) (QUpd.set h.eqNodup k _)
      (by rw [hp]; rfl)
  | some p =>
    have hpi := h.pinv_of_get hp
    have haq := QUpd.change h.aqNodup (h.aq_get_of hp) now
    cases hd : findDup ((AL.get p.records rk).getD []) v with
    | none =>
      rw [upsert_fresh rk v ttl now hp hd]
      exact h.setPartition (hpi.fresh (now + ttl) now rfl (findDup_none.mp hd) hrt) rfl haq
        (QUpd.expiry_min h hp _) (by rw [hp]; exact Nat.add_right_comm _ _ _)
    | some id =>
      obtain ⟨i, d⟩ := id
      obtain ⟨ts, hg, hd⟩ := findDup_getD_some hd
      rw [upsert_dup rk v ttl now hp hg hd]
      have h1 := hpi.one_le_size
      have h2 := h.size_le hp
      refine h.setPartition (hpi.dup (now + ttl) now hg (findDup_some hd) hrt) rfl haq ?_
        (by rw [hp]; simp only [Option.map_some, Option.getD_some]; omega)
      simp only
      split
      · exact QUpd.change h.eqNodup (h.eq_get_of hp) _
      · exact QUpd.expiry_min h hp _

/-! ## Lookups

`NoKey` and the `_hit`, `_miss`, `_absent` forms of the two lookups are spelled with the model's own getters, as
Props/C15 states what counts as a use; the `_spec` forms after them speak `AL.get` like the rest of the file. -/

/-- `k`'s partition `p` read at `now`: its `last_read` and `k`'s access priority become `now`; nothing else changes -/
def PCache.touch (c : PCache) (k : Name) (p : Partition) (now : Nat) : PCache :=
  { c with partitions := AL.set c.partitions k { p with lastRead := now }
           accessPriority := AL.change c.accessPriority k now }

/-- what one lookup of `k` at `now` does to the cache: nothing, or the touch of `k`'s partition -/
def Touched (c c' : PCache) (k : Name) (now : Nat) : Prop :=
  c' = c ∨ ∃ p, AL.get c.partitions k = some p ∧ c' = c.touch k p now

theorem Touched.inv {c c' : PCache} {k : Name} {now : Nat} (ht : Touched c c' k now) (h : Inv c) : Inv c' := by
  rcases ht with rfl | ⟨p, hp, rfl⟩
  · exact h
  · exact h.setPartition ((h.pinv_of_get hp).touch now) rfl (QUpd.change h.aqNodup (h.aq_get_of hp) now)
      (show QUpd _ _ k p.nextExpiry from QUpd.same h.eqNodup (h.eq_get_of hp)) (by rw [hp]; rfl)

/-- no tuple list is filed under type `rk` for `k` -/
def NoKey (c : PCache) (k : Name) (rk : Nat) : Prop :=
  ∀ p, PCache.getPartition c.partitions k = some p → PCache.getTuples p.records rk = none

theorem getTouch_miss {c : PCache} {k : Name} {rk : Nat} (now : Nat) (h : NoKey c k rk) :
    c.getTouch k rk now = (c, none) := by
  unfold PCache.getTouch
  cases hp : PCache.getPartition c.partitions k with
  | none => rfl
  | some p => simp only [h p hp]

theorem getTouch_hit {c : PCache} {k : Name} {rk : Nat} {p : Partition} {ts : Tuples} (now : Nat)
    (hp : PCache.getPartition c.partitions k = some p) (hts : PCache.getTuples p.records rk = some ts) :
    c.getTouch k rk now = (c.touch k p now, some ts) := by
  unfold PCache.getTouch
  simp only [hp, hts, PCache.touch, setPartition_eq, PQ_change_eq]

theorem getPartitionTouch_hit {c : PCache} {k : Name} {p : Partition} (now : Nat)
    (hp : PCache.getPartition c.partitions k = some p) :
    c.getPartitionTouch k now = (c.touch k p now, some p.records) := by
  unfold PCache.getPartitionTouch
  simp only [hp, PCache.touch, setPartition_eq, PQ_change_eq]

theorem getPartitionTouch_absent {c : PCache} {k : Name} (now : Nat)
    (hp : PCache.getPartition c.partitions k = none) :
    c.getPartitionTouch k now = (c, none) := by
  unfold PCache.getPartitionTouch
  simp only [hp]

theorem getPartitionTouch_spec (c : PCache) (k : Name) (now : Nat) :
    Touched c (c.getPartitionTouch k now).1 k now ∧
      (c.getPartitionTouch k now).2 = (AL.get c.partitions k).map (·.records) := by
  cases hp : AL.get c.partitions k with
  | none => rw [getPartitionTouch_absent now (by rw [getPartition_eq, hp])]; exact ⟨Or.inl rfl, rfl⟩
  | some p => rw [getPartitionTouch_hit now (by rw [getPartition_eq, hp])]; exact ⟨Or.inr ⟨p, hp, rfl⟩, rfl⟩

theorem getTouch_spec (c : PCache) (k : Name) (rk now : Nat) :
    Touched c (c.getTouch k rk now).1 k now ∧
      (c.getTouch k rk now).2 = (AL.get c.partitions k).bind (fun p => AL.get p.records rk) := by
  cases hp : AL.get c.partitions k with
  | none =>
    rw [getTouch_miss now fun p hp' => by rw [getPartition_eq, hp] at hp'; cases hp']
    exact ⟨Or.inl rfl, rfl⟩
  | some p =>
    cases hts : AL.get p.records rk with
    | none =>
      rw [getTouch_miss now fun p' hp' => by rw [getPartition_eq, hp] at hp'; cases hp'; rw [getTuples_eq, hts]]
      exact ⟨Or.inl rfl, hts.symm⟩
    | some ts =>
      rw [getTouch_hit now (by rw [getPartition_eq, hp]) (by rw [getTuples_eq, hts])]
      exact ⟨Or.inr ⟨p, hp, rfl⟩, hts.symm⟩

/-! ### `Cache::get_without_checking_expiration`, by kind of query type -/

theorem cacheGetUnchecked_typed {c : PCache} {name : Name} {qtype : Nat} (now : Nat)
    (hq : lookupNat Gen.queryTypeFromU16 qtype = none) :
    cacheGetUnchecked c name qtype now =
      ((c.getTouch name qtype now).1, toRRs name now ((c.getTouch name qtype now).2.getD [])) := by
  unfold cacheGetUnchecked
  simp only [hq]
  generalize c.getTouch name qtype now = r
  obtain ⟨c', o⟩ := r
  cases o <;> rfl

theorem cacheGetUnchecked_wild {c : PCache} {name : Name} {qtype : Nat} (now : Nat)
    (hq : lookupNat Gen.queryTypeFromU16 qtype = some "Wildcard") :
    cacheGetUnchecked c name qtype now =
      ((c.getPartitionTouch name now).1,
        ((c.getPartitionTouch name now).2.getD []).flatMap (fun r => toRRs name now r.2)) := by
  unfold cacheGetUnchecked
  simp only [hq]
  generalize c.getPartitionTouch name now = r
  obtain ⟨c', o⟩ := r
  cases o <;> rfl

theorem cacheGetUnchecked_other {c : PCache} {name : Name} {qtype : Nat} {s : String} (now : Nat)
    (hq : lookupNat Gen.queryTypeFromU16 qtype = some s) (hs : s ≠ "Wildcard") :
    cacheGetUnchecked c name qtype now = (c, []) := by
  unfold cacheGetUnchecked
  split
  · rename_i heq; rw [hq] at heq; cases heq; exact absurd rfl hs
  · rfl
  · rename_i heq; rw [hq] at heq; cases heq

theorem cacheGetUnchecked_touched_step (c : PCache) (name : Name) (qtype now : Nat) :
    Touched c (cacheGetUnchecked c name qtype now).1 name now := by
  rcases qtype_cases qtype with ⟨hq, _⟩ | ⟨hq, _⟩ | ⟨s, hq, hs, _⟩
  · rw [cacheGetUnchecked_typed now hq]; exact (getTouch_spec c name qtype now).1
  · rw [cacheGetUnchecked_wild now hq]; exact (getPartitionTouch_spec c name now).1
  · rw [cacheGetUnchecked_other now hq hs]; exact Or.inl rfl

/-! ## What `remove_expired` does to one partition -/

def liveCount (now : Nat) (p : Partition) : Nat := recCount (liveRecs p.records now)

theorem recCount_liveRecs (now : Nat) (p : Partition) : recCount (liveRecs p.records now) = liveCount now p := rfl

theorem expiredIn_add_liveCount (now : Nat) (p : Partition) :
    expiredIn p.records now + liveCount now p = recCount p.records :=
  expiredIn_add_live p.records now

theorem liveRecs_eq_self {rs : List (Nat × Tuples)} {now : Nat} (h : ∀ t ∈ tuplesOf rs, t.2 > now) :
    liveRecs rs now = rs := by
  induction rs with
  | nil => rfl
  | cons r rs ih =>
    simp only [tuplesOf_cons, List.mem_append] at h
    rw [liveRecs_cons, ih (fun t ht => h t (Or.inr ht))]
    have : r.2.filter (fun t => decide (t.2 > now)) = r.2 := by
      rw [List.filter_eq_self]; intro t ht; simpa using h t (Or.inl ht)
    rw [this]

theorem expiredIn_eq_zero {rs : List (Nat × Tuples)} {now : Nat} (h : ∀ t ∈ tuplesOf rs, t.2 > now) :
    expiredIn rs now = 0 := by
  unfold expiredIn
  rw [List.countP_eq_zero]
  intro t ht
  have := h t ht
  simp; omega

theorem expiredIn_liveRecs (rs : List (Nat × Tuples)) (now : Nat) : expiredIn (liveRecs rs now) now = 0 := by
  apply expiredIn_eq_zero
  intro t ht
  rw [tuplesOf_liveRecs] at ht
  simpa using (List.mem_filter.mp ht).2

theorem PInv.all_live {p : Partition} (h : PInv p) {now : Nat} (hn : p.nextExpiry > now) :
    ∀ t ∈ tuplesOf p.records, t.2 > now := by
  intro t ht
  have := h.nextExpiry_min.2 t ht
  omega

theorem PInv.expired_pos {p : Partition} (h : PInv p) {now : Nat} (hn : p.nextExpiry ≤ now) :
    1 ≤ expiredIn p.records now := by
  obtain ⟨t, ht, he⟩ := h.nextExpiry_min.1
  unfold expiredIn
  apply List.countP_pos_iff.mpr
  exact ⟨t, ht, by simp; omega⟩

/-- what `remove_expired_step` does to the partition it pops: untouched while `next_expiry > now`, else its live tuples
    with `size` and `next_expiry` recomputed; `none` when no tuple is left and the partition is dropped -/
def purgeP (now : Nat) (p : Partition) : Option Partition :=
  if p.nextExpiry > now then some p
  else
    match (retainLive p.records now).2.2 with
    | some n =>
      some { p with records := liveRecs p.records now, size := p.size - expiredIn p.records now, nextExpiry := n }
    | none => none

theorem retainLive_some_gt {rs : List (Nat × Tuples)} {now n : Nat} (h : (retainLive rs now).2.2 = some n) :
    n > now := by
  obtain ⟨_, _, h3⟩ := retainLive_spec rs now
  rw [h] at h3
  obtain ⟨t, ht, he⟩ := h3.1
  rw [tuplesOf_liveRecs] at ht
  have := (List.mem_filter.mp ht).2
  simp at this; omega

theorem retainLive_none_count {rs : List (Nat × Tuples)} {now : Nat} (h : (retainLive rs now).2.2 = none) :
    recCount (liveRecs rs now) = 0 := by
  obtain ⟨_, _, h3⟩ := retainLive_spec rs now
  rw [h] at h3
  simp only [OptMin] at h3
  rw [← length_tuplesOf, h3]; rfl

theorem purgeP_of_live {now : Nat} {p : Partition} (h : p.nextExpiry > now) : purgeP now p = some p := by
  unfold purgeP; simp [h]

theorem purgeP_of_dead {now : Nat} {p : Partition} (h : ¬ p.nextExpiry > now) :
    purgeP now p = ((retainLive p.records now).2.2).map fun n =>
      { p with records := liveRecs p.records now, size := p.size - expiredIn p.records now, nextExpiry := n } := by
  unfold purgeP
  rw [if_neg h]
  cases (retainLive p.records now).2.2 <;> rfl

theorem purgeP_some {now : Nat} {p p' : Partition} (hp : PInv p) (h : purgeP now p = some p') :
    PInv p' ∧ p'.records = liveRecs p.records now ∧ p'.lastRead = p.lastRead ∧ p'.nextExpiry > now ∧
      p'.size + expiredIn p.records now = p.size := by
  by_cases hn : p.nextExpiry > now
  · rw [purgeP_of_live hn] at h
    cases h
    have hl := hp.all_live hn
    exact ⟨hp, (liveRecs_eq_self hl).symm, rfl, hn, by rw [expiredIn_eq_zero hl]; rfl⟩
  · rw [purgeP_of_dead hn] at h
    cases hr : (retainLive p.records now).2.2 with
    | none => rw [hr] at h; cases h
    | some n =>
      rw [hr] at h
      cases h
      have h3 := (retainLive_spec p.records now).2.2
      rw [hr] at h3
      have := expiredIn_add_live p.records now
      have := hp.size_eq
      exact ⟨hp.retain now h3, rfl, rfl, retainLive_some_gt hr, by simp only; omega⟩

theorem purgeP_none {now : Nat} {p : Partition} (h : purgeP now p = none) : liveCount now p = 0 := by
  by_cases hn : p.nextExpiry > now
  · rw [purgeP_of_live hn] at h; cases h
  · rw [purgeP_of_dead hn] at h
    exact retainLive_none_count (Option.map_eq_none_iff.mp h)

/-! ## `remove_expired_step` -/

theorem removeExpiredStep_empty {c : PCache} (now : Nat) (h : c.expiryPriority = []) :
    c.removeExpiredStep now = (c, 0) := by
  unfold PCache.removeExpiredStep
  rw [PQ.pop_eq, PQ.minEntry_eq_none.mpr h]; rfl

theorem removeExpiredStep_live {c : PCache} {now : Nat} {k : Name} {e : Nat}
    (hm : PQ.minEntry c.expiryPriority = some (k, e)) (he : e > now) :
    c.removeExpiredStep now =
      ({ c with expiryPriority := AL.set (AL.erase c.expiryPriority k) k e }, 0) := by
  unfold PCache.removeExpiredStep
  rw [PQ.pop_eq, hm]
  simp [he]

theorem removeExpiredStep_purged {c : PCache} {now : Nat} {k : Name} {e : Nat} {p : Partition} {n : Nat}
    (hm : PQ.minEntry c.expiryPriority = some (k, e)) (he : e ≤ now)
    (hp : AL.get c.partitions k = some p) (hn : (retainLive p.records now).2.2 = some n) :
    c.removeExpiredStep now =
      ({ c with partitions := AL.set c.partitions k
                  { p with records := liveRecs p.records now, size := p.size - expiredIn p.records now,
                           nextExpiry := n }
                expiryPriority := AL.set (AL.erase c.expiryPriority k) k n
                currentSize := c.currentSize - expiredIn p.records now }, expiredIn p.records now) := by
  unfold PCache.removeExpiredStep
  rw [PQ.pop_eq, hm]
  have he' : ¬ e > now := by omega
  obtain ⟨h1, h2, _⟩ := retainLive_spec p.records now
  simp only [Option.map_some, he', ↓reduceIte, getPartition_eq, hp, hn, setPartition_eq, PQ_push_eq, h1, h2]

theorem removeExpiredStep_dropped {c : PCache} {now : Nat} {k : Name} {e : Nat} {p : Partition}
    (hm : PQ.minEntry c.expiryPriority = some (k, e)) (he : e ≤ now)
    (hp : AL.get c.partitions k = some p) (hn : (retainLive p.records now).2.2 = none) :
    c.removeExpiredStep now =
      ({ c with partitions := AL.erase c.partitions k
                accessPriority := AL.erase c.accessPriority k
                expiryPriority := AL.erase c.expiryPriority k
                currentSize := c.currentSize - expiredIn p.records now }, expiredIn p.records now) := by
  unfold PCache.removeExpiredStep
  rw [PQ.pop_eq, hm]
  have he' : ¬ e > now := by omega
  obtain ⟨h1, h2, _⟩ := retainLive_spec p.records now
  simp only [Option.map_some, he', ↓reduceIte, getPartition_eq, hp, hn, removePartition_eq, PQ_remove_eq, h2]

theorem Inv.removeExpiredStep_cases {c : PCache} (h : Inv c) (now : Nat) :
    (c.partitions = [] ∧ c.removeExpiredStep now = (c, 0)) ∨
    ∃ k p, AL.get c.partitions k = some p ∧ (∀ kp ∈ c.partitions, p.nextExpiry ≤ kp.2.nextExpiry) ∧
      (c.removeExpiredStep now).2 = expiredIn p.records now ∧
      (c.removeExpiredStep now).1.currentSize + expiredIn p.records now = c.currentSize ∧
      (c.removeExpiredStep now).1.desiredSize = c.desiredSize ∧
      ((∃ p', purgeP now p = some p' ∧
          (c.removeExpiredStep now).1.partitions = AL.set c.partitions k p' ∧
          (c.removeExpiredStep now).1.accessPriority = c.accessPriority ∧
          (c.removeExpiredStep now).1.expiryPriority = AL.set (AL.erase c.expiryPriority k) k p'.nextExpiry) ∨
       (purgeP now p = none ∧
          (c.removeExpiredStep now).1.partitions = AL.erase c.partitions k ∧
          (c.removeExpiredStep now).1.accessPriority = AL.erase c.accessPriority k ∧
          (c.removeExpiredStep now).1.expiryPriority = AL.erase c.expiryPriority k)) := by
  rcases queue_head h.eqNodup h.keysNodup h.eq_get with ⟨hq, hps⟩ | ⟨k, p, hm, hp, hmin⟩
  · exact Or.inl ⟨hps, removeExpiredStep_empty now hq⟩
  · refine Or.inr ⟨k, p, hp, hmin, ?_⟩
    have hm : PQ.minEntry c.expiryPriority = some (k, p.nextExpiry) := hm
    have hpi := h.pinv_of_get hp
    have hcnt := expiredIn_add_live p.records now
    have hsz := hpi.size_eq
    have hle := h.size_le hp
    by_cases he : p.nextExpiry > now
    · rw [removeExpiredStep_live hm he, expiredIn_eq_zero (hpi.all_live he)]
      exact ⟨rfl, rfl, rfl, Or.inl ⟨p, purgeP_of_live he, (AL.set_self hp).symm, rfl, rfl⟩⟩
    · have he' : p.nextExpiry ≤ now := by omega
      cases hn : (retainLive p.records now).2.2 with
      | some n =>
        rw [removeExpiredStep_purged hm he' hp hn]
        exact ⟨rfl, by simp only; omega, rfl, Or.inl ⟨_, by rw [purgeP_of_dead he, hn]; rfl, rfl, rfl, rfl⟩⟩
      | none =>
        rw [removeExpiredStep_dropped hm he' hp hn]
        exact ⟨rfl, by simp only; omega, rfl, Or.inr ⟨by rw [purgeP_of_dead he, hn]; rfl, rfl, rfl, rfl⟩⟩

theorem Inv.removeExpiredStep {c : PCache} (h : Inv c) (now : Nat) : Inv (c.removeExpiredStep now).1 := by
  rcases h.removeExpiredStep_cases now with
    ⟨_, hs⟩ | ⟨k, p, hp, _, _, hcs, _, ⟨p', hpp, h1, h2, h3⟩ | ⟨hpp, h1, h2, h3⟩⟩
  · rw [hs]; exact h
  · have hpi := h.pinv_of_get hp
    obtain ⟨hpi', _, hlr, _, hsz⟩ := purgeP_some hpi hpp
    refine h.setPartition hpi' h1 ?_ ?_ (by rw [hp]; simp only [Option.map_some, Option.getD_some]; omega)
    · rw [h2, hlr]; exact QUpd.same h.aqNodup (h.aq_get_of hp)
    · rw [h3]; exact QUpd.erase_set h.eqNodup k _
  · have h0 : liveCount now p = 0 := purgeP_none hpp
    have := expiredIn_add_liveCount now p
    have := (h.pinv_of_get hp).size_eq
    exact h.remove hp h1 h2 h3 (by omega)

theorem Inv.removeExpiredStep_size {c : PCache} (h : Inv c) (now : Nat) :
    (c.removeExpiredStep now).1.currentSize + (c.removeExpiredStep now).2 = c.currentSize := by
  rcases h.removeExpiredStep_cases now with ⟨_, hs⟩ | ⟨k, p, _, _, hn, hcs, _⟩
  · rw [hs]; rfl
  · rw [hn]; exact hcs

/-! ## `remove_least_recently_used` -/

theorem removeLRU_empty {c : PCache} (h : c.accessPriority = []) : c.removeLRU = (c, 0) := by
  unfold PCache.removeLRU
  rw [PQ.pop_eq, PQ.minEntry_eq_none.mpr h]; rfl

theorem removeLRU_some {c : PCache} {k : Name} {x : Nat} {p : Partition}
    (hm : PQ.minEntry c.accessPriority = some (k, x)) (hp : AL.get c.partitions k = some p) :
    c.removeLRU =
      ({ c with partitions := AL.erase c.partitions k
                accessPriority := AL.erase c.accessPriority k
                expiryPriority := AL.erase c.expiryPriority k
                currentSize := c.currentSize - p.size }, p.size) := by
  unfold PCache.removeLRU
  rw [PQ.pop_eq, hm]
  simp only [Option.map_some, getPartition_eq, hp, removePartition_eq, PQ_remove_eq]

theorem Inv.removeLRU_cases {c : PCache} (h : Inv c) :
    (c.partitions = [] ∧ c.removeLRU = (c, 0)) ∨
    ∃ k p, AL.get c.partitions k = some p ∧ (∀ kp ∈ c.partitions, p.lastRead ≤ kp.2.lastRead) ∧
      c.removeLRU =
        ({ c with partitions := AL.erase c.partitions k
                  accessPriority := AL.erase c.accessPriority k
                  expiryPriority := AL.erase c.expiryPriority k
                  currentSize := c.currentSize - p.size }, p.size) := by
  rcases queue_head h.aqNodup h.keysNodup h.aq_get with ⟨hq, hps⟩ | ⟨k, p, hm, hp, hmin⟩
  · exact Or.inl ⟨hps, removeLRU_empty hq⟩
  · exact Or.inr ⟨k, p, hp, hmin, removeLRU_some hm hp⟩

theorem Inv.removeLRU {c : PCache} (h : Inv c) : Inv c.removeLRU.1 := by
  rcases h.removeLRU_cases with ⟨_, hs⟩ | ⟨k, p, hp, _, hs⟩
  · rw [hs]; exact h
  · rw [hs]
    have := h.size_le hp
    exact h.remove hp rfl rfl rfl (by simp only; omega)

/-! ## `SharedCache` operations -/

theorem Inv.new (d : Nat) : Inv (PCache.new d) := by
  refine ⟨by simp [PCache.new], by simp [PCache.new], rfl, by simp [PCache.new], ?_, by simp [PCache.new], ?_⟩
  · intro k; rfl
  · intro k; rfl

theorem sharedInsert_pos (c : PCache) {rr : RR} (now : Nat) (h : rr.ttl > 0) :
    sharedInsert c rr now = c.upsert rr.name rr.rtype ⟨rr.rtype, rr.fields⟩ (rr.ttl * NANOS) now :=
  if_pos h

theorem sharedInsert_zero (c : PCache) {rr : RR} (now : Nat) (h : rr.ttl = 0) : sharedInsert c rr now = c :=
  if_neg (Nat.not_lt.mpr (Nat.le_of_eq h))

theorem sharedInsert_cases {P : PCache → Prop} (c : PCache) (rr : RR) (now : Nat)
    (hpos : rr.ttl > 0 → P (c.upsert rr.name rr.rtype ⟨rr.rtype, rr.fields⟩ (rr.ttl * NANOS) now))
    (hzero : rr.ttl = 0 → P c) : P (sharedInsert c rr now) := by
  by_cases h : rr.ttl > 0
  · rw [sharedInsert_pos c now h]; exact hpos h
  · rw [sharedInsert_zero c now (Nat.eq_zero_of_not_pos h)]; exact hzero (Nat.eq_zero_of_not_pos h)

theorem Inv.cacheInsert {c : PCache} (h : Inv c) (rr : RR) (now : Nat) : Inv (cacheInsert c rr now) :=
  h.upsert rr.name (rr.ttl * NANOS) now rfl

theorem Inv.sharedInsert {c : PCache} (h : Inv c) (rr : RR) (now : Nat) : Inv (sharedInsert c rr now) :=
  sharedInsert_cases c rr now (fun _ => h.cacheInsert rr now) fun _ => h

theorem sharedInsertAll_induct {P : PCache → Prop} {rrs : List RR} {now : Nat}
    (step : ∀ c, ∀ rr ∈ rrs, P c → P (sharedInsert c rr now)) {c : PCache} (h : P c) :
    P (sharedInsertAll c rrs now) :=
  List.foldlRecOn rrs _ h fun c hc rr hr => step c rr hr hc

theorem Inv.sharedInsertAll {c : PCache} (h : Inv c) (rrs : List RR) (now : Nat) :
    Inv (sharedInsertAll c rrs now) :=
  sharedInsertAll_induct (fun _ rr _ h => h.sharedInsert rr now) h

theorem Inv.cacheGetUnchecked {c : PCache} (h : Inv c) (name : Name) (qtype now : Nat) :
    Inv (cacheGetUnchecked c name qtype now).1 :=
  (cacheGetUnchecked_touched_step c name qtype now).inv h

theorem Inv.cacheGet {c : PCache} (h : Inv c) (name : Name) (qtype now : Nat) :
    Inv (cacheGet c name qtype now).1 :=
  h.cacheGetUnchecked name qtype now

end Resolved
