/-
  C07 over consistent universes: the three descriptions of a resolution — delegation paths, plans (legs linked by
  aliases), walks (referrals with and without glue) — run by the rules of `UniverseRun`; the state a first question
  leaves behind, a later question, a repeated one.
-/
import Resolved.Proofs.UniverseRun

namespace Resolved

open Gen

set_option autoImplicit false

section

variable {cfg : RecCfg} {gp : List RR → List RR} {U : Universe} {zs : Zones} {m : Nat}

/-! ## Delegation paths -/

/-- A delegation path (several servers per zone, the glue of `authReply`) is a row of referrals with glue. -/
theorem WalkRuns.pathM (h : UniNet (uniGlue U) U cfg) (hmU : ∀ E ∈ U, m ≤ E.glueTtl) {q : Question} (hq : QuestionOK q)
    {Y Z : UEntry} {rest vis : List UEntry} (hp : DelegPathM U cfg.hostOrder q Y rest vis Z)
    (hz : (Z.zone.resolve q.name q.qtype).isSome = true) {K : List (Name × Nat)} {S : List Question}
    {ex : List (UEntry × Question)} {f : Nat} {K' : List (Name × Nat)} {V' G' : List UEntry} {out : ResolvedRecord}
    {A : List RR} :
    ∀ {V G : List UEntry}, (∀ C ∈ vis, GluedOK zs K S q C) →
      (∀ Y' ∈ Y :: rest, ∀ ns, Y'.zone.resolve q.name q.qtype = some (.delegation ns) →
        ∀ rr ∈ ns, 0 < rr.ttl → m ≤ rr.ttl) →
      WalkRuns cfg (uniGlue U) U zs m K S q (V ++ vis) (G ++ vis) Z ex f K' V' G' out A →
      WalkRuns cfg (uniGlue U) U zs m K S q V G Y (legExchanges q rest ++ ex) (f + rest.length) K' V' G' out A := by
  induction hp with
  | here Z _ => intro V G _ _ hw; simpa [legExchanges] using hw
  | down Y C Z rest vis sibs nsRrs hY hCs hsibs hres hns hall hlastC hdepth hpath ih =>
    intro V G hok hTn hw
    rw [← List.append_assoc, ← List.append_assoc] at hw
    exact WalkRuns.glued h hmU hq ⟨hCs, hsibs, hres, hns, hall, hdepth⟩ (hTn Y List.mem_cons_self nsRrs hres) hlastC
      (pathM_sub hpath hz) (fun D hD _ => hD)
      (fun D hD => ⟨hD, glueRR_mem_uniGlue (fun D hD => (hsibs D hD).1) hall D hD⟩) hCs
      (fun h1 D hD => (hok D (List.mem_append_left _ hD)).notHost h1) (hok C (List.mem_append_left _ hCs))
      (ih hz (fun D hD => hok D (List.mem_append_right _ hD)) (fun Y' hY' => hTn Y' (List.mem_cons_of_mem _ hY')) hw)

theorem GluedOK.cold {q : Question} {C : UEntry} (hnh : isAddrQ q → q.name ≠ C.host)
    (hmiss : localMiss zs C.host RT_A = true) : GluedOK zs [] [q] q C :=
  ⟨hnh, hmiss, (fun hk => nomatch hk), by
    rw [List.mem_singleton]; exact fun he => (hostQ_ne hnh).1 he.symm, by simp [RECURSION_LIMIT]⟩

/-- From root hints and an empty cache along a delegation path, under the 60 s wrapper: one exchange per server, the NS
    sets and glue of all the servers named cached. -/
theorem resolveRecursive_coldPathM (h : UniNet (uniGlue U) U cfg) (hm : 1 ≤ m) (hmU : ∀ E ∈ U, m ≤ E.glueTtl)
    {q : Question} (hq : QuestionOK q) {R Z : UEntry} {rest vis : List UEntry}
    (hp : DelegPathM U cfg.hostOrder q R rest vis Z) {res : ResolvedRecord} (hexp : expectedAt Z q = some res)
    (hsays : ZoneSaysWF Z.zone q) (hs : UniStartM zs q R rest vis)
    (hTn : ∀ Y' ∈ R :: rest, ∀ ns, Y'.zone.resolve q.name q.qtype = some (.delegation ns) →
      ∀ rr ∈ ns, 0 < rr.ttl → m ≤ rr.ttl) (d now : Nat) :
    ∃ st', resolveRecursive cfg (startCtx zs d now) q = (st', .ok res) ∧
      UniDone cfg U zs [] [] 0 now (legExchanges q (R :: rest)) vis vis [] (now + m * NANOS) res.rrs st' := by
  have hz := expectedAt_isSome hexp
  have hw := WalkRuns.pathM h hmU hq hp hz (K := []) (S := [] ++ [q]) (V := []) (G := [])
    (fun C hC => GluedOK.cold (fun h1 => hs.notHost h1 C hC) (hs.hostsMiss C hC)) hTn
    (WalkRuns.last hq.qtype hexp hsays)
  have hr := RecRuns.enter h
    (EnterOK.cold hq (pathM_ends_mem_universe hp).1 (pathM_sub hp hz) hs.root hs.hints hs.qmiss hs.cand) hw
  rw [Nat.zero_add, List.append_nil, List.nil_append] at hr
  exact hr.recursive hs.fuel (by rw [planDelay_cons, planDelay_leg]; exact hs.time) (UniAt.start U zs d now hm)

theorem resolveRecursive_coldPath (h : UniOK U cfg) (hm : 1 ≤ m) (hmU : ∀ E ∈ U, m ≤ E.glueTtl) {q : Question}
    (hq : QuestionOK q) (hk : rtypeIsUnknown q.qtype = false) {R Z : UEntry} {rest : List UEntry}
    (hp : DelegPath U q R rest Z) (hty : Z.zone.records.Typed) {res : ResolvedRecord} (hexp : expectedAt Z q = some res)
    (hs : UniStart zs q R rest)
    (hTn : ∀ Y' ∈ R :: rest, ∀ ns, Y'.zone.resolve q.name q.qtype = some (.delegation ns) →
      ∀ rr ∈ ns, 0 < rr.ttl → m ≤ rr.ttl) (d now : Nat) :
    ∃ st', resolveRecursive cfg (startCtx zs d now) q = (st', .ok res) ∧
      UniDone cfg U zs [] [] 0 now (legExchanges q (R :: rest)) rest rest [] (now + m * NANOS) res.rrs st' :=
  resolveRecursive_coldPathM (UniNet.ofOK h) hm hmU hq (uni_pathM_of_path h.order hp) hexp
    (uni_zoneSaysWF_of_typed hty q hq.qtype hk)
    ⟨hs.root, hs.hints, hs.qmiss, hs.cand, hs.hostsMiss, hs.notHost, hs.time, hs.fuel⟩ hTn d now

/-! ## Plans -/

/-- `UniLeg` words "`Y` is the deepest zone whose NS set is cached, or the root hints"
    with one list `V` of servers, NS set and address cached alike (`G := V`); the keys are those of the aliases followed
    so far. -/
theorem EnterOK.ofLeg (h : UniOK U cfg) {V : List UEntry} {cn : List Name} {stack : List Question}
    {q : Question} {Y Z : UEntry} {rest : List UEntry} (leg : UniLeg U zs V cn stack q Y rest Z)
    (hz : (Z.zone.resolve q.name q.qtype).isSome = true) (hV : ∀ C ∈ V, C ∈ U) :
    EnterOK U zs (uniAliasKeys cn) V V stack q Y :=
  have hY := (path_mem_universe leg.path).1
  { ok := leg.ok, mem := hY, sub := path_sub leg.path hz
    start := leg.start.imp (fun hh => ⟨hh.1, hh.1, hh.2.1, hh.2.2, uni_not_aliasKey (by decide)⟩) id
    apex := (fun _ => h.apexes), keyA := uni_not_aliasKey (by decide), wf := leg.startWf, depth := leg.depth
    stack := (fun q0 hq0 => ⟨(leg.stackOK q0 hq0).2.1, fun he => (leg.stackOK q0 hq0).1 (by rw [he]; rfl),
      (leg.stackOK q0 hq0).2.2 Y hY⟩)
    qmiss := leg.qmiss, notG := (fun h1 E hE => leg.notHost h1 E (hV E hE)), notV := (fun hh => absurd hh leg.notNS)
    notY := ⟨fun he => leg.notNS (by rw [he]; rfl), (hostQ_ne fun h1 => leg.notHost h1 Y hY).1⟩
    keys := ⟨fun hk => leg.notCN (uni_mem_aliasKeys.mp hk).1, fun hk => leg.notAlias (uni_mem_aliasKeys.mp hk).2⟩
    warm := (warmMissK_aliasKeys zs V cn _ _).trans leg.warm }

theorem WalkRuns.leg (h : UniOK U cfg) {V : List UEntry} {cn : List Name} {stack : List Question}
    {q : Question} {Y Z : UEntry} {rest : List UEntry} (leg : UniLeg U zs V cn stack q Y rest Z)
    (hz : (Z.zone.resolve q.name q.qtype).isSome = true) {ex : List (UEntry × Question)} {f : Nat}
    {K' : List (Name × Nat)} {V' G' : List UEntry} {out : ResolvedRecord} {A : List RR}
    (hw : WalkRuns cfg (uniGlue U) U zs 1 (uniAliasKeys cn) (stack ++ [q]) q (V ++ rest) (V ++ rest) Z ex f K' V' G' out A) :
    WalkRuns cfg (uniGlue U) U zs 1 (uniAliasKeys cn) (stack ++ [q]) q V V Y (legExchanges q rest ++ ex) (f + rest.length)
      K' V' G' out A := by
  have hmem := path_mem_universe leg.path
  refine WalkRuns.pathM (UniNet.ofOK h) h.glueTtl leg.ok (uni_pathM_of_path h.order leg.path) hz
    (fun C hC => ⟨fun h1 => leg.notHost h1 C (hmem.2 C hC), leg.hostsMiss C hC, uni_not_aliasKey (by decide), ?_, ?_⟩)
    (fun _ _ _ _ _ _ hpos => hpos) hw
  · intro hin
    rcases List.mem_append.mp hin with hin | hin
    · exact (leg.stackOK _ hin).2.2 C (hmem.2 C hC) rfl
    · exact (hostQ_ne fun h1 => leg.notHost h1 C (hmem.2 C hC)).1 (List.mem_singleton.mp hin).symm
  · rw [List.length_append]; exact Nat.ne_of_lt leg.depth

/-- The machine on a plan: each leg is `enter`, its referrals, and `last` or `alias`. -/
theorem RecRuns.plan (h : UniOK U cfg) {V : List UEntry} {cn : List Name} {stack : List Question}
    {q : Question} {ex : List (UEntry × Question)} {n : Nat} {res : ResolvedRecord}
    (hplan : UniPlan U zs V cn stack q ex n res) : (∀ C ∈ V, C ∈ U) →
    ∃ K' V' G' A, RecRuns cfg U zs 1 (uniAliasKeys cn) stack q V V ex n K' V' G' res A := by
  have hnet := UniNet.ofOK h
  induction hplan with
  | @final V cn stack q Y Z rest res leg hexp =>
    intro hV
    have hz := expectedAt_isSome hexp
    have hr := RecRuns.enter hnet (EnterOK.ofLeg h leg hz hV)
      (WalkRuns.leg h leg hz (WalkRuns.last leg.ok.qtype hexp leg.says))
    rw [List.append_nil] at hr
    exact ⟨_, _, _, _, hr.mono (by omega)⟩
  | @alias V cn stack q Y Z rest tn rr ex n res' leg hcres htn _ ih =>
    intro hV
    have hz : (Z.zone.resolve q.name q.qtype).isSome = true := by rw [hcres]; rfl
    obtain ⟨K', V', G', A, hr⟩ := ih (fun C hC =>
      (List.mem_append.mp hC).elim (hV C) ((path_mem_universe leg.path).2 C))
    exact ⟨K', V', G', A, (RecRuns.enter hnet (EnterOK.ofLeg h leg hz hV)
      (WalkRuns.leg h leg hz (WalkRuns.alias leg.ok.qtype leg.notCN hcres (leg.says.2 tn rr hcres) htn hr))).mono
        (by omega)⟩

/-- the plan of a question whose zone holds an alias for it: the leg to that zone, then the leg for the target from
    the deepest server of the first leg whose zone encloses the target (`UniStartAlias`). -/
theorem UniPlan.ofAlias {q : Question} (hq : QuestionOK q) (hcn : q.qtype ≠ RT_CNAME)
    {R Z : UEntry} {rest : List UEntry} (hp : DelegPath U q R rest Z) (hsays : ZoneSaysWF Z.zone q)
    {tn : Name} {rr : RR} (hcres : Z.zone.resolve q.name q.qtype = some (.cname tn rr))
    (hq' : QuestionOK (aliasQ q tn)) {Y' Z' : UEntry} {rest' : List UEntry}
    (hp' : DelegPath U (aliasQ q tn) Y' rest' Z') (hsays' : ZoneSaysWF Z'.zone (aliasQ q tn))
    {res' : ResolvedRecord} (hexp' : expectedAt Z' (aliasQ q tn) = some res')
    (hs : UniStartAlias U zs q tn R rest Y' rest') :
    UniPlan U zs [] [] [] q (legExchanges q (R :: rest) ++ legExchanges (aliasQ q tn) (Y' :: rest'))
      (rest.length + 3 + (rest'.length + 3)) (.nonAuthoritative ([rr] ++ res'.rrs) res'.soaRR) := by
  have leg1 : UniLeg U zs [] [] [] q R rest Z :=
    { ok := hq, notNS := hs.notNS, notCN := hcn, path := hp, says := hsays
      start := Or.inr ⟨hs.root, hs.hints⟩
      startWf := by rw [hs.root]; exact Name.fromLabels_root
      depth := by decide
      stackOK := by intro q0 hq0; cases hq0
      qmiss := hs.qmiss
      notHost := fun h1 E hE => (hs.notHost h1 E hE).1
      notAlias := by simp
      warm := by rw [hs.root, ← warmMissK_aliasKeys zs [] []]; exact warmMissK_of_candMiss zs _ hs.cand
      hostsMiss := fun C hC => hs.hostsMiss C (List.mem_append_left _ hC) }
  have leg2 : UniLeg U zs ([] ++ rest) [q.name] ([] ++ [q]) (aliasQ q tn) Y' rest' Z' :=
    { ok := hq', notNS := hs.notNS, notCN := hcn, path := hp', says := hsays'
      start := by
        rcases hs.restart with ⟨h1, h2⟩ | h1
        · exact Or.inl ⟨h1, h2, hs.hostsMiss Y' (List.mem_append_left _ h1)⟩
        · exact Or.inr ⟨by rw [h1]; exact hs.root, by rw [h1]; exact hs.hints⟩
      startWf := hs.restartWf
      depth := by show 1 + 1 < RECURSION_LIMIT; decide
      stackOK := by
        intro q0 hq0
        simp only [List.nil_append, List.mem_singleton] at hq0
        subst hq0
        refine ⟨hs.notNS, fun he => hs.target (by rw [he]; rfl), fun E hE he => ?_⟩
        have h1 : q0.qtype = RT_A := by rw [he]; rfl
        exact (hs.notHost (Or.inl h1) E hE).1 (by rw [he]; rfl)
      qmiss := hs.tmiss
      notHost := fun h1 E hE => (hs.notHost h1 E hE).2
      notAlias := by simp only [aliasQ, List.mem_singleton]; exact hs.target
      warm := hs.warm
      hostsMiss := fun C hC => hs.hostsMiss C (List.mem_append_right _ hC) }
  exact .alias leg1 hcres hs.target (.final leg2 hexp')

/-! ## Walks -/

theorem UniWalk.rrs {K : List (Name × Nat)} {S : List Question} {q : Question} {V G : List UEntry} {Y : UEntry} {ex : List (UEntry × Question)} {f : Nat}
    {V' G' : List UEntry} {res : ResolvedRecord} (hw : UniWalk gp U zs K m S q V G Y ex f V' G' res) :
    ∀ rr ∈ res.rrs, rr.name = q.name ∧ rr.rtype = q.qtype := by
  induction hw with
  | last hexp hsays => exact expectedAt_rrs hexp hsays
  | glued _ _ _ _ _ _ _ _ ih => exact ih
  | glueless _ _ _ _ _ _ _ _ _ _ _ _ ih => exact ih

theorem UniWalk.sub {K : List (Name × Nat)} {S : List Question} {q : Question} {V G : List UEntry} {Y : UEntry} {ex : List (UEntry × Question)} {f : Nat}
    {V' G' : List UEntry} {res : ResolvedRecord} (hw : UniWalk gp U zs K m S q V G Y ex f V' G' res) :
    q.name.isSubdomainOf Y.apex = true := by
  cases hw with
  | last hexp _ => exact uni_resolve_sub (expectedAt_isSome hexp)
  | glued _ hres _ _ _ _ _ _ => exact uni_resolve_sub (by rw [hres]; rfl)
  | glueless _ hres _ _ _ _ _ _ _ _ _ => exact uni_resolve_sub (by rw [hres]; rfl)

/-- `EnterOK` for the nested resolution of a name server's address: an `A` question, so the clauses about NS questions
    are empty; `NestedStart` says where the walk up ends, `HostUnknown` supplies the clauses about the question. -/
theorem EnterOK.ofNested {V G : List UEntry} {K : List (Name × Nat)} {S : List Question} {q : Question} {C Y2 : UEntry}
    (ha : ∀ E ∈ U, ∀ E' ∈ U, E.apex = E'.apex → E.host = E'.host) (hunk : HostUnknown zs K G S q C)
    (hstart : NestedStart U zs K V G (S ++ [uniHostQ C.host]) C Y2) : EnterOK U zs K V G S (uniHostQ C.host) Y2 :=
  have hnot : uniHostQ Y2.host ∉ S ∧ uniHostQ Y2.host ≠ uniHostQ C.host := by
    have := hstart.stack
    simp only [List.mem_append, List.mem_singleton, not_or] at this
    exact this
  { ok := hunk.ok, mem := hstart.mem, sub := hstart.sub, start := hstart.start, apex := (fun _ => ha)
    keyA := hstart.key, wf := hstart.wf, depth := hunk.depth
    stack := (fun q0 hq0 => ⟨fun he => hunk.stack.1 (he ▸ hq0), fun he => hunk.noNS q0 hq0 (by rw [he]; rfl),
      fun he => hnot.1 (he ▸ hq0)⟩)
    qmiss := hunk.missA, notG := (fun _ E hE he => hunk.notG E hE he.symm)
    notV := (fun hh => absurd (show RT_A = RT_NS from hh) (by decide))
    notY := ⟨fun he => absurd (show RT_A = RT_NS from congrArg Question.qtype he) (by decide), fun he => hnot.2 he.symm⟩
    keys := ⟨hunk.keys.1, hunk.keys.2.2⟩, warm := hstart.warm }

/-- The fuel index of `UniWalk` counts frames of the machine (`candidateLoop`, `tryTypes`, `resolveRec`).  It charges
    2 for a referral with glue and `fN + f + 6` for one without; the rules need `f + 1` and, the nested run being
    entered at `fN + 3`, `fN + f + 5`: one unit per referral is spare, which the two `.mono` take up. -/
theorem WalkRuns.walk (h : UniOKG gp U cfg) (hmU : ∀ E ∈ U, m ≤ E.glueTtl) {K : List (Name × Nat)} {S : List Question}
    {q : Question} {V G : List UEntry} {Y : UEntry} {ex : List (UEntry × Question)} {f : Nat} {V' G' : List UEntry}
    {res : ResolvedRecord} (hw : UniWalk gp U zs K m S q V G Y ex f V' G' res) :
    QuestionOK q → WalkRuns cfg gp U zs m K S q V G Y ex f K V' G' res res.rrs := by
  have hnet := UniNet.ofOKG h
  induction hw with
  | last hexp hsays => exact fun hq => WalkRuns.last hq.qtype hexp hsays
  | @glued S q V G Y C ttl ex f V' G' res hC hres httl hdepth hsub hglue hok next ih =>
    intro hq
    exact (WalkRuns.glued hnet hmU hq (.single hC hres httl.1 hdepth)
      (fun rr hr _ => by rw [List.mem_singleton.mp hr]; exact httl.2) (by rw [uni_nsHosts_single, h.order]; rfl) hsub
      (fun D hD _ => hD) (fun D hD => by rw [List.mem_singleton.mp hD]; exact ⟨List.mem_cons_self, hglue⟩)
      List.mem_cons_self (fun h1 D hD => by rw [List.mem_singleton.mp hD]; exact hok.notHost h1) hok (ih hq)).mono
        (Nat.le_succ _)
  | @glueless S q V G Y C Y2 ttl exN fN V1 G1 resH ex f V' G' res hC hres httl hdepth hsub hglue hunk hstart nested
      haddr next ihN ih =>
    intro hq
    have hrrs := UniWalk.rrs nested
    exact (WalkRuns.glueless hnet h.order hmU hq hC hres httl hdepth hsub hglue hunk
      (RecRuns.enter hnet (EnterOK.ofNested h.apexes hunk hstart) (ihN hunk.ok))
      ⟨haddr.1, fun rr hr => ⟨(hrrs rr hr).1, (hrrs rr hr).2, haddr.2 rr hr⟩⟩ (ih hq)).mono
        (by rw [Nat.add_right_comm fN 3 f]; exact Nat.le_succ _)

theorem nsTtlOK_ttl {m : Nat} {q : Question} {Y : UEntry} (h : nsTtlOK m q Y = true) {ns : List RR}
    (hres : Y.zone.resolve q.name q.qtype = some (.delegation ns)) : ∀ rr ∈ ns, m ≤ rr.ttl := by
  unfold nsTtlOK at h
  rw [hres] at h
  simpa using h

/-- A delegation path whose referrals carry glue is a row of `glued` steps, 2 units of the walk's cost each. -/
theorem UniWalk.ofPath {K : List (Name × Nat)} {S : List Question} {q : Question} {Y P : UEntry} {rest : List UEntry}
    (hp : DelegPath U q Y rest P) (hz : (P.zone.resolve q.name q.qtype).isSome = true)
    {ex : List (UEntry × Question)} {f : Nat} {V' G' : List UEntry} {res : ResolvedRecord} :
    ∀ {V G : List UEntry}, (∀ C ∈ rest, GluedOK zs K S q C ∧ ∀ ttl, C.glueRR ∈ gp [C.nsRR ttl]) →
      (∀ Y' ∈ Y :: rest, nsTtlOK m q Y' = true) →
      UniWalk gp U zs K m S q (V ++ rest) (G ++ rest) P ex f V' G' res →
      UniWalk gp U zs K m S q V G Y (legExchanges q rest ++ ex) (f + 2 * rest.length) V' G' res := by
  induction hp with
  | here Z _ => intro V G _ _ hw; simpa [legExchanges] using hw
  | down Y C Z rest ttl hY hC hres httl hdepth hpath ih =>
    intro V G hok hns hw
    rw [show V ++ C :: rest = (V ++ [C]) ++ rest by simp, show G ++ C :: rest = (G ++ [C]) ++ rest by simp] at hw
    exact .glued hC hres ⟨httl, nsTtlOK_ttl (hns Y List.mem_cons_self) hres _ List.mem_cons_self⟩ hdepth
      (path_sub hpath hz) ((hok C List.mem_cons_self).2 ttl) (hok C List.mem_cons_self).1
      (ih hz (fun D hD => hok D (List.mem_cons_of_mem _ hD)) (fun Y' hY' => hns Y' (List.mem_cons_of_mem _ hY')) hw)

/-- The walk of `C07_universe_glueless_one`: the glued path `R … P` for `q`, the referral `P → Z2` without glue, nested
    in it the glued path `Y2 … Z1` for `uniHostQ Z2.host`, then `Z2` answers.  Cost: `ofPath` charges 2 per referral
    of either path, `UniWalk.glueless` `fN + f + 6` with `fN = 2 * rest2.length` and `f = 0` (`Z2` answers at once). -/
theorem UniWalk.gluelessOne {q : Question} (hq : QuestionOK q)
    (hk : rtypeIsUnknown q.qtype = false) {R P Z2 Y2 Z1 : UEntry} {rest rest2 : List UEntry} {ttl2 : Nat}
    (hp : DelegPath U q R rest P) (hZ2 : Z2 ∈ U)
    (hres2 : P.zone.resolve q.name q.qtype = some (.delegation [Z2.nsRR ttl2])) (httl2 : 0 < ttl2)
    (hdepth2 : P.apex.labels.length < Z2.apex.labels.length)
    (hp2 : DelegPath U (uniHostQ Z2.host) Y2 rest2 Z1)
    (hty1 : Z1.zone.records.Typed) (hty2 : Z2.zone.records.Typed)
    (hs : UniStartGlueless gp U zs m q R rest Z2 ttl2 Y2 rest2)
    {rrsH : List RR} (hexpH : expectedAt Z1 (uniHostQ Z2.host) = some (.nonAuthoritative rrsH none))
    (haddr : ∀ rr ∈ rrsH, rr.fields = [.a Z2.addr] ∧ m ≤ rr.ttl)
    {res : ResolvedRecord} (hexp : expectedAt Z2 q = some res) :
    ∃ V' G', UniWalk gp U zs [] m [q] q [] [] R
      (legExchanges q rest ++ ((Y2, uniHostQ Z2.host) :: legExchanges (uniHostQ Z2.host) rest2 ++ [(Z2, q)]))
      (2 * rest2.length + 6 + 2 * rest.length) V' G' res := by
  have hP : (P.zone.resolve q.name q.qtype).isSome = true := by rw [hres2]; rfl
  have hZ1 := expectedAt_isSome hexpH
  have hhq := hs.hostOK
  have hnotZ2 : isAddrQ q → q.name ≠ Z2.host := fun h1 => hs.notHost h1 Z2 (List.mem_append_right _ List.mem_cons_self)
  have hne := hostQ_ne hnotZ2
  have hunk : HostUnknown zs [] ([] ++ rest) [q] q Z2 :=
    ⟨hnotZ2, hs.unknown.1, hs.unknown.2.1, hs.unknown.2.2, ⟨nofun, nofun, nofun⟩,
      by simp only [List.mem_singleton]; exact ⟨fun he => hne.1 he.symm, fun he => hne.2 he.symm⟩,
      by simp [RECURSION_LIMIT], fun q0 hq0 => by rw [List.mem_singleton.mp hq0]; exact hs.notNS, hhq⟩
  have hnotin : ∀ C ∈ Y2 :: rest2, uniHostQ C.host ∉ [q] ++ [uniHostQ Z2.host] := fun C hC => by
    have h1 := hs.nestedHosts C hC
    simp only [List.cons_append, List.nil_append, List.mem_cons, List.not_mem_nil, or_false, not_or]
    exact ⟨fun he => h1.2 he.symm, fun he => h1.1 (congrArg Question.name he)⟩
  have hstart : NestedStart U zs [] (([] ++ rest) ++ [Z2]) ([] ++ rest) ([q] ++ [uniHostQ Z2.host]) Z2 Y2 :=
    ⟨(path_mem_universe hp2).1, hs.start.elim
        (fun ⟨h1, h2⟩ => Or.inl ⟨List.mem_append_left _ h1, h1, h2, hs.hostsMiss Y2 (List.mem_append_left _ h1), nofun⟩)
        (fun h1 => Or.inr ⟨by rw [h1]; exact hs.root, by rw [h1]; exact hs.hints⟩),
      nofun, hs.wf, path_sub hp2 hZ1, hs.warm, hnotin Y2 List.mem_cons_self⟩
  have hsaysH := uni_zoneSaysWF_of_typed hty1 (uniHostQ Z2.host) hhq.qtype (by show rtypeIsUnknown RT_A = false; decide)
  -- the address of `Z2`'s host: from `Y2` along `rest2`
  have nested := UniWalk.ofPath (gp := gp) (zs := zs) (m := m) (K := []) (S := [q] ++ [uniHostQ Z2.host]) hp2 hZ1
    (V := ([] ++ rest) ++ [Z2]) (G := [] ++ rest)
    (fun C hC => ⟨⟨fun _ he => (hs.nestedHosts C (List.mem_cons_of_mem _ hC)).1 he.symm,
      hs.hostsMiss C (List.mem_append_right _ hC), nofun, hnotin C (List.mem_cons_of_mem _ hC), by simp [RECURSION_LIMIT]⟩,
      hs.glued C (List.mem_append_right _ hC)⟩)
    hs.nsTtl.2 (.last hexpH hsaysH)
  -- the question itself: with glue down to `P`, without to `Z2`
  have hw := UniWalk.ofPath hp hP (V := []) (G := [])
    (fun C hC => ⟨GluedOK.cold (fun h1 => hs.notHost h1 C (List.mem_append_left _ hC))
      (hs.hostsMiss C (List.mem_append_left _ hC)), hs.glued C (List.mem_append_left _ hC)⟩)
    hs.nsTtl.1
    (.glueless (fN := 0 + 2 * rest2.length) (f := 0) (resH := .nonAuthoritative rrsH none) hZ2 hres2 ⟨httl2, nsTtlOK_ttl (hs.nsTtl.1 P (path_end_mem_servers hp)) hres2 _ List.mem_cons_self⟩ hdepth2
      (uni_resolve_sub (expectedAt_isSome hexp)) hs.glueless hunk hstart nested
      ⟨expectedAt_ne_nil hexpH, haddr⟩ (.last hexp (uni_zoneSaysWF_of_typed hty2 _ hq.qtype hk)))
  simp only [List.append_nil, Nat.zero_add, Nat.add_zero] at hw
  exact ⟨_, _, hw⟩

/-! ## The state a first question leaves behind; later questions -/

/-- The state a first question leaves behind (the glue of `authReply`; all TTLs met on the way at least `m ≥ 1` s);
    under the question's own key exactly the records of a positive answer. -/
theorem resolveRecursive_coldPath_cache (h : UniOK U cfg) {q : Question} (hq : QuestionOK q)
    (hk : rtypeIsUnknown q.qtype = false) (hnotNS : q.qtype ≠ RT_NS) {R Z : UEntry} {rest : List UEntry}
    (hp : DelegPath U q R rest Z) (hty : Z.zone.records.Typed) (hs : UniStart zs q R rest) (d now : Nat)
    {res : ResolvedRecord} (hexp : expectedAt Z q = some res) (hm : 1 ≤ m) (hg : ∀ E ∈ U, m ≤ E.glueTtl)
    (hns : ∀ Y ∈ R :: rest, ∀ ns, Y.zone.resolve q.name q.qtype = some (.delegation ns) →
      ∀ rr ∈ ns, 0 < rr.ttl → m ≤ rr.ttl)
    (K : List (Name × Nat)) (hK : res.rrs ≠ [] → (q.name, q.qtype) ∈ K) :
    ∃ st1, resolveRecursive cfg (startCtx zs d now) q = (st1, .ok res) ∧ st1.ctx.zones = zs ∧ st1.ctx.stack = [] ∧
      uni2_Cache rest rest K st1.ctx.cache (now + m * NANOS) ∧
      ((res.rrs.map (·.fields)).Nodup → (∀ rr ∈ res.rrs, 0 < rr.ttl) →
        tuplesAt st1.ctx.cache q.name q.qtype = res.rrs.map (storedTuple now)) := by
  have hrrs := expectedAt_rrs hexp (uni_zoneSaysWF_of_typed hty q hq.qtype hk)
  obtain ⟨st1, h1, hd⟩ := resolveRecursive_coldPath h hm hg hq hk hp hty hexp hs hns d now
  obtain ⟨c1, h6, h7⟩ := hd.cache
  refine ⟨st1, h1, hd.zones, hd.stack, ?_, ?_⟩
  · exact hd.cache_with (fun _ hC => hC) (fun _ hk => nomatch hk)
      (fun rr hrr _ => .key (by rw [(hrrs rr hrr).1, (hrrs rr hrr).2]; exact hK (List.ne_nil_of_mem hrr)))
      (fun C hC => Or.inl hC)
  · intro hnd hpos
    have hempty : tuplesAt c1 q.name q.qtype = [] :=
      uni2_Sound.nil_of_fresh h7.sound q.name q.qtype (fun hh E hE he => hs.notHost hh E hE he.symm)
        (fun hh => absurd hh hnotNS) (fun hk => nomatch hk)
    rw [h6, tuplesAt_sharedInsertAll_fresh q.name q.qtype now res.rrs c1
      (fun rr hr => ⟨(hrrs rr hr).1, (hrrs rr hr).2, hpos rr hr⟩) hnd (by rw [hempty]; simp), hempty]
    rfl

theorem UniSibling.subset {K K' : List (Name × Nat)} {R Z : UEntry} {rest : List UEntry} {q2 : Question}
    (h : UniSibling zs K R rest Z q2) (hK : ∀ k ∈ K', k ∈ K) : UniSibling zs K' R rest Z q2 :=
  { h with
    fresh := ⟨fun hc => h.fresh.1 (hK _ hc), fun hc => h.fresh.2 (hK _ hc)⟩
    warm := warmMissK_subset zs rest hK _ _ h.warm }

/-- `EnterOK` for a later question that the zone of `Z` answers: `UniSibling` says that `Z` is a server of the earlier
    path (its NS set and address cached by then) or the root. -/
theorem EnterOK.ofSibling (ha : ∀ E ∈ U, ∀ E' ∈ U, E.apex = E'.apex → E.host = E'.host) {K : List (Name × Nat)}
    {R Z : UEntry} {rest : List UEntry} {q2 : Question} (hs2 : UniSibling zs K R rest Z q2) (hZ : Z ∈ U)
    (hsub : q2.name.isSubdomainOf Z.apex = true) (hroot : R.apex = Name.root) (hints : RootHints zs R.host R.addr)
    (hmiss : ∀ C ∈ rest, localMiss zs C.host RT_A = true) (hK2 : (Z.apex, RT_NS) ∉ K) (hK3 : (Z.host, RT_A) ∉ K) :
    EnterOK U zs K rest rest [] q2 Z :=
  { ok := hs2.ok, mem := hZ, sub := hsub
    start := hs2.start.elim (fun hh => Or.inl ⟨hh.1, hh.1, hh.2, hmiss Z hh.1, hK2⟩)
      fun hh => Or.inr ⟨by rw [hh]; exact hroot, by rw [hh]; exact hints⟩
    apex := (fun _ => ha), keyA := hK3, wf := hs2.wf, depth := (by decide), stack := (fun _ hq0 => nomatch hq0)
    qmiss := hs2.qmiss, notG := hs2.notHost, notV := (fun hh => absurd hh hs2.notNS)
    notY := ⟨fun he => hs2.notNS (by rw [he]; rfl), hs2.start.elim
      (fun hh he => hs2.notHost (Or.inl (by rw [he]; rfl)) Z hh.1 (by rw [he]; rfl))
      fun hh => by rw [hh]; exact (miss_ne_hints_question hints q2 hs2.qmiss).2⟩
    keys := hs2.fresh, warm := hs2.warm }

theorem UniAt.later {V G : List UEntry} {K : List (Name × Nat)} {T : Nat} {st1 : St} {now' : Nat}
    (hz : st1.ctx.zones = zs) (hc : uni2_Cache V G K st1.ctx.cache T) (hV : ∀ C ∈ V, C ∈ U) (hG : ∀ C ∈ G, C ∈ U)
    (h1 : now' + NANOS ≤ T) (h2 : T ≤ now' + m * NANOS) : UniAt U zs [] V G K T m now' ⟨laterCtx st1 now', Run.empty⟩ :=
  ⟨hz, rfl, rfl, hc, hV, hG, h1, h2, rfl⟩

/-- A repeated question whose records the cache holds, each with a full second left: no exchange. -/
theorem resolveRecursive_cached (cfg : RecCfg) (q : Question) (hqt : lookupNat queryTypeFromU16 q.qtype = none) (ctx : Ctx)
    (hstack : ctx.stack = []) (hmiss : localMiss ctx.zones q.name q.qtype = true) (now : Nat) (rrs : List RR)
    (hne : rrs ≠ []) (hts : tuplesAt ctx.cache q.name q.qtype = rrs.map (storedTuple now))
    (hall : ∀ rr ∈ rrs, rr.name = q.name ∧ ctx.now + NANOS ≤ now + rr.ttl * NANOS) :
    (resolveRecursive cfg ctx q).2 = .ok (.nonAuthoritative (rrs.map (cachedRR now ctx.now)) none) ∧
    (resolveRecursive cfg ctx q).1.run = Run.empty ∧
    (resolveRecursive cfg ctx q).1.ctx.stack = [] := by
  have hw : q.qtype ≠ QTYPE_WILDCARD := by
    intro hw; rw [hw] at hqt; revert hqt; decide
  have hget : ctx.reads q.name q.qtype = rrs.map (cachedRR now ctx.now) :=
    cacheGet_stored ctx.cache q.name q.qtype now ctx.now rrs hqt hts hall
  have hl : ctx.stack.length ≠ RECURSION_LIMIT := by rw [hstack]; simp [RECURSION_LIMIT]
  have hd : q ∉ ctx.stack := by rw [hstack]; simp
  rw [resolveRecursive_local_done cfg (resolveLocal_cache_answer RECURSION_LIMIT hl hd (uni_zoneFalls_of_miss hmiss) hw
    hget fun he => hne (List.map_eq_nil_iff.mp he))]
  exact ⟨rfl, rfl, (resolveLocal_stack _ _ _).trans hstack⟩

end

end Resolved
