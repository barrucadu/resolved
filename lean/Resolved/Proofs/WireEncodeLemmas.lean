/-
  Encoder/decoder round trip (C04), the base: octets, big-endian integers as the decoder reads
  them, the shape of the RDATA layouts (`LayoutOK`), the most octets a field can take (`fieldMaxLen`) and the two
  flag octets of the header.
-/
import Resolved.Proofs.WireDecodeLemmas

namespace Resolved

open Gen

theorem u8_toNat (n : Nat) (h : n < 256) : (u8 n).toNat = n := by
  simp [u8]; omega

theorem u8_toNat_mod (n : Nat) : (u8 n).toNat = n % 256 := by
  simp [u8]

@[simp] theorem u16Bytes_length (v : Nat) : (u16Bytes v).length = 2 := rfl
@[simp] theorem u32Bytes_length (v : Nat) : (u32Bytes v).length = 4 := rfl

/-! ## Big-endian integers

The readers are characterised by the octets they find (`nextU*_of`); reading back what `u16Bytes` /
`u32Bytes` wrote is then arithmetic on the value alone. -/

theorem getElem?_mid (pre xs : List UInt8) (i : Nat) :
    (pre ++ xs)[pre.length + i]? = xs[i]? := by
  rw [List.getElem?_append_right (Nat.le_add_right _ _), Nat.add_sub_cancel_left]

theorem nextU8_of {buf : List UInt8} {pos : Nat} {a : UInt8} (h0 : buf[pos]? = some a) :
    nextU8 buf pos = some (a.toNat, pos + 1) := by
  obtain ⟨hl, rfl⟩ := List.getElem?_eq_some_iff.mp h0
  rw [nextU8, dif_pos hl]

theorem nextU16_of {buf : List UInt8} {pos : Nat} {a c : UInt8} (h0 : buf[pos]? = some a)
    (h1 : buf[pos + 1]? = some c) :
    nextU16 buf pos = some (a.toNat * 256 + c.toNat, pos + 2) := by
  obtain ⟨_, rfl⟩ := List.getElem?_eq_some_iff.mp h0
  obtain ⟨hl, rfl⟩ := List.getElem?_eq_some_iff.mp h1
  rw [nextU16, dif_pos hl]

theorem nextU32_of {buf : List UInt8} {pos : Nat} {a c d e : UInt8} (h0 : buf[pos]? = some a)
    (h1 : buf[pos + 1]? = some c) (h2 : buf[pos + 2]? = some d) (h3 : buf[pos + 3]? = some e) :
    nextU32 buf pos
      = some (((a.toNat * 256 + c.toNat) * 256 + d.toNat) * 256 + e.toNat, pos + 4) := by
  obtain ⟨_, rfl⟩ := List.getElem?_eq_some_iff.mp h0
  obtain ⟨_, rfl⟩ := List.getElem?_eq_some_iff.mp h1
  obtain ⟨_, rfl⟩ := List.getElem?_eq_some_iff.mp h2
  obtain ⟨hl, rfl⟩ := List.getElem?_eq_some_iff.mp h3
  rw [nextU32, dif_pos hl]

theorem be16 (v : Nat) (h : v < 65536) : v / 256 % 256 * 256 + v % 256 = v := by
  rw [Nat.mod_eq_of_lt (Nat.div_lt_of_lt_mul h), Nat.div_add_mod']

theorem be32 (v : Nat) (h : v < 4294967296) :
    ((v / 16777216 % 256 * 256 + v / 65536 % 256) * 256 + v / 256 % 256) * 256 + v % 256 = v := by
  have e2 : v / 65536 = v / 256 / 256 := (Nat.div_div_eq_div_mul v 256 256).symm
  have e3 : v / 16777216 = v / 256 / 256 / 256 := by
    rw [Nat.div_div_eq_div_mul, Nat.div_div_eq_div_mul]
  have h3 : v / 256 / 256 / 256 < 256 := e3 ▸ Nat.div_lt_of_lt_mul h
  rw [e3, e2, Nat.mod_eq_of_lt h3, Nat.div_add_mod', Nat.div_add_mod', Nat.div_add_mod']

theorem nextU8_at (pre post : List UInt8) (o : UInt8) :
    nextU8 (pre ++ o :: post) pre.length = some (o.toNat, pre.length + 1) :=
  nextU8_of (getElem?_mid pre (o :: post) 0)

theorem nextU16_at (pre post : List UInt8) (v : Nat) (h : v < 65536) :
    nextU16 (pre ++ u16Bytes v ++ post) pre.length = some (v, pre.length + 2) := by
  rw [List.append_assoc, nextU16_of (getElem?_mid pre _ 0) (getElem?_mid pre _ 1)]
  simp only [u8_toNat_mod, Nat.mod_mod, be16 v h]

theorem nextU32_at (pre post : List UInt8) (v : Nat) (h : v < 4294967296) :
    nextU32 (pre ++ u32Bytes v ++ post) pre.length = some (v, pre.length + 4) := by
  rw [List.append_assoc, nextU32_of (getElem?_mid pre _ 0) (getElem?_mid pre _ 1)
    (getElem?_mid pre _ 2) (getElem?_mid pre _ 3)]
  simp only [u8_toNat_mod, Nat.mod_mod, be32 v h]

theorem takeN_at (pre bs post : List UInt8) :
    takeN (pre ++ bs ++ post) pre.length bs.length = some (bs, pre.length + bs.length) := by
  have hl : (pre ++ bs ++ post).length ≥ pre.length + bs.length := by
    rw [List.length_append, List.length_append]; exact Nat.le_add_right _ _
  rw [takeN, if_pos hl, List.append_assoc, List.drop_left, List.take_left]

/-! ## RDATA layouts -/

/-- `.opaque` consumes the whole RDATA, so it must be the only field of its layout. -/
def LayoutOK (l : List Field) : Prop := l = [.opaque] ∨ Field.opaque ∉ l

instance (l : List Field) : Decidable (LayoutOK l) := by unfold LayoutOK; infer_instance

theorem rdataEncodeLayout_ok : ∀ e ∈ Gen.rdataEncodeLayout, LayoutOK e.2 := by decide

theorem lookupStr_mem {α} (tbl : List (String × α)) (k : String) (v : α)
    (h : lookupStr tbl k = some v) : (k, v) ∈ tbl := by
  revert h
  fun_induction lookupStr tbl k with
  | case1 => exact fun h => nomatch h
  | case2 v' rest => exact fun h => Option.some.inj h ▸ List.mem_cons_self
  | case3 k' v' rest _ ih => exact fun h => List.mem_cons_of_mem _ (ih h)

theorem encodeLayoutOf_of_table {P : List Field → Prop} (hrow : ∀ e ∈ Gen.rdataEncodeLayout, P e.2)
    (hdefault : P [.opaque]) (code : Nat) : P (encodeLayoutOf code) := by
  unfold encodeLayoutOf
  split
  · rename_i l hl
    exact hrow _ (lookupStr_mem _ _ _ hl)
  · exact hdefault

theorem encodeLayoutOf_ok (code : Nat) : LayoutOK (encodeLayoutOf code) :=
  encodeLayoutOf_of_table rdataEncodeLayout_ok (Or.inl rfl) code

/-- most octets a well-formed value of this field kind can take on the wire (names counted
    uncompressed) -/
def fieldMaxLen : Field → Nat
  | .u16 => 2
  | .u32 => 4
  | .a => 4
  | .aaaa => 16
  | .opaque => 65535
  | .name _ => 255

/-! ## Header flag octets -/

/-- first flag octet as `Header::serialise` computes it -/
def flagOctet1 (qr : Bool) (opcode : Nat) (aa tc rd : Bool) : Nat :=
  flag qr HEADER_MASK_QR ||| (HEADER_MASK_OPCODE &&& ((opcode <<< HEADER_OFFSET_OPCODE) % 256))
    ||| flag aa HEADER_MASK_AA ||| flag tc HEADER_MASK_TC ||| flag rd HEADER_MASK_RD

/-- second flag octet as `Header::serialise` computes it -/
def flagOctet2 (ra : Bool) (rcode : Nat) : Nat :=
  flag ra HEADER_MASK_RA ||| (HEADER_MASK_RCODE &&& ((rcode <<< HEADER_OFFSET_RCODE) % 256))

theorem flag_lt (b : Bool) {mask : Nat} (h : mask < 2 ^ 8) : flag b mask < 2 ^ 8 := by
  cases b
  · exact Nat.two_pow_pos 8
  · exact h

theorem flag_and (b : Bool) {mask k : Nat} (h : mask &&& k = 0) : flag b mask &&& k = 0 := by
  cases b
  · exact Nat.zero_and k
  · exact h

theorem flagOctet1_lt (qr : Bool) (op : Nat) (aa tc rd : Bool) : flagOctet1 qr op aa tc rd < 256 :=
  Nat.or_lt_two_pow (Nat.or_lt_two_pow (Nat.or_lt_two_pow (Nat.or_lt_two_pow
    (flag_lt qr (by decide)) (Nat.lt_of_le_of_lt Nat.and_le_left (by decide)))
    (flag_lt aa (by decide))) (flag_lt tc (by decide))) (flag_lt rd (by decide))

theorem flagOctet1_and (qr : Bool) (op : Nat) (aa tc rd : Bool) {mask : Nat}
    (hm : HEADER_MASK_OPCODE &&& mask = 0) :
    flagOctet1 qr op aa tc rd &&& mask =
      flag qr HEADER_MASK_QR &&& mask ||| flag aa HEADER_MASK_AA &&& mask |||
        flag tc HEADER_MASK_TC &&& mask ||| flag rd HEADER_MASK_RD &&& mask := by
  unfold flagOctet1
  rw [Nat.and_or_distrib_right, Nat.and_or_distrib_right, Nat.and_or_distrib_right,
    Nat.and_or_distrib_right, Nat.and_assoc HEADER_MASK_OPCODE _ mask,
    Nat.and_comm ((op <<< HEADER_OFFSET_OPCODE) % 256) mask, ← Nat.and_assoc HEADER_MASK_OPCODE mask,
    hm, Nat.zero_and, Nat.or_zero]

/-- Under each of the four flag masks the opcode term vanishes (`flagOctet1_and`); what remains is a closed
    function of four Booleans, evaluated. -/
theorem flagOctet1_flags (qr : Bool) (op : Nat) (aa tc rd : Bool) :
    testBit (flagOctet1 qr op aa tc rd) HEADER_MASK_QR = qr ∧
    testBit (flagOctet1 qr op aa tc rd) HEADER_MASK_AA = aa ∧
    testBit (flagOctet1 qr op aa tc rd) HEADER_MASK_TC = tc ∧
    testBit (flagOctet1 qr op aa tc rd) HEADER_MASK_RD = rd := by
  unfold testBit
  rw [flagOctet1_and qr op aa tc rd (mask := HEADER_MASK_QR) (by decide),
    flagOctet1_and qr op aa tc rd (mask := HEADER_MASK_AA) (by decide),
    flagOctet1_and qr op aa tc rd (mask := HEADER_MASK_TC) (by decide),
    flagOctet1_and qr op aa tc rd (mask := HEADER_MASK_RD) (by decide)]
  revert qr aa tc rd
  decide

/-- the flags by `flagOctet1_flags`; under the opcode mask the flag terms vanish and the sixteen
    opcodes are evaluated -/
theorem flagOctet1_spec : ∀ (qr : Bool) (op : Nat) (aa tc rd : Bool), op < 16 →
    testBit (flagOctet1 qr op aa tc rd) HEADER_MASK_QR = qr ∧
    opcodeFromU8 ((flagOctet1 qr op aa tc rd &&& HEADER_MASK_OPCODE) >>> HEADER_OFFSET_OPCODE) = op ∧
    testBit (flagOctet1 qr op aa tc rd) HEADER_MASK_AA = aa ∧
    testBit (flagOctet1 qr op aa tc rd) HEADER_MASK_TC = tc ∧
    testBit (flagOctet1 qr op aa tc rd) HEADER_MASK_RD = rd := by
  intro qr op aa tc rd hop
  have hopc : ∀ o : Fin 16, opcodeFromU8 ((HEADER_MASK_OPCODE &&&
      ((o.val <<< HEADER_OFFSET_OPCODE) % 256)) >>> HEADER_OFFSET_OPCODE) = o.val := by decide
  obtain ⟨hqr, haa, htc, hrd⟩ := flagOctet1_flags qr op aa tc rd
  refine ⟨hqr, ?_, haa, htc, hrd⟩
  have h : flagOctet1 qr op aa tc rd &&& HEADER_MASK_OPCODE
      = HEADER_MASK_OPCODE &&& ((op <<< HEADER_OFFSET_OPCODE) % 256) := by
    unfold flagOctet1
    rw [Nat.and_or_distrib_right, Nat.and_or_distrib_right, Nat.and_or_distrib_right,
      Nat.and_or_distrib_right, flag_and qr (by decide), flag_and aa (by decide),
      flag_and tc (by decide), flag_and rd (by decide), Nat.and_comm _ HEADER_MASK_OPCODE,
      ← Nat.and_assoc, Nat.and_self]
    simp only [Nat.zero_or, Nat.or_zero]
  rw [h]
  exact hopc ⟨op, hop⟩

/-- The second flag octet has 32 cases and is needed for `rc < 16` only, so it is evaluated whole; the first has 256
    and its flag bits are needed for every opcode (`encodeMessage_tc`), hence the mask algebra above. -/
theorem flagOctet2_spec : ∀ (ra : Bool) (rc : Nat), rc < 16 →
    flagOctet2 ra rc < 256 ∧
    testBit (flagOctet2 ra rc) HEADER_MASK_RA = ra ∧
    rcodeFromU8 ((flagOctet2 ra rc &&& HEADER_MASK_RCODE) >>> HEADER_OFFSET_RCODE) = rc := by
  decide +kernel

theorem decodeFlags_flagOctets (h : Header) (hwf : HeaderWF h) :
    decodeFlags h.id
      (flagOctet1 h.isResponse h.opcode h.isAuthoritative h.isTruncated h.recursionDesired)
      (flagOctet2 h.recursionAvailable h.rcode) = h := by
  obtain ⟨a1, a2, a3, a4, a5⟩ :=
    flagOctet1_spec h.isResponse h.opcode h.isAuthoritative h.isTruncated h.recursionDesired hwf.2.1
  obtain ⟨_, b1, b2⟩ := flagOctet2_spec h.recursionAvailable h.rcode hwf.2.2
  unfold decodeFlags
  rw [a1, a2, a3, a4, a5, b1, b2]

/-- the octets `Header::serialise` appends -/
def headerBytes (h : Header) : List UInt8 :=
  u16Bytes h.id ++
    [u8 (flagOctet1 h.isResponse h.opcode h.isAuthoritative h.isTruncated h.recursionDesired),
     u8 (flagOctet2 h.recursionAvailable h.rcode)]

theorem encodeHeader_eq (b : WBuf) (h : Header) :
    encodeHeader b h = ⟨b.octets ++ headerBytes h, b.namePointers⟩ := by
  simp [encodeHeader, headerBytes, WBuf.writeU16, WBuf.writeU8, WBuf.writeOctets, flagOctet1,
    flagOctet2]

theorem headerBytes_reads (h : Header) (hwf : HeaderWF h) (rest : List UInt8) :
    nextU16 (headerBytes h ++ rest) 0 = some (h.id, 2) ∧
    nextU8 (headerBytes h ++ rest) 2 = some
      (flagOctet1 h.isResponse h.opcode h.isAuthoritative h.isTruncated h.recursionDesired, 3) ∧
    nextU8 (headerBytes h ++ rest) 3 = some (flagOctet2 h.recursionAvailable h.rcode, 4) := by
  have hf1 := flagOctet1_lt h.isResponse h.opcode h.isAuthoritative h.isTruncated h.recursionDesired
  have hf2 := (flagOctet2_spec h.recursionAvailable h.rcode hwf.2.2).1
  refine ⟨nextU16_at [] _ h.id hwf.1, ?_, ?_⟩
  · rw [← u8_toNat _ hf1]; exact nextU8_of rfl
  · rw [← u8_toNat _ hf2]; exact nextU8_of rfl

end Resolved
