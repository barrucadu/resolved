/-
  C11: the name parser against the name resolution of the specification (`parseDomain_spec`):
  `parse_domain origin (text of a NameRef) = ZTSpec.resolve origin (that NameRef)`, the parser's error standing for
  the specification's (`nameResult`).
-/
import Resolved.Proofs.ZoneTextNames
import Resolved.Spec.ZoneTextSpec

namespace Resolved.ZoneText

open Resolved ZTSpec

def NoDots (ls : List Label) : Prop := ∀ l ∈ ls, ∀ b ∈ l, b ≠ 46

theorem atomOctets_labelAtoms (l : Label) : atomOctets (labelAtoms l) = l := by
  induction l with
  | nil => rfl
  | cons b bs ih =>
    simp only [atomOctets, labelAtoms, List.map_cons, List.map_map] at ih ⊢
    rw [ih]

theorem atomOctets_dottedLabels (ls : List Label) : atomOctets (ZTSpec.dottedLabels ls) = Name.joinDots ls := by
  induction ls with
  | nil => rfl
  | cons l ls ih =>
    cases ls with
    | nil => simp [ZTSpec.dottedLabels, Name.joinDots, atomOctets_labelAtoms]
    | cons m ms =>
      have : atomOctets (ZTSpec.dottedLabels (l :: m :: ms))
          = atomOctets (labelAtoms l) ++ 46 :: atomOctets (ZTSpec.dottedLabels (m :: ms)) := by
        simp [ZTSpec.dottedLabels, atomOctets, dot]
      rw [this, ih, atomOctets_labelAtoms]
      rfl

/-! ## `mkName` against `from_dotted_string` -/

theorem lowerLabel_eq (l : Label) : lowerLabel l = l.map lowerByte := rfl

/-- `mkName` in the terms of `Name.fromDotted_joinDots`. -/
theorem mkName_eq (ls : List Label) :
    mkName ls =
      if DottedChunksOk ls then .ok ⟨ls.map (·.map lowerByte) ++ [[]], ls.length + 1 + sumLen ls⟩
      else .error .badName := by
  have hall : ((ls.map lowerLabel).all fun l => decide (1 ≤ l.length ∧ l.length ≤ 63)) = true ↔
      ∀ c ∈ ls, c ≠ [] ∧ c.length ≤ 63 := by
    simp only [List.all_eq_true, List.forall_mem_map, lowerLabel_eq, List.length_map, decide_eq_true_eq,
      Nat.one_le_iff_ne_zero, ne_eq, List.length_eq_zero_iff, List.map_eq_nil_iff]
  have hsum : ((ls.map lowerLabel).map (fun l => l.length + 1)).sum + 1 = ls.length + 1 + sumLen ls := by
    rw [sum_map_length_succ, List.length_map, show ls.map lowerLabel = ls.map (·.map lowerByte) from rfl,
      sumLen_map_lower]
    omega
  unfold mkName DottedChunksOk
  simp only [hall, hsum]
  rfl

theorem fromDotted_mkName {ls : List Label} (hne : ls ≠ []) (hl : ∀ l ∈ ls, l ≠ []) (hnd : NoDots ls) :
    Name.fromDotted (Name.joinDots ls ++ [46]) = (match mkName ls with | .ok n => some n | .error _ => none) := by
  rw [Name.fromDotted_joinDots hne hl hnd, mkName_eq]
  split <;> rfl

theorem labelOk_iff (l : Label) :
    labelOk false l = true ↔ (1 ≤ l.length ∧ l.length ≤ 63) ∧ ∀ b ∈ l, b.toNat < 128 ∧ b ≠ 46 := by
  simp [labelOk, and_assoc]

theorem labelsOk_props {ls : List Label} (h : ls.all (labelOk false) = true) :
    (∀ l ∈ ls, l ≠ []) ∧ NoDots ls ∧ ∀ l ∈ ls, ∀ b ∈ l, b.toNat < 128 := by
  simp only [List.all_eq_true] at h
  refine ⟨fun l hl he => ?_, fun l hl b hb => (((labelOk_iff l).mp (h l hl)).2 b hb).2,
    fun l hl b hb => (((labelOk_iff l).mp (h l hl)).2 b hb).1⟩
  have := ((labelOk_iff l).mp (h l hl)).1.1
  rw [he] at this
  exact absurd this (by decide)

/-! ## `parse_domain` against `resolve` -/

def nameErr : SpecError → Error
  | .noOrigin => .expectedOrigin
  | _ => .expectedDomainName

def nameResult : Except SpecError Name → Except Error Name
  | .ok n => .ok n
  | .error e => .error (nameErr e)

def nameChars (n : NameRef) : List Char := (atomOctets (nameAtoms n)).map octetAsChar

/-- `mkName` fails with `badName` only, which the parser reports as `ExpectedDomainName`. -/
theorem nameResult_mkName (ls : List Label) :
    nameResult (mkName ls) =
      (match (match mkName ls with | .ok n => some n | .error _ => none) with
       | some n => .ok n
       | none => .error .expectedDomainName) := by
  unfold mkName
  simp only
  split <;> rfl

theorem atomOctets_nameAtoms_abs (ls : List Label) : atomOctets (nameAtoms (.abs ls)) = Name.joinDots ls ++ [46] := by
  cases ls with
  | nil => rfl
  | cons l rest => simp [nameAtoms, atomOctets, ← atomOctets_dottedLabels, dot]

theorem atomOctets_nameAtoms_rel (ls : List Label) (hat : ls ≠ [[64]]) :
    atomOctets (nameAtoms (.rel ls)) = Name.joinDots ls := by
  unfold nameAtoms
  split
  · rename_i heq; cases heq
  · rename_i heq; cases heq
  · rename_i heq; cases heq; exact absurd rfl hat
  · rename_i heq; cases heq; exact atomOctets_dottedLabels ls
  · rename_i heq; cases heq

theorem parseDomain_spec_abs (o : Option Name) (ls : List Label) (hok : ls.all (labelOk false) = true) :
    parseDomain o (nameChars (.abs ls)) = nameResult (resolve o (.abs ls)) := by
  obtain ⟨hlen, hnd, hascii⟩ := labelsOk_props hok
  unfold nameChars
  rw [atomOctets_nameAtoms_abs, parseDomain_octets_abs o _ (by simp)]
  · cases ls with
    | nil => rfl
    | cons l rest =>
      rw [fromDotted_mkName (List.cons_ne_nil l rest) hlen hnd, resolve, nameResult_mkName]
      rfl
  · intro b hb
    rw [List.mem_append, List.mem_singleton] at hb
    exact hb.elim (Name.joinDots_forall (P := fun b => b.toNat < 128) (by decide) hascii b) (· ▸ by decide)

theorem fromRelativeDotted_mkName {on : Name} (hon : TextName on) (ls : List Label) (hne : ls ≠ [])
    (hlen : ∀ l ∈ ls, l ≠ []) (hnd : NoDots ls) :
    Name.fromRelativeDotted on (Name.joinDots ls)
      = (match mkName (ls ++ on.labels.dropLast) with | .ok n => some n | .error _ => none) := by
  rw [Name.fromRelativeDotted_joinDots on hne hlen hnd]
  rcases hon.dotted_cases with ⟨rfl, -⟩ | ⟨os, hos, hlabs, htl, hnr, hdot⟩
  · -- the root: its dotted string is the dot alone
    rw [Name.toDotted_of_isRoot (n := Name.root) rfl, if_pos (show [46].head? = some (46 : UInt8) from rfl),
      show Name.root.labels.dropLast = [] from rfl, List.append_nil]
    exact fromDotted_mkName hne hlen hnd
  · rw [if_neg (hon.toDotted_head?_ne_dot hnr), hdot, hlabs, List.dropLast_concat]
    have hjoin : Name.joinDots ls ++ 46 :: (Name.joinDots os ++ [46]) = Name.joinDots (ls ++ os) ++ [46] := by
      rw [Name.joinDots_append hne hos]; simp
    rw [hjoin, fromDotted_mkName (List.append_ne_nil_of_left_ne_nil hne _)
      (List.forall_mem_append.mpr ⟨hlen, fun l hl => (htl l hl).1⟩)
      (List.forall_mem_append.mpr ⟨hnd, fun l hl b hb => ((htl l hl).2.2 b hb).2.1⟩)]

theorem parseDomain_spec_rel (o : Option Name) (ho : zp_OriginOK o) (ls : List Label)
    (hne : ls ≠ []) (hok : ls.all (labelOk false) = true) (hat : ls ≠ [[64]]) :
    parseDomain o (nameChars (.rel ls)) = nameResult (resolve o (.rel ls)) := by
  obtain ⟨hlen, hnd, hascii⟩ := labelsOk_props hok
  unfold nameChars
  rw [atomOctets_nameAtoms_rel ls hat]
  have hjne := Name.joinDots_ne_nil hne hlen
  have hjasc := Name.joinDots_forall (P := fun b => b.toNat < 128) (by decide) hascii
  rw [parseDomain_octets_rel o hjne hjasc (fun he => hat (Name.joinDots_eq_singleton hlen he))
    (Name.joinDots_getLast?_ne_dot hne hlen hnd)]
  cases o with
  | none => rfl
  | some on =>
    have hon := ho on rfl
    simp only [resolve]
    rw [fromRelativeDotted_mkName hon ls hne hlen hnd, nameResult_mkName]
    rfl

theorem nameRefOk_rel {ls : List Label} (h : nameRefOk false (.rel ls) = true) :
    ls ≠ [] ∧ ls.all (labelOk false) = true ∧ ls ≠ [[64]] := by
  unfold nameRefOk at h
  simp only [Bool.false_or, Bool.and_eq_true, Bool.not_eq_true', bne_iff_ne, ne_eq,
    List.isEmpty_eq_false_iff] at h
  exact ⟨h.1.1, h.1.2, h.2⟩

theorem parseDomain_spec (o : Option Name) (ho : zp_OriginOK o) (n : NameRef)
    (hn : nameRefOk false n = true) :
    parseDomain o (nameChars n) = nameResult (resolve o n) := by
  cases n with
  | abs ls => exact parseDomain_spec_abs o ls (by simpa [nameRefOk] using hn)
  | rel ls =>
    obtain ⟨h1, h2, h3⟩ := nameRefOk_rel hn
    exact parseDomain_spec_rel o ho ls h1 h2 h3
  | «at» =>
    cases o <;> rfl

theorem nameChars_ne_nil (n : NameRef) (hn : nameRefOk false n = true) : nameChars n ≠ [] := by
  unfold nameChars
  cases n with
  | abs ls => rw [atomOctets_nameAtoms_abs]; simp
  | rel ls =>
    obtain ⟨hne, hok, hat⟩ := nameRefOk_rel hn
    rw [atomOctets_nameAtoms_rel ls hat]
    simpa using Name.joinDots_ne_nil hne (labelsOk_props hok).1
  | «at» => simp [nameAtoms, atomOctets]

end Resolved.ZoneText
