/-
  Helper lemmas for Props/C09Owners.lean and the loaded-configuration fixture of Props/C19.lean: the
  owners of the answer section of the server's reply in authoritative-only mode (chain shape of
  every outcome but a referral, CNAME questions), configurations built by the loader.
-/
import Resolved.Proofs.ServerLemmas
import Resolved.Proofs.ResolverLocalChain
import Resolved.Proofs.ResolverLocalTyped

namespace Resolved

open Gen

/-- the context in which `authOnlyResolver zones` resolves every question; 512 is the literal of
    `authOnlyResolver` in Model/Server.lean, the default of `--cache-size` (crates/resolved/src/main.rs,
    `default_value_t = 512`; also `PartitionedCache::new`) and the value of `Gen.CACHE_DEFAULT_SIZE`. -/
abbrev so_ctx (zones : Zones) : Ctx := { zones := zones, cache := PCache.new 512, now := 0, stack := [] }

theorem authOnlyResolver_eq (zones : Zones) (q : Question) (b : Bool) :
    authOnlyResolver zones q b = (resolveAuthoritativeOnly (so_ctx zones) q).2 := rfl

theorem authOnlyResolver_of_local {zones : Zones} {q : Question} {r : LocalResult} (b : Bool)
    (h : (resolveLocal (RECURSION_LIMIT + 1) (so_ctx zones) q).2 = .ok r) :
    authOnlyResolver zones q b = .ok r.toResolved := by
  rw [authOnlyResolver_eq, resolveAuthoritativeOnly_eq, h]; rfl

theorem resolveAuthoritativeOnly_answers_chain (ctx : Ctx) (q : Question)
    (hzone : ZoneAnswersTyped ctx.zones) (hcache : CacheTyped ctx.cache)
    (h5 : q.qtype ≠ RT_CNAME) (h255 : q.qtype ≠ QTYPE_WILDCARD)
    (hnd : ∀ rs s d, (resolveLocal (RECURSION_LIMIT + 1) ctx q).2 ≠ .ok (.delegation rs s d)) :
    ChainShaped q.name q.qtype (srvAnswersOf (resolveAuthoritativeOnly ctx q).2) := by
  cases hr : (resolveAuthoritativeOnly ctx q).2 with
  | error e => exact ChainShaped.nil _ _
  | ok res => exact resolveAuthoritativeOnly_chain hzone hcache h5 h255 hr hnd

theorem resolveAuthoritativeOnly_cname_owners (ctx : Ctx) (q : Question) (h5 : q.qtype = RT_CNAME)
    (hnd : ∀ rs s d, (resolveLocal (RECURSION_LIMIT + 1) ctx q).2 ≠ .ok (.delegation rs s d)) :
    ∀ rr ∈ srvAnswersOf (resolveAuthoritativeOnly ctx q).2, rr.name = q.name := by
  cases hr : (resolveAuthoritativeOnly ctx q).2 with
  | error e => exact nofun
  | ok res =>
    obtain ⟨r, hl, rfl⟩ := resolveAuthoritativeOnly_ok hr
    rcases resolveLocal_cname_owners h5 hl with ⟨rs, s, d, rfl⟩ | h
    · exact absurd hl (hnd rs s d)
    · exact h

/-- a zone as the loaders build it: `Zone::new` and insertions, under an apex `from_labels` accepts. -/
def so_built (z : Zone) : Prop := ∃ apex soa ops, NameOK apex ∧ Zone.build apex soa ops = some z

/-- the fold is that of `loadConfiguration_cases` -/
theorem loadFold_configured : ∀ (l : List Zone) (acc : Option Zones) (cfg : Zones),
    (∀ a, acc = some a → Zones.Configured a) → (∀ z ∈ l, so_built z) →
    l.foldl (fun acc z => acc.bind (·.insertMerge z)) acc = some cfg → Zones.Configured cfg :=
  fun l _ cfg ha hl =>
    List.foldlRecOn (motive := fun acc => ∀ a, acc = some a → Zones.Configured a) l _ ha
      (fun acc ha z hz a' ha' => by
        cases acc with
        | none => cases ha'
        | some a =>
          obtain ⟨apex, soa, ops, hap, hb⟩ := hl z hz
          exact .merge a a' apex soa ops z (ha a rfl) hap hb ha') cfg

theorem loadConfiguration_configured {zoneFiles : List (Option Zone)} {hosts : Option Zone} {cfg : Zones}
    (hfiles : ∀ z, some z ∈ zoneFiles → so_built z) (hhosts : ∀ z, hosts = some z → so_built z)
    (h : loadConfiguration zoneFiles hosts = some cfg) : Zones.Configured cfg := by
  rcases loadConfiguration_cases zoneFiles hosts with ⟨_, hn⟩ | ⟨zs, hz, rfl, rfl, he⟩
  · rw [hn] at h; cases h
  · exact loadFold_configured _ _ cfg (fun a ha => by cases ha; exact .empty)
      (List.forall_mem_append.mpr ⟨fun z hzm => hfiles z (List.mem_map_of_mem hzm),
        fun z hzm => hhosts z (congrArg some (List.mem_singleton.mp hzm).symm)⟩) (he ▸ h)

end Resolved
