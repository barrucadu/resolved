/-
  Encoder/decoder round trip (C04): domain names on the wire.  What `writeLabels` appends is a
  pointer-free name of the grammar; the pointer-table invariants `TableInv` / `NameInv` are kept by
  every step that appends octets and records at most an entry for the end it started from; what
  `encodeName` writes, labels or pointer, is a `WireName`.
-/
import Resolved.Proofs.WireEncodeLemmas

namespace Resolved

open Gen

/-! ## Uncompressed names -/

/-- the octets `writeLabels` appends -/
def flatLabels : List Label → List UInt8
  | [] => []
  | l :: ls => u8 l.length :: (l ++ flatLabels ls)

theorem flatLabels_length (ls : List Label) : (flatLabels ls).length = ls.length + sumLen ls := by
  induction ls with
  | nil => rfl
  | cons l ls ih => simp [flatLabels, ih]; omega

theorem writeLabels_eq (b : WBuf) (ls : List Label) :
    writeLabels b ls = ⟨b.octets ++ flatLabels ls, b.namePointers⟩ := by
  induction ls generalizing b with
  | nil => simp [writeLabels, flatLabels]
  | cons l ls ih => simp [writeLabels, flatLabels, ih, WBuf.writeU8, WBuf.writeOctets]

/-- `WireName` without the pointer constructor: an uncompressed name standing at `pos`. -/
inductive PlainWireName (buf : List UInt8) : Nat → List Label → Nat → Nat → Prop where
  | root {pos : Nat} : buf[pos]? = some 0 → PlainWireName buf pos [[]] 1 (pos + 1)
  | label {pos : Nat} {sz : UInt8} {rest : List Label} {rlen e : Nat} :
      buf[pos]? = some sz → 1 ≤ sz.toNat → sz.toNat ≤ 63 →
      pos + 1 + sz.toNat ≤ buf.length →
      PlainWireName buf (pos + 1 + sz.toNat) rest rlen e →
      PlainWireName buf pos (((buf.drop (pos + 1)).take sz.toNat).map lowerByte :: rest)
        (1 + sz.toNat + rlen) e

theorem PlainWireName.toWireName {buf : List UInt8} {pos : Nat} {ls : List Label} {l e : Nat}
    (h : PlainWireName buf pos ls l e) (s : Nat) : WireName buf s pos ls l e := by
  induction h with
  | root h0 => exact WireName.root h0
  | label h0 h1 h2 h3 _ ih => exact WireName.label h0 h1 h2 h3 ih

theorem PlainWireName.end_eq {buf : List UInt8} {pos : Nat} {ls : List Label} {l e : Nat}
    (h : PlainWireName buf pos ls l e) : e = pos + l := by
  induction h with
  | root _ => rfl
  | label _ _ _ _ _ ih => omega

theorem drop_eq_append_bound {l a b : List UInt8} {n : Nat} (h : l.drop n = a ++ b)
    (ha : 1 ≤ a.length) : n + a.length ≤ l.length := by
  have := congrArg List.length h
  rw [List.length_drop, List.length_append] at this
  omega

theorem plainWireName_of_drop (ls : List Label) :
    ∀ (buf : List UInt8) (pos : Nat) (post : List UInt8), LabelsShape ls → (∀ l ∈ ls, LabelOK l) →
      buf.drop pos = flatLabels ls ++ post →
      PlainWireName buf pos ls (ls.length + sumLen ls) (pos + (ls.length + sumLen ls)) := by
  induction ls with
  | nil => intro _ _ _ h; exact absurd rfl h.1
  | cons l ls ih =>
    intro buf pos post hshape hok hd
    have h0 : buf[pos]? = some (u8 l.length) := by
      rw [← Nat.add_zero pos, ← List.getElem?_drop, hd]; rfl
    rcases LabelsShape.of_cons l ls hshape with ⟨rfl, rfl⟩ | ⟨_, hl, hshape'⟩
    · exact PlainWireName.root h0
    · have hokl := hok l List.mem_cons_self
      have h63 : l.length ≤ 63 := hokl.1
      have h1 : 1 ≤ l.length := List.length_pos_iff.mpr hl
      have hsz : (u8 l.length).toNat = l.length := u8_toNat _ (by omega)
      have hd1 : buf.drop (pos + 1) = l ++ (flatLabels ls ++ post) := by
        rw [← List.drop_drop, hd]; exact List.append_assoc l _ _
      have hd2 : buf.drop (pos + 1 + l.length) = flatLabels ls ++ post := by
        rw [← List.drop_drop, hd1, List.drop_left]
      have hbound := drop_eq_append_bound hd1 h1
      have ih' := ih buf _ post hshape' (fun x hx => hok x (List.mem_cons_of_mem _ hx)) hd2
      rw [← hsz] at ih' hbound
      have hw := PlainWireName.label h0 (by rw [hsz]; exact h1) (by rw [hsz]; exact h63)
        hbound ih'
      rw [hsz, hd1, List.take_left, hokl.map_lower] at hw
      have hlen : (l :: ls).length + sumLen (l :: ls) = 1 + l.length + (ls.length + sumLen ls) := by
        rw [List.length_cons, sumLen_cons]; omega
      rw [hlen, ← Nat.add_assoc pos, ← Nat.add_assoc pos]
      exact hw

/-! ## Octets at an offset; the decoder on an uncompressed copy -/

/-- The octets `xs` stand in `buf` at offset `off`.  With explicit surroundings, not by `drop`/`take`, so that it
    survives appending to `buf` (`HasAt.append`): this is how `NameInv` keeps the copies its pointers address. -/
def HasAt (buf : List UInt8) (off : Nat) (xs : List UInt8) : Prop :=
  ∃ pre post, buf = pre ++ xs ++ post ∧ pre.length = off

theorem HasAt.append {buf : List UInt8} {off : Nat} {xs : List UInt8} (h : HasAt buf off xs)
    (y : List UInt8) : HasAt (buf ++ y) off xs := by
  obtain ⟨pre, post, rfl, hp⟩ := h
  exact ⟨pre, post ++ y, by simp, hp⟩

theorem HasAt.bound {buf : List UInt8} {off : Nat} {xs : List UInt8} (h : HasAt buf off xs) :
    off + xs.length ≤ buf.length := by
  obtain ⟨pre, post, rfl, hp⟩ := h
  simp; omega

theorem HasAt.drop {buf : List UInt8} {off : Nat} {xs : List UInt8} (h : HasAt buf off xs) :
    ∃ post, buf.drop off = xs ++ post := by
  obtain ⟨pre, post, rfl, rfl⟩ := h
  exact ⟨post, by rw [List.append_assoc, List.drop_left]⟩

theorem HasAt.slice {buf : List UInt8} {off : Nat} {xs : List UInt8} (h : HasAt buf off xs) :
    (buf.drop off).take xs.length = xs := by
  obtain ⟨post, hd⟩ := h.drop
  rw [hd, List.take_left]

theorem NameWF.len_eq {n : Name} (h : NameWF n) : (flatLabels n.labels).length = n.len := by
  rw [flatLabels_length]; exact h.2.2.1.symm

theorem NameWF.len_pos {n : Name} (h : NameWF n) : 1 ≤ n.len := by
  have := h.1.1
  rw [h.2.2.1]
  cases hl : n.labels with
  | nil => exact absurd hl this
  | cons _ _ => simp; omega

theorem NameWF.len_le {n : Name} (h : NameWF n) : n.len ≤ 255 := DOMAINNAME_MAX_LEN_eq ▸ h.2.2.2

theorem plainWireName_hasAt {buf : List UInt8} {off : Nat} {n : Name} (hwf : NameWF n)
    (h : HasAt buf off (flatLabels n.labels)) :
    PlainWireName buf off n.labels n.len (off + n.len) := by
  obtain ⟨post, hd⟩ := h.drop
  have := plainWireName_of_drop n.labels buf off post hwf.1 hwf.2.1 hd
  rwa [← hwf.2.2.1] at this

theorem decodeNameLoop_hasAt (id start : Nat) (buf : List UInt8) (off : Nat) (n : Name)
    (hwf : NameWF n) (h : HasAt buf off (flatLabels n.labels)) :
    decodeNameLoop id buf start off 0 [] = .ok (n, off + n.len) :=
  decodeNameLoop_of_wireName id ((plainWireName_hasAt hwf h).toWireName start) hwf.len_le

/-! ## Extension of the buffer -/

/-- only the octets: the table may have grown -/
def Ext (b b' : WBuf) : Prop := ∃ x, b'.octets = b.octets ++ x

theorem Ext.refl (b : WBuf) : Ext b b := ⟨[], by simp⟩

theorem Ext.trans {a b c : WBuf} (h1 : Ext a b) (h2 : Ext b c) : Ext a c := by
  obtain ⟨x, hx⟩ := h1
  obtain ⟨y, hy⟩ := h2
  exact ⟨x ++ y, by rw [hy, hx, List.append_assoc]⟩

theorem Ext.length_le {a b : WBuf} (h : Ext a b) : a.octets.length ≤ b.octets.length := by
  obtain ⟨x, hx⟩ := h
  rw [hx]; simp

theorem Ext.writeOctets (b : WBuf) (x : List UInt8) : Ext b (b.writeOctets x) := ⟨x, rfl⟩

/-! ## The pointer-table invariant -/

/-- Numeric part: every recorded pointer is `0xC000 + off` with `off` inside the 14 offset bits and
    inside the octets written so far.  Kept by every encoder step whatever its arguments; the full
    invariant below needs well-formed names. -/
def TableInv (b : WBuf) : Prop :=
  ∀ n p, (n, p) ∈ b.namePointers → ∃ off, p = 0xC000 + off ∧ off < 16384 ∧ off ≤ b.octets.length

/-- Full invariant: moreover the entry's name is well-formed and an uncompressed copy of it
    stands at `off`. -/
def NameInv (b : WBuf) : Prop :=
  ∀ n p, (n, p) ∈ b.namePointers →
    ∃ off, p = 0xC000 + off ∧ off < 16384 ∧ NameWF n ∧ HasAt b.octets off (flatLabels n.labels)

theorem TableInv.empty : TableInv WBuf.empty := by
  intro n p h; simp [WBuf.empty] at h

theorem NameInv.of_table_nil {b : WBuf} (h : b.namePointers = []) : NameInv b := by
  intro n p hm; rw [h] at hm; simp at hm

theorem NameInv.empty : NameInv WBuf.empty := NameInv.of_table_nil rfl

theorem NameInv.entry {b : WBuf} (h : NameInv b) {n : Name} {p : Nat}
    (hm : (n, p) ∈ b.namePointers) :
    ∃ off, p = 0xC000 + off ∧ off < 16384 ∧ off + n.len ≤ b.octets.length ∧
      off < b.octets.length ∧ NameWF n ∧ HasAt b.octets off (flatLabels n.labels) := by
  obtain ⟨off, hp, ho, hwf, hat⟩ := h n p hm
  have h1 := hat.bound
  rw [hwf.len_eq] at h1
  have h2 := hwf.len_pos
  exact ⟨off, hp, ho, h1, by omega, hwf, hat⟩

theorem NameInv.off_lt {b : WBuf} (h : NameInv b) {n : Name} {p : Nat}
    (hm : (n, p) ∈ b.namePointers) :
    ∃ off, p = 0xC000 + off ∧ off < 16384 ∧ off + n.len ≤ b.octets.length ∧ off < b.octets.length := by
  obtain ⟨off, hp, ho, h1, h2, _⟩ := h.entry hm
  exact ⟨off, hp, ho, h1, h2⟩

theorem NameInv.tableInv {b : WBuf} (h : NameInv b) : TableInv b := by
  intro n p hm
  obtain ⟨off, hp, ho, _, h2, _⟩ := h.entry hm
  exact ⟨off, hp, ho, Nat.le_of_lt h2⟩

theorem TableInv.step {b b' : WBuf} (h : TableInv b) (hl : b.octets.length ≤ b'.octets.length)
    (hnew : ∀ n p, (n, p) ∈ b'.namePointers →
      (n, p) ∈ b.namePointers ∨ (p = 0xC000 + b.index ∧ b.index < 16384)) : TableInv b' := by
  intro n p hm
  rcases hnew n p hm with hm | ⟨hp, hi⟩
  · obtain ⟨off, hp, ho, hle⟩ := h n p hm
    exact ⟨off, hp, ho, Nat.le_trans hle hl⟩
  · exact ⟨b.index, hp, hi, hl⟩

theorem NameInv.step {b b' : WBuf} (h : NameInv b) (he : Ext b b')
    (hnew : ∀ n p, (n, p) ∈ b'.namePointers → (n, p) ∈ b.namePointers ∨
      (p = 0xC000 + b.index ∧ b.index < 16384 ∧ NameWF n ∧
        HasAt b'.octets b.index (flatLabels n.labels))) : NameInv b' := by
  intro n p hm
  rcases hnew n p hm with hm | ⟨hp, hi, hwf, hat⟩
  · obtain ⟨off, hp, ho, hwf, hat⟩ := h n p hm
    obtain ⟨x, hx⟩ := he
    exact ⟨off, hp, ho, hwf, hx ▸ hat.append x⟩
  · exact ⟨b.index, hp, hi, hwf, hat⟩

theorem TableInv.writeOctets {b : WBuf} (h : TableInv b) (x : List UInt8) :
    TableInv (b.writeOctets x) :=
  h.step (Ext.writeOctets b x).length_le (fun _ _ hm => Or.inl hm)

theorem NameInv.writeOctets {b : WBuf} (h : NameInv b) (x : List UInt8) :
    NameInv (b.writeOctets x) :=
  h.step (Ext.writeOctets b x) (fun _ _ hm => Or.inl hm)

theorem TableInv.writeU8 {b : WBuf} (h : TableInv b) (o : Nat) : TableInv (b.writeU8 o) :=
  h.writeOctets [u8 o]
theorem TableInv.writeU16 {b : WBuf} (h : TableInv b) (v : Nat) : TableInv (b.writeU16 v) :=
  h.writeOctets _
theorem TableInv.writeU32 {b : WBuf} (h : TableInv b) (v : Nat) : TableInv (b.writeU32 v) :=
  h.writeOctets _
theorem NameInv.writeU8 {b : WBuf} (h : NameInv b) (o : Nat) : NameInv (b.writeU8 o) :=
  h.writeOctets [u8 o]
theorem NameInv.writeU16 {b : WBuf} (h : NameInv b) (v : Nat) : NameInv (b.writeU16 v) :=
  h.writeOctets _
theorem NameInv.writeU32 {b : WBuf} (h : NameInv b) (v : Nat) : NameInv (b.writeU32 v) :=
  h.writeOctets _

/-! ### `memoise_name` and `DomainName::serialise` -/

theorem memoiseName_octets (b : WBuf) (n : Name) : (b.memoiseName n).octets = b.octets := by
  fun_cases WBuf.memoiseName b n <;> rfl

theorem memoiseName_table (b : WBuf) (n : Name) :
    (b.memoiseName n).namePointers = b.namePointers ∨
    (b.index < 16384 ∧ (b.memoiseName n).namePointers = b.namePointers ++ [(n, 0xC000 + b.index)]) := by
  fun_cases WBuf.memoiseName b n with
  | case1 _ h => exact Or.inr ⟨h, rfl⟩
  | case2 | case3 => exact Or.inl rfl

theorem memoiseName_mem {b : WBuf} {n m : Name} {p : Nat}
    (hm : (m, p) ∈ (b.memoiseName n).namePointers) :
    (m, p) ∈ b.namePointers ∨ (m = n ∧ p = 0xC000 + b.index ∧ b.index < 16384) := by
  rcases memoiseName_table b n with e | ⟨hi, e⟩
  · exact Or.inl (e ▸ hm)
  · rw [e, List.mem_append, List.mem_singleton, Prod.mk.injEq] at hm
    exact hm.imp id (fun ⟨h1, h2⟩ => ⟨h1, h2, hi⟩)

theorem TableInv.memoiseName {b : WBuf} (h : TableInv b) (n : Name) :
    TableInv (b.memoiseName n) :=
  h.step (Nat.le_of_eq (congrArg List.length (memoiseName_octets b n).symm))
    (fun _ _ hm => (memoiseName_mem hm).imp id And.right)

theorem lookupName_mem (tbl : List (Name × Nat)) (n : Name) (p : Nat)
    (h : lookupName tbl n = some p) : (n, p) ∈ tbl := by
  revert h
  fun_induction lookupName tbl n with
  | case1 => exact fun h => nomatch h
  | case2 v rest => exact fun h => Option.some.inj h ▸ List.mem_cons_self
  | case3 k v rest _ ih => exact fun h => List.mem_cons_of_mem _ (ih h)

theorem encodeName_eq (b : WBuf) (n : Name) (c : Bool) :
    encodeName b n c =
      match (if c then b.namePointer n else none) with
      | some ptr => ⟨b.octets ++ u16Bytes ptr, b.namePointers⟩
      | none => ⟨b.octets ++ flatLabels n.labels, (b.memoiseName n).namePointers⟩ := by
  unfold encodeName
  cases (if c then b.namePointer n else none) with
  | none => simp only; rw [writeLabels_eq, memoiseName_octets]
  | some ptr => rfl

theorem Ext.encodeName (b : WBuf) (n : Name) (c : Bool) : Ext b (encodeName b n c) := by
  rw [encodeName_eq]; split <;> exact ⟨_, rfl⟩

theorem encodeName_mem {b : WBuf} {n m : Name} {c : Bool} {p : Nat}
    (hm : (m, p) ∈ (encodeName b n c).namePointers) :
    (m, p) ∈ b.namePointers ∨ (m = n ∧ p = 0xC000 + b.index ∧ b.index < 16384 ∧
      (encodeName b n c).octets = b.octets ++ flatLabels n.labels) := by
  rw [encodeName_eq] at hm ⊢
  split at hm
  · exact Or.inl hm
  · exact (memoiseName_mem hm).imp id (fun ⟨h1, h2, h3⟩ => ⟨h1, h2, h3, rfl⟩)

theorem TableInv.encodeName {b : WBuf} (h : TableInv b) (n : Name) (c : Bool) :
    TableInv (encodeName b n c) :=
  h.step (Ext.encodeName b n c).length_le
    (fun _ _ hm => (encodeName_mem hm).imp id (fun ⟨_, hp, hi, _⟩ => ⟨hp, hi⟩))

theorem NameInv.encodeName {b : WBuf} (hinv : NameInv b) {n : Name} (hwf : NameWF n) (c : Bool) :
    NameInv (encodeName b n c) :=
  hinv.step (Ext.encodeName b n c) (fun _ _ hm => (encodeName_mem hm).imp id
    (fun ⟨hn, hp, hi, ho⟩ => ⟨hp, hi, hn ▸ hwf, b.octets, [], by rw [ho, hn, List.append_nil], rfl⟩))

/-! ## Compression pointers -/

/-- the decoder's `(b % 64) * 256 + lo` on the two octets of a compression pointer -/
theorem pointer_arith (off : Nat) (h : off < 16384) :
    (0xC000 + off) / 256 % 256 = 0xC0 + off / 256 ∧ (0xC000 + off) % 256 = off % 256 ∧
    192 ≤ 0xC0 + off / 256 ∧ 0xC0 + off / 256 < 256 ∧
    ((0xC0 + off / 256) % 64) * 256 + off % 256 = off := by
  have hq : off / 256 < 64 := Nat.div_lt_of_lt_mul h
  have e1 : (0xC000 + off) / 256 = 0xC0 + off / 256 :=
    Nat.mul_add_div (m := 256) (by decide) 0xC0 off
  have e3 : (0xC0 + off / 256) % 64 = off / 256 := by
    rw [show 0xC0 = 64 * 3 from rfl, Nat.mul_add_mod, Nat.mod_eq_of_lt hq]
  refine ⟨?_, Nat.mul_add_mod 256 0xC0 off, Nat.le_add_right _ _, by omega, ?_⟩
  · rw [e1, Nat.mod_eq_of_lt (by omega)]
  · rw [e3, Nat.div_add_mod']

theorem pointer_octets (off : Nat) (h : off < 16384) :
    192 ≤ (u8 (0xC0 + off / 256)).toNat ∧
    (u8 (0xC0 + off / 256)).toNat % 64 * 256 + (u8 (off % 256)).toNat = off := by
  obtain ⟨_, _, e3, e4, e5⟩ := pointer_arith off h
  rw [u8_toNat _ e4, u8_toNat_mod, Nat.mod_mod]
  exact ⟨e3, e5⟩

theorem encodeName_pointer (b : WBuf) (n : Name) (ptr : Nat) (h : TableInv b)
    (hp : b.namePointer n = some ptr) :
    ∃ off, ptr = 0xC000 + off ∧ off < 16384 ∧ off ≤ b.octets.length ∧
      encodeName b n true = b.writeOctets [u8 (0xC0 + off / 256), u8 (off % 256)] := by
  obtain ⟨off, rfl, ho, hl⟩ := h n ptr (lookupName_mem _ _ _ hp)
  refine ⟨off, rfl, ho, hl, ?_⟩
  have e1 := (pointer_arith off ho).1
  have e2 := (pointer_arith off ho).2.1
  simp only [Resolved.encodeName, if_true, hp, WBuf.writeU16, u16Bytes, e1, e2]

theorem pointer_target (b : WBuf) (n : Name) (p : Nat) (hinv : NameInv b)
    (hp : b.namePointer n = some p) :
    ∃ off, p = 0xC000 + off ∧ off < 16384 ∧ off < b.octets.length ∧
      off + n.len ≤ b.octets.length ∧ NameWF n ∧
      encodeName b n true = b.writeOctets [u8 (0xC0 + off / 256), u8 (off % 256)] ∧
      (b.octets.drop off).take n.len = flatLabels n.labels ∧
      (∀ post, PlainWireName (b.octets ++ post) off n.labels n.len (off + n.len)) ∧
      (∀ id start post,
        decodeNameLoop id (b.octets ++ post) start off 0 [] = .ok (n, off + n.len)) := by
  obtain ⟨off, rfl, ho, h1, h2, hwf, hat⟩ := hinv.entry (lookupName_mem _ _ _ hp)
  obtain ⟨off', e, _, _, henc⟩ := encodeName_pointer b n _ hinv.tableInv hp
  obtain rfl : off = off' := Nat.add_left_cancel e
  exact ⟨off, rfl, ho, h2, h1, hwf, henc, hwf.len_eq ▸ hat.slice,
    fun post => plainWireName_hasAt hwf (hat.append post),
    fun id start post => decodeNameLoop_hasAt id start _ off n hwf (hat.append post)⟩

/-- The start bound is the old end of the buffer: a pointer points strictly backwards, at an uncompressed copy. -/
theorem encodeName_wireName (b : WBuf) (n : Name) (c : Bool) (hinv : NameInv b) (hwf : NameWF n)
    (post : List UInt8) :
    WireName ((encodeName b n c).octets ++ post) b.octets.length b.octets.length n.labels n.len
      (encodeName b n c).octets.length := by
  cases hp : (if c then b.namePointer n else none) with
  | some ptr =>
    -- a table hit: `pointer_target` says what is written and what stands at the target
    obtain rfl : c = true := by cases c <;> simp_all
    obtain ⟨off, _, ho, hlt, _, _, henc, _, hplain, _⟩ := pointer_target b n ptr hinv hp
    obtain ⟨h192, hoff⟩ := pointer_octets off ho
    rw [henc]
    have := WireName.ptr (buf := b.octets ++ [u8 (0xC0 + off / 256), u8 (off % 256)] ++ post)
      (start := b.octets.length) (pos := b.octets.length)
      (by rw [List.append_assoc]; exact getElem?_mid b.octets _ 0) h192
      (by rw [List.append_assoc]; exact getElem?_mid b.octets _ 1) (by rw [hoff]; exact hlt)
      (by rw [hoff, List.append_assoc]; exact (hplain _).toWireName off)
    simpa [WBuf.writeOctets] using this
  | none =>
    rw [encodeName_eq, hp]
    have := (plainWireName_hasAt hwf ⟨b.octets, post, rfl, rfl⟩).toWireName b.octets.length
    simpa [hwf.len_eq] using this

end Resolved
