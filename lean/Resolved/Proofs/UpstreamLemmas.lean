/-
  Lemmas about the upstream-reply filter model (`Resolved/Model/Upstream.lean`): `responseMatchesRequest`
  as a conjunction, the shape of an NS / CNAME target, `insertSet`; what
  `getBetterNsNames` computes (`GbSpec`) and how the results for two sections combine (`chooseNs`);
  `validateNameserverResponse` as the relation `Validated` (`validate_validated` and its four projections);
  `getNxdomainNodataSoa`; `getRecord`.
-/
import Resolved.Model.Upstream
import Resolved.Proofs.Assoc

namespace Resolved

theorem ite_false_eq_true_iff {p : Prop} [Decidable p] {b : Bool} :
    (if p then false else b) = true ↔ ¬p ∧ b = true := by
  by_cases h : p <;> simp [h]

theorem responseMatchesRequest_iff (req resp : Message) :
    responseMatchesRequest req resp = true ↔
      (req.header.id = resp.header.id ∧ resp.header.isResponse = true ∧
       req.header.opcode = resp.header.opcode ∧ resp.header.isTruncated = false ∧
       (resp.header.rcode = 0 ∨ resp.header.rcode = 3) ∧ req.questions = resp.questions) := by
  simp only [responseMatchesRequest, RCODE_NOERROR, RCODE_NAMEERROR, ite_false_eq_true_iff,
    bne_iff_ne, Decidable.not_not, Bool.not_eq_true, Bool.not_eq_false, Bool.not_eq_eq_eq_not,
    Bool.not_true, Bool.or_eq_true, beq_iff_eq, and_true]

theorem exists_mem_append_iff {α : Type} {p : α → Prop} {l1 l2 : List α} :
    (∃ r ∈ l1 ++ l2, p r) ↔ (∃ r ∈ l1, p r) ∨ (∃ r ∈ l2, p r) := by
  simp only [List.mem_append, or_and_right, exists_or]

/-- the body of `cnameTarget` and `nsTarget`: a record of the type `rt` whose RDATA is one name. -/
theorem nameOfType_eq_some_iff (rt : Nat) {rr : RR} {t : Name} :
    (if rr.rtype == rt then
      match rr.fields with
      | [.name t] => some t
      | _ => none
    else none) = some t ↔ rr.rtype = rt ∧ rr.fields = [.name t] := by
  by_cases hr : rr.rtype = rt
  · rw [if_pos (beq_iff_eq.mpr hr), and_iff_right hr]
    split
    · rename_i t' hf
      rw [hf, Option.some.injEq, List.cons.injEq, FieldVal.name.injEq, and_iff_left rfl]
    · rename_i hno
      exact ⟨fun h => (nomatch h), fun h => (hno t h).elim⟩
  · rw [if_neg (mt beq_iff_eq.mp hr)]
    exact ⟨fun h => (nomatch h), fun h => (hr h.1).elim⟩

theorem cnameTarget_eq_some_iff {rr : RR} {t : Name} :
    cnameTarget rr = some t ↔ rr.rtype = RT_CNAME ∧ rr.fields = [.name t] :=
  nameOfType_eq_some_iff RT_CNAME

theorem cnameTarget_none_of_rtype {rr : RR} (ht : rr.rtype ≠ RT_CNAME) : cnameTarget rr = none :=
  Option.eq_none_iff_forall_ne_some.mpr fun _ h => ht (cnameTarget_eq_some_iff.mp h).1

theorem nsTarget_eq_some_iff {rr : RR} {t : Name} :
    nsTarget rr = some t ↔ rr.rtype = RT_NS ∧ rr.fields = [.name t] :=
  nameOfType_eq_some_iff RT_NS

theorem mem_insertSet {s : List Name} {n x : Name} : x ∈ insertSet s n ↔ x ∈ s ∨ x = n :=
  mem_pushIfNew

theorem mem_foldl_insertSet {s l : List Name} {x : Name} :
    x ∈ l.foldl insertSet s ↔ x ∈ s ∨ x ∈ l :=
  mem_foldl_of_mem_step fun _ _ _ => mem_insertSet

/-! ### what `getBetterNsNames` computes -/

/-- the records the loop of `get_better_ns_names` looks at: NS records whose owner encloses the target. -/
def IsCand (target : Name) (rr : RR) : Prop :=
  (nsTarget rr).isSome = true ∧ target.isSubdomainOf rr.name = true

/-- what `getBetterNsNames` (and the combination of two runs) computes over the records `rrs`.
    `first` says WHICH owner of maximal depth is returned, the first in `rrs`: owners of one depth can
    differ in the model (`Name.len` is a free field), and `USpec.bestZone` keeps the first as well. -/
structure GbSpec (rrs : List RR) (target : Name) (mc : Nat) (mn : Name) (ns : List Name) : Prop where
  closer : mc < mn.labels.length
  sub : target.isSubdomainOf mn = true
  ne : ns ≠ []
  maxd : ∀ rr ∈ rrs, IsCand target rr → rr.name.labels.length ≤ mn.labels.length
  first : ∃ pre1 rr pre2, rrs = pre1 ++ rr :: pre2 ∧ rr.name = mn ∧ IsCand target rr ∧
        ∀ r ∈ pre1, IsCand target r → r.name.labels.length < mn.labels.length
  hosts : ∀ n, n ∈ ns ↔ ∃ rr ∈ rrs, nsTarget rr = some n ∧ target.isSubdomainOf rr.name = true ∧
        rr.name.labels.length = mn.labels.length

section
variable {rrs l1 l2 pre : List RR} {target : Name} {mc : Nat} {mn : Name} {ns : List Name}

theorem isCand_of_nsTarget {rr : RR} {n : Name} (hn : nsTarget rr = some n)
    (hsub : target.isSubdomainOf rr.name = true) : IsCand target rr :=
  ⟨by rw [hn]; rfl, hsub⟩

theorem GbSpec.single {x : RR} {n : Name} (hn : nsTarget x = some n)
    (hsub : target.isSubdomainOf x.name = true) (hmc : mc < x.name.labels.length) :
    GbSpec [x] target mc x.name [n] where
  closer := hmc
  sub := hsub
  ne := List.cons_ne_nil _ _
  maxd := fun rr hrr _ => List.mem_singleton.mp hrr ▸ Nat.le_refl _
  first := ⟨[], x, [], rfl, rfl, isCand_of_nsTarget hn hsub, fun _ h => nomatch h⟩
  hosts := by
    intro m
    simp only [List.mem_singleton, exists_eq_left, hn, Option.some.injEq, hsub, and_true]
    exact eq_comm

theorem GbSpec.deepest_owner (s : GbSpec rrs target mc mn ns) :
    (∃ rr ∈ rrs, rr.name = mn ∧ (nsTarget rr).isSome = true) ∧
    (∀ rr ∈ rrs, (nsTarget rr).isSome = true → target.isSubdomainOf rr.name = true →
        rr.name.labels.length ≤ mn.labels.length) ∧
    (∀ n, n ∈ ns ↔ ∃ rr ∈ rrs, nsTarget rr = some n ∧ target.isSubdomainOf rr.name = true ∧
        rr.name.labels.length = mn.labels.length) := by
  obtain ⟨pre1, rr, pre2, hp, hn, hc, _⟩ := s.first
  exact ⟨⟨rr, hp ▸ List.mem_append_right _ List.mem_cons_self, hn, hc.1⟩,
    fun r hr h1 h2 => s.maxd r hr ⟨h1, h2⟩, s.hosts⟩

theorem GbSpec.first_append (s : GbSpec l1 target mc mn ns) (l2 : List RR) :
    ∃ pre1 rr pre2, l1 ++ l2 = pre1 ++ rr :: pre2 ∧ rr.name = mn ∧ IsCand target rr ∧
      ∀ r ∈ pre1, IsCand target r → r.name.labels.length < mn.labels.length := by
  obtain ⟨pre1, rr, pre2, hp, h⟩ := s.first
  exact ⟨pre1, rr, pre2 ++ l2, by rw [hp, List.append_assoc, List.cons_append], h⟩

theorem GbSpec.append_right (s : GbSpec l1 target mc mn ns)
    (h2 : ∀ r ∈ l2, IsCand target r → r.name.labels.length < mn.labels.length) :
    GbSpec (l1 ++ l2) target mc mn ns where
  closer := s.closer
  sub := s.sub
  ne := s.ne
  maxd := List.forall_mem_append.mpr ⟨s.maxd, fun r hm hc => Nat.le_of_lt (h2 r hm hc)⟩
  first := s.first_append l2
  hosts := by
    intro n
    rw [s.hosts n, exists_mem_append_iff]
    refine ⟨Or.inl, fun h => h.resolve_right ?_⟩
    rintro ⟨r, hm, h1, hsub, hd⟩
    exact absurd hd (Nat.ne_of_lt (h2 r hm (isCand_of_nsTarget h1 hsub)))

theorem GbSpec.append_left (s : GbSpec l2 target mc mn ns)
    (h1 : ∀ r ∈ l1, IsCand target r → r.name.labels.length < mn.labels.length) :
    GbSpec (l1 ++ l2) target mc mn ns where
  closer := s.closer
  sub := s.sub
  ne := s.ne
  maxd := List.forall_mem_append.mpr ⟨fun r hm hc => Nat.le_of_lt (h1 r hm hc), s.maxd⟩
  first := by
    obtain ⟨pre1, rr, pre2, hp, hn, hc, hlt⟩ := s.first
    exact ⟨l1 ++ pre1, rr, pre2, by rw [hp, List.append_assoc], hn, hc,
      List.forall_mem_append.mpr ⟨h1, hlt⟩⟩
  hosts := by
    intro n
    rw [s.hosts n, exists_mem_append_iff]
    refine ⟨Or.inr, fun h => h.resolve_left ?_⟩
    rintro ⟨r, hm, h1', hsub, hd⟩
    exact absurd hd (Nat.ne_of_lt (h1 r hm (isCand_of_nsTarget h1' hsub)))

theorem GbSpec.append_same {mn1 mn2 : Name}
    {ns1 ns2 : List Name} (s1 : GbSpec l1 target mc mn1 ns1) (s2 : GbSpec l2 target mc mn2 ns2)
    (hd : mn1.labels.length = mn2.labels.length) :
    GbSpec (l1 ++ l2) target mc mn1 (ns2.foldl insertSet ns1) where
  closer := s1.closer
  sub := s1.sub
  ne := by
    intro hnil
    obtain ⟨x, hx⟩ := List.exists_mem_of_ne_nil _ s1.ne
    have : x ∈ ns2.foldl insertSet ns1 := mem_foldl_insertSet.mpr (Or.inl hx)
    rw [hnil] at this
    cases this
  maxd := List.forall_mem_append.mpr ⟨s1.maxd, hd ▸ s2.maxd⟩
  first := s1.first_append l2
  hosts := by
    intro n
    rw [mem_foldl_insertSet, s1.hosts n, s2.hosts n, ← hd, exists_mem_append_iff]

/-! ### the loop of `getBetterNsNames` -/

/-- the loop body of `getBetterNsNames`. -/
def gbStep (target : Name) (st : List Name × Nat × Option Name) (rr : RR) : List Name × Nat × Option Name :=
  match nsTarget rr with
  | some nsdname =>
    if target.isSubdomainOf rr.name then
      if rr.name.labels.length > st.2.1 then ([nsdname], rr.name.labels.length, some rr.name)
      else if rr.name.labels.length = st.2.1 then (insertSet st.1 nsdname, st.2.1, st.2.2)
      else st
    else st
  | none => st

theorem getBetterNsNames_eq (rrs : List RR) (target : Name) (mc : Nat) :
    getBetterNsNames rrs target mc =
      (rrs.foldl (gbStep target) ([], mc, none)).2.2.map
        (fun mn => (mn, (rrs.foldl (gbStep target) ([], mc, none)).1)) := by
  rfl

/-- invariant of the loop after the records `pre`: without a match the counter is still `mc` and no
    candidate was deeper; with the match `mn` the state is the result for `pre`. -/
def GbInv (target : Name) (mc : Nat) (pre : List RR) : List Name × Nat × Option Name → Prop
  | (_, d, none) => d = mc ∧ ∀ rr ∈ pre, IsCand target rr → rr.name.labels.length ≤ mc
  | (ns, d, some mn) => d = mn.labels.length ∧ GbSpec pre target mc mn ns

theorem GbInv.bounds {d : Nat} {omn : Option Name} (inv : GbInv target mc pre (ns, d, omn)) :
    mc ≤ d ∧ ∀ rr ∈ pre, IsCand target rr → rr.name.labels.length ≤ d := by
  cases omn with
  | none => exact ⟨Nat.le_of_eq inv.1.symm, inv.1 ▸ inv.2⟩
  | some mn => exact ⟨inv.1 ▸ Nat.le_of_lt inv.2.closer, inv.1 ▸ inv.2.maxd⟩

theorem GbInv.skip {d : Nat}
    {omn : Option Name} {x : RR} (inv : GbInv target mc pre (ns, d, omn))
    (hx : IsCand target x → x.name.labels.length < d) : GbInv target mc (pre ++ [x]) (ns, d, omn) := by
  cases omn with
  | none =>
    refine ⟨inv.1, List.forall_mem_append.mpr ⟨inv.2, fun rr hm hc => ?_⟩⟩
    rw [List.mem_singleton.mp hm] at hc ⊢
    exact inv.1 ▸ Nat.le_of_lt (hx hc)
  | some mn =>
    refine ⟨inv.1, inv.2.append_right fun r hr hc => ?_⟩
    rw [List.mem_singleton.mp hr] at hc ⊢
    exact inv.1 ▸ hx hc

theorem gbInv_step (pre : List RR) (st : List Name × Nat × Option Name)
    (x : RR) (inv : GbInv target mc pre st) : GbInv target mc (pre ++ [x]) (gbStep target st x) := by
  obtain ⟨ns, d, omn⟩ := st
  unfold gbStep
  cases hn : nsTarget x with
  | none => exact inv.skip fun hc => by have h1 := hc.1; rw [hn] at h1; cases h1
  | some n =>
    by_cases hsub : target.isSubdomainOf x.name = true
    · simp only [hsub, if_true]
      by_cases hgt : x.name.labels.length > d
      · -- strictly deeper: restart with this record alone
        rw [if_pos hgt]
        exact ⟨rfl, (GbSpec.single hn hsub (Nat.lt_of_le_of_lt inv.bounds.1 hgt)).append_left
          fun r hr hc => Nat.lt_of_le_of_lt (inv.bounds.2 r hr hc) hgt⟩
      · rw [if_neg hgt]
        by_cases heq : x.name.labels.length = d
        · -- same depth: add the host
          rw [if_pos heq]
          cases omn with
          | none =>
            refine ⟨inv.1, List.forall_mem_append.mpr ⟨inv.2, fun rr hm _ => ?_⟩⟩
            rw [List.mem_singleton.mp hm, heq, inv.1]
            exact Nat.le_refl _
          | some mn =>
            have hd : mn.labels.length = x.name.labels.length := inv.1.symm.trans heq.symm
            exact ⟨inv.1, inv.2.append_same (GbSpec.single hn hsub (hd ▸ inv.2.closer)) hd⟩
        · rw [if_neg heq]
          exact inv.skip fun _ => Nat.lt_of_le_of_ne (Nat.le_of_not_gt hgt) heq
    · simp only [hsub, Bool.false_eq_true, if_false]
      exact inv.skip fun hc => absurd hc.2 hsub

theorem gbInv_fold (rrs : List RR) (target : Name) (mc : Nat) :
    GbInv target mc rrs (rrs.foldl (gbStep target) ([], mc, none)) := by
  suffices h : ∀ pre st, GbInv target mc pre st →
      GbInv target mc (pre ++ rrs) (rrs.foldl (gbStep target) st) from
    h [] _ ⟨rfl, fun _ h => nomatch h⟩
  induction rrs with
  | nil =>
    intro pre st h
    rwa [List.append_nil]
  | cons a l ih =>
    intro pre st h
    have := ih _ _ (gbInv_step pre st a h)
    rwa [List.append_assoc] at this

theorem getBetterNsNames_cases (rrs : List RR) (target : Name) (mc : Nat) :
    match getBetterNsNames rrs target mc with
    | none => ∀ rr ∈ rrs, IsCand target rr → rr.name.labels.length ≤ mc
    | some (mn, ns) => GbSpec rrs target mc mn ns := by
  have inv := gbInv_fold rrs target mc
  rw [getBetterNsNames_eq]
  generalize rrs.foldl (gbStep target) ([], mc, none) = st at inv
  obtain ⟨ns, d, _ | mn⟩ := st
  · exact inv.2
  · exact inv.2

theorem getBetterNsNames_spec (h : getBetterNsNames rrs target mc = some (mn, ns)) :
    GbSpec rrs target mc mn ns := by
  have := getBetterNsNames_cases rrs target mc
  rwa [h] at this

theorem getBetterNsNames_none (h : getBetterNsNames rrs target mc = none) :
    ∀ rr ∈ rrs, IsCand target rr → rr.name.labels.length ≤ mc := by
  have := getBetterNsNames_cases rrs target mc
  rwa [h] at this

/-! ### combining the answer and the authority section -/

/-- the `match (ns_from_answers, ns_from_authority)` of `validate_nameserver_response`. -/
def chooseNs (a b : Option (Name × List Name)) : Option (Name × List Name) :=
  match a, b with
  | some (mn1, nss1), some (mn2, nss2) =>
    if mn1.labels.length > mn2.labels.length then some (mn1, nss1)
    else if mn1.labels.length = mn2.labels.length then some (mn1, nss2.foldl insertSet nss1)
    else some (mn2, nss2)
  | some x, none => some x
  | none, some x => some x
  | none, none => none

theorem chooseNs_some_some (mn1 mn2 : Name) (nss1 nss2 : List Name) :
    chooseNs (some (mn1, nss1)) (some (mn2, nss2)) =
      if mn1.labels.length > mn2.labels.length then some (mn1, nss1)
      else if mn1.labels.length = mn2.labels.length then some (mn1, nss2.foldl insertSet nss1)
      else some (mn2, nss2) := rfl

theorem chooseNs_eq_none_iff {a b : Option (Name × List Name)} :
    chooseNs a b = none ↔ a = none ∧ b = none := by
  refine ⟨fun h => ?_, fun h => by rw [h.1, h.2]; rfl⟩
  cases a with
  | none =>
    cases b with
    | none => exact ⟨rfl, rfl⟩
    | some y => cases h
  | some x =>
    cases b with
    | none => cases h
    | some y =>
      rw [chooseNs_some_some] at h
      split at h
      · cases h
      · split at h <;> cases h

theorem chooseNs_none {l1 l2 : List RR} {target : Name} {mc : Nat}
    (h : chooseNs (getBetterNsNames l1 target mc) (getBetterNsNames l2 target mc) = none) :
    ∀ rr ∈ l1 ++ l2, IsCand target rr → rr.name.labels.length ≤ mc := by
  obtain ⟨h1, h2⟩ := chooseNs_eq_none_iff.mp h
  exact List.forall_mem_append.mpr ⟨getBetterNsNames_none h1, getBetterNsNames_none h2⟩

theorem chooseNs_spec
    (h : chooseNs (getBetterNsNames l1 target mc) (getBetterNsNames l2 target mc) = some (mn, ns)) :
    GbSpec (l1 ++ l2) target mc mn ns := by
  cases h1 : getBetterNsNames l1 target mc with
  | none =>
    cases h2 : getBetterNsNames l2 target mc with
    | none => rw [h1, h2] at h; cases h
    | some y =>
      rw [h1, h2] at h
      cases h
      have s2 := getBetterNsNames_spec h2
      exact s2.append_left fun r hr hc => Nat.lt_of_le_of_lt (getBetterNsNames_none h1 r hr hc) s2.closer
  | some x =>
    have s1 := getBetterNsNames_spec h1
    cases h2 : getBetterNsNames l2 target mc with
    | none =>
      rw [h1, h2] at h
      cases h
      exact s1.append_right fun r hr hc => Nat.lt_of_le_of_lt (getBetterNsNames_none h2 r hr hc) s1.closer
    | some y =>
      have s2 := getBetterNsNames_spec h2
      rw [h1, h2, chooseNs_some_some] at h
      split at h
      · rename_i hgt
        cases h
        exact s1.append_right fun r hr hc => Nat.lt_of_le_of_lt (s2.maxd r hr hc) hgt
      · rename_i hngt
        split at h
        · rename_i heq
          cases h
          exact s1.append_same s2 heq
        · rename_i hne
          cases h
          exact s2.append_left fun r hr hc =>
            Nat.lt_of_le_of_lt (s1.maxd r hr hc) (Nat.lt_of_le_of_ne (Nat.le_of_not_gt hngt) hne)

end

/-! ### the cases of `validateNameserverResponse` -/

section
variable {q : Question} {resp : Message} {mc : Nat}

/-- the `NS` arm of the referral loops: an NS record of the zone for one of the chosen hosts. -/
def isNsOf (matchName : Name) (nsNames : List Name) (rr : RR) : Bool :=
  match nsTarget rr with
  | some t => rr.name == matchName && nsNames.contains t
  | none => false

/-- the `A`/`AAAA` arms: an address record owned by one of the chosen hosts. -/
def isGlueOf (nsNames : List Name) (rr : RR) : Bool :=
  (rr.rtype == RT_A || rr.rtype == RT_AAAA) && nsNames.contains rr.name

/-- `nameserver_rrs`: what the three loops over answer, authority and additional section collect. -/
def delegRrs (resp : Message) (mn : Name) (ns : List Name) : List RR :=
  resp.answers.filter (fun rr => isNsOf mn ns rr || isGlueOf ns rr)
    ++ resp.authority.filter (isNsOf mn ns)
    ++ resp.additional.filter (isGlueOf ns)

/-- the test of the `rrs_for_query` loop: asked type at the final name, or a CNAME that was followed. -/
def ansKeep (q : Question) (fin : Name) (cm : NameMap) (an : RR) : Bool :=
  (rtypeMatches an.rtype q.qtype && an.name == fin) ||
  (match cnameTarget an with
   | some t => nmGet cm an.name == some t
   | none => false)

/-- the answer records that loop looks at (`is_unknown` ones are skipped). -/
def knownOf (resp : Message) : List RR := resp.answers.filter (fun an => !rrIsUnknown an)

/-- `rrs_for_query`. -/
def keptRrs (q : Question) (resp : Message) (fin : Name) (cm : NameMap) : List RR :=
  (knownOf resp).filter (ansKeep q fin cm)

/-- `seen_final_record`. -/
def hasFinal (q : Question) (resp : Message) (fin : Name) : Bool :=
  (knownOf resp).any (fun an => rtypeMatches an.rtype q.qtype && an.name == fin)

theorem isNsOf_iff {mn : Name} {ns : List Name} {rr : RR} :
    isNsOf mn ns rr = true ↔ ∃ t, nsTarget rr = some t ∧ rr.name = mn ∧ t ∈ ns := by
  unfold isNsOf
  cases hn : nsTarget rr with
  | some t =>
    simp only [Bool.and_eq_true, beq_iff_eq, List.contains_eq_mem, decide_eq_true_eq,
      Option.some.injEq, exists_eq_left']
  | none =>
    simp only [Bool.false_eq_true, reduceCtorEq, false_and, exists_false]

theorem isGlueOf_iff {ns : List Name} {rr : RR} :
    isGlueOf ns rr = true ↔ (rr.rtype = RT_A ∨ rr.rtype = RT_AAAA) ∧ rr.name ∈ ns := by
  unfold isGlueOf
  simp only [Bool.and_eq_true, Bool.or_eq_true, beq_iff_eq, List.contains_eq_mem, decide_eq_true_eq]

theorem delegRrs_allowed {name : Name} {hs : List Name} {rr : RR}
    (h : rr ∈ delegRrs resp name hs) :
    (∃ t, nsTarget rr = some t ∧ rr.name = name ∧ t ∈ hs ∧ rr ∈ resp.answers ++ resp.authority) ∨
    ((rr.rtype = RT_A ∨ rr.rtype = RT_AAAA) ∧ rr.name ∈ hs ∧ rr ∈ resp.answers ++ resp.additional) := by
  simp only [delegRrs, List.mem_append, List.mem_filter, Bool.or_eq_true, isNsOf_iff, isGlueOf_iff] at h
  rcases h with (⟨hm, ⟨t, h1, h2, h3⟩ | ⟨h1, h2⟩⟩ | ⟨hm, t, h1, h2, h3⟩) | ⟨hm, h1, h2⟩
  · exact Or.inl ⟨t, h1, h2, h3, List.mem_append_left _ hm⟩
  · exact Or.inr ⟨h1, h2, List.mem_append_left _ hm⟩
  · exact Or.inl ⟨t, h1, h2, h3, List.mem_append_right _ hm⟩
  · exact Or.inr ⟨h1, h2, List.mem_append_right _ hm⟩

theorem ansKeep_iff {fin : Name} {cm : NameMap} {an : RR} :
    ansKeep q fin cm an = true ↔
      (rtypeMatches an.rtype q.qtype = true ∧ an.name = fin) ∨
      (∃ t, cnameTarget an = some t ∧ nmGet cm an.name = some t) := by
  unfold ansKeep
  cases hc : cnameTarget an with
  | some t =>
    simp only [Bool.or_eq_true, Bool.and_eq_true, beq_iff_eq, Option.some.injEq, exists_eq_left']
  | none =>
    simp only [Bool.or_false, Bool.and_eq_true, beq_iff_eq, reduceCtorEq, false_and, exists_false,
      or_false]

theorem mem_keptRrs {fin : Name} {cm : NameMap} {rr : RR} :
    rr ∈ keptRrs q resp fin cm ↔
      rr ∈ resp.answers ∧ rrIsUnknown rr = false ∧
      ((rtypeMatches rr.rtype q.qtype = true ∧ rr.name = fin) ∨
       (∃ t, cnameTarget rr = some t ∧ nmGet cm rr.name = some t)) := by
  rw [keptRrs, List.mem_filter, knownOf, List.mem_filter, Bool.not_eq_true', ansKeep_iff, and_assoc]

/-- For every map `cm`: the witness is kept by the first disjunct of `ansKeep`, which does not look at the map. -/
theorem hasFinal_iff {fin : Name} (cm : NameMap) :
    hasFinal q resp fin = true ↔
      ∃ rr ∈ keptRrs q resp fin cm, rtypeMatches rr.rtype q.qtype = true ∧ rr.name = fin := by
  rw [hasFinal, List.any_eq_true]
  constructor
  · rintro ⟨rr, hrr, hk⟩
    have hk' := (Bool.and_eq_true_iff.mp hk).imp_right beq_iff_eq.mp
    exact ⟨rr, List.mem_filter.mpr ⟨hrr, ansKeep_iff.mpr (Or.inl hk')⟩, hk'⟩
  · rintro ⟨rr, hrr, h1, h2⟩
    exact ⟨rr, (List.mem_filter.mp hrr).1, Bool.and_eq_true_iff.mpr ⟨h1, beq_iff_eq.mpr h2⟩⟩

theorem validate_of_follow_some (mc : Nat) {fin : Name} {cm : NameMap}
    (hf : followCnames resp.answers q.name q.qtype = some (fin, cm)) :
    validateNameserverResponse q resp mc =
      if (knownOf resp).isEmpty then none
      else if (keptRrs q resp fin cm).isEmpty then none
      else if hasFinal q resp fin then
        some (.answer (keptRrs q resp fin cm) none)
      else some (.cname (keptRrs q resp fin cm) fin) := by
  rw [validateNameserverResponse, hf]
  rfl

theorem validate_of_follow_none (mc : Nat)
    (hf : followCnames resp.answers q.name q.qtype = none) :
    validateNameserverResponse q resp mc =
      match chooseNs (getBetterNsNames resp.answers q.name mc) (getBetterNsNames resp.authority q.name mc) with
      | none => (getNxdomainNodataSoa q resp mc).map (fun soa => .answer [] (some soa))
      | some (mn, ns) => some (.delegation (delegRrs resp mn ns) ns mn) := by
  rw [validateNameserverResponse, hf]
  rfl

/-- What `validate_nameserver_response` returns, one constructor per way it ends: the kept answer records
    with a record of the asked type at the end of the followed chain, the kept records without one (an
    alias step to that end), a referral, a negative answer. -/
inductive Validated (q : Question) (resp : Message) (mc : Nat) : NameserverResponse → Prop
  | answer {fin : Name} {cm : NameMap} (hf : followCnames resp.answers q.name q.qtype = some (fin, cm))
      (hne : keptRrs q resp fin cm ≠ []) (hfin : hasFinal q resp fin = true) :
      Validated q resp mc (.answer (keptRrs q resp fin cm) none)
  | cname {fin : Name} {cm : NameMap} (hf : followCnames resp.answers q.name q.qtype = some (fin, cm))
      (hne : keptRrs q resp fin cm ≠ []) (hfin : hasFinal q resp fin = false) :
      Validated q resp mc (.cname (keptRrs q resp fin cm) fin)
  | delegation {mn : Name} {ns : List Name} (hf : followCnames resp.answers q.name q.qtype = none)
      (hc : chooseNs (getBetterNsNames resp.answers q.name mc) (getBetterNsNames resp.authority q.name mc)
        = some (mn, ns)) :
      Validated q resp mc (.delegation (delegRrs resp mn ns) ns mn)
  | nodata {soa : RR} (hf : followCnames resp.answers q.name q.qtype = none)
      (hc : chooseNs (getBetterNsNames resp.answers q.name mc) (getBetterNsNames resp.authority q.name mc) = none)
      (hs : getNxdomainNodataSoa q resp mc = some soa) :
      Validated q resp mc (.answer [] (some soa))

/-- The one inversion of `validateNameserverResponse`, through `validate_of_follow_some/_none`; the four
    `validate_*` below are `cases` on it. -/
theorem validate_validated {out : NameserverResponse}
    (h : validateNameserverResponse q resp mc = some out) : Validated q resp mc out := by
  cases hf : followCnames resp.answers q.name q.qtype with
  | some p =>
    obtain ⟨fin, cm⟩ := p
    rw [validate_of_follow_some mc hf, Option.ite_none_left_eq_some, Option.ite_none_left_eq_some] at h
    have hne := mt List.isEmpty_iff.mpr h.2.1
    cases hfin : hasFinal q resp fin with
    | true =>
      rw [hfin, if_pos rfl] at h
      cases h.2.2
      exact .answer hf hne hfin
    | false =>
      rw [hfin, if_neg Bool.false_ne_true] at h
      cases h.2.2
      exact .cname hf hne hfin
  | none =>
    rw [validate_of_follow_none mc hf] at h
    cases hc : chooseNs (getBetterNsNames resp.answers q.name mc)
        (getBetterNsNames resp.authority q.name mc) with
    | none =>
      rw [hc, Option.map_eq_some_iff] at h
      obtain ⟨soa, hs, rfl⟩ := h
      exact .nodata hf hc hs
    | some p =>
      rw [hc] at h
      cases h
      exact .delegation hf hc

theorem validate_delegation {rrs : List RR} {hs : List Name}
    {name : Name} (h : validateNameserverResponse q resp mc = some (.delegation rrs hs name)) :
    followCnames resp.answers q.name q.qtype = none ∧
    chooseNs (getBetterNsNames resp.answers q.name mc) (getBetterNsNames resp.authority q.name mc)
      = some (name, hs) ∧
    rrs = delegRrs resp name hs := by
  cases validate_validated h with
  | delegation hf hc => exact ⟨hf, hc, rfl⟩

theorem validate_delegation_spec {rrs : List RR} {hs : List Name} {name : Name}
    (h : validateNameserverResponse q resp mc = some (.delegation rrs hs name)) :
    GbSpec (resp.answers ++ resp.authority) q.name mc name hs :=
  chooseNs_spec (validate_delegation h).2.1

theorem validate_answer {rrs : List RR}
    (h : validateNameserverResponse q resp mc = some (.answer rrs none)) :
    ∃ fin cm, followCnames resp.answers q.name q.qtype = some (fin, cm) ∧
      rrs = keptRrs q resp fin cm ∧ rrs ≠ [] ∧
      hasFinal q resp fin = true := by
  cases validate_validated h with
  | answer hf hne hfin => exact ⟨_, _, hf, rfl, hne, hfin⟩

theorem validate_cname {rrs : List RR} {c : Name}
    (h : validateNameserverResponse q resp mc = some (.cname rrs c)) :
    ∃ cm, followCnames resp.answers q.name q.qtype = some (c, cm) ∧
      rrs = keptRrs q resp c cm ∧ rrs ≠ [] ∧
      hasFinal q resp c = false := by
  cases validate_validated h with
  | cname hf hne hfin => exact ⟨_, hf, rfl, hne, hfin⟩

theorem validate_nodata {rrs : List RR} {soa : RR}
    (h : validateNameserverResponse q resp mc = some (.answer rrs (some soa))) :
    rrs = [] ∧ followCnames resp.answers q.name q.qtype = none ∧
    chooseNs (getBetterNsNames resp.answers q.name mc) (getBetterNsNames resp.authority q.name mc) = none ∧
    getNxdomainNodataSoa q resp mc = some soa := by
  cases validate_validated h with
  | nodata hf hc hs => exact ⟨rfl, hf, hc, hs⟩

theorem getNxdomainNodataSoa_some {soa : RR}
    (h : getNxdomainNodataSoa q resp mc = some soa) :
    resp.answers = [] ∧ (resp.header.rcode = 0 ∨ resp.header.rcode = 3) ∧
    resp.authority.filter (fun rr => rr.rtype == RT_SOA) = [soa] ∧
    q.name.isSubdomainOf soa.name = true ∧ mc ≤ soa.name.labels.length := by
  unfold getNxdomainNodataSoa at h
  rw [Option.ite_none_left_eq_some, Option.ite_none_left_eq_some] at h
  obtain ⟨hans, hrc, h⟩ := h
  split at h
  · rename_i rr hf
    rw [Option.ite_none_left_eq_some, Option.ite_none_left_eq_some] at h
    obtain ⟨hsub, hlen, h⟩ := h
    cases h
    simp only [RCODE_NAMEERROR, RCODE_NOERROR, Bool.not_eq_true', Bool.not_eq_false, Bool.or_eq_true,
      beq_iff_eq, List.isEmpty_iff] at hans hrc hsub
    exact ⟨hans, hrc.symm, hf, hsub, Nat.le_of_not_gt hlen⟩
  · cases h

theorem getNxdomainNodataSoa_mem {soa : RR}
    (h : getNxdomainNodataSoa q resp mc = some soa) : soa ∈ resp.authority ∧ soa.rtype = RT_SOA := by
  have hm : soa ∈ resp.authority.filter (fun rr => rr.rtype == RT_SOA) :=
    (getNxdomainNodataSoa_some h).2.2.1 ▸ List.mem_singleton_self soa
  exact (List.mem_filter.mp hm).imp_right beq_iff_eq.mp

end

theorem getRecord_some {rrs : List RR} {target : Name} {rtype : Nat} {rr : RR}
    (h : getRecord rrs target rtype = some rr) : rr ∈ rrs ∧ rr.name = target ∧ rr.rtype = rtype := by
  have h1 := List.find?_some h
  rw [Bool.and_eq_true, beq_iff_eq, beq_iff_eq] at h1
  exact ⟨List.mem_of_find?_eq_some h, h1.2, h1.1⟩

end Resolved
