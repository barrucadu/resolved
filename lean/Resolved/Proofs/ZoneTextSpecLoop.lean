/-
  C11: the entry loop of `Zone::deserialise` on `render ds v`, against `denoteAll ds`: one rendered directive line of
  each kind in the loop (`directive_line`), and by induction on the directives the whole rendering (`run_render`: the
  loop ends in the state denoting `ds`, or at the first rejected directive with an error, C11-K1 aside), and its
  reading for files with a rejected directive (`render_rejected_directive`).
-/
import Resolved.Proofs.ZoneTextSpecStep
import Resolved.Proofs.ZoneTextParsed

namespace Resolved.ZoneText

open Resolved ZTSpec

/-! ## `$ORIGIN`, `$INCLUDE` and blank lines -/

theorem loopStep_originLine {dst : DenoteState} {st : DState} (hrel : StRel dst st) (n : NameRef)
    (hok : directiveOk false (.origin n) = true)
    (lv : LineVar) (eol : List Char) (heol : IsEol eol) (hc : CommentOk lv) (tailE rest : List Char)
    (hle : LineEnd eol tailE rest) :
    loopStep st (renderLine lv eol (.origin n) ++ tailE ++ rest) =
      (match resolve dst.origin n with
       | .ok o' => some (.cont { st with origin := some o' } rest)
       | .error e => some (.stop (.error (nameErr e)))) := by
  have htok : tokeniseEntry (renderLine lv eol (.origin n) ++ tailE ++ rest)
      = .ok ([(sORIGIN, asciiOctets sORIGIN), (nameChars n, atomOctets (nameAtoms n))], rest) := by
    rw [tokenise_directive lv eol heol hc _ (fun c h => by cases h) tailE rest hle]
    show Except.ok ([tokenOf (asciiAtoms sORIGIN), tokenOf (nameAtoms n)], rest) = _
    rw [tokenOf_asciiAtoms sORIGIN (by decide)]
    rfl
  rw [loopStep_tokens st htok, entryOfTokens_origin rfl, parseOrigin_pair _ rfl, hrel.origin,
    parseDomain_spec dst.origin hrel.originOk n hok]
  cases resolve dst.origin n <;> rfl

theorem loopStep_blankLine (st : DState) (c : Option (List Char)) (hok : directiveOk false (.blank c) = true)
    (lv : LineVar) (eol : List Char) (heol : IsEol eol) (tailE rest : List Char) (hle : LineEnd eol tailE rest) :
    loopStep st (renderLine lv eol (.blank c) ++ tailE ++ rest) = loopStep st rest := by
  apply loopStep_no_tokens
  apply tokenise_blank_line_lineEnd lv eol heol c _ tailE rest hle
  intro x hx
  subst hx
  simpa [directiveOk] using hok

theorem loopStep_includeLine (st : DState) (path : List UInt8) (o : Option NameRef)
    (lv : LineVar) (eol : List Char) (heol : IsEol eol) (hc : CommentOk lv) (tailE rest : List Char)
    (hle : LineEnd eol tailE rest) :
    ∃ e', loopStep st (renderLine lv eol (.include path o) ++ tailE ++ rest) = some (.stop (.error e')) := by
  have htok := tokenise_directive lv eol heol hc (.include path o) (fun c h => by cases h) tailE rest hle
  exact loopStep_include st _ _ _ rest htok (by
    show (tokenOf (asciiAtoms sINCLUDE)).1 = _
    rw [tokenOf_asciiAtoms sINCLUDE (by decide)])

/-! ## one directive line in the entry loop -/

/-- the situation of finding C11-K1 on one directive line: a record of a class other than `IN`, its owner omitted and
    the class token first on the line. -/
def K1Line (lv : LineVar) (d : Directive) (e : SpecError) : Prop :=
  e = .classNotIN ∧ ∃ r, d = .record r ∧ r.owner = none ∧ (r.ttl = none ∨ lv.classFirst = true)

theorem resolve_textName (o : Option Name) (ho : zp_OriginOK o) (n : NameRef)
    (hn : nameRefOk false n = true) {nm : Name} (h : resolve o n = .ok nm) : TextName nm :=
  zp_parseDomain_text ho (s := nameChars n) (by rw [parseDomain_spec o ho n hn, h]; rfl)

theorem directive_line {dst : DenoteState} {st : DState} (hrel : StRel dst st) (d : Directive)
    (hok : directiveOk false d = true) (lv : LineVar) (eol : List Char) (heol : IsEol eol) (hc : CommentOk lv)
    (tailE rest : List Char) (hle : LineEnd eol tailE rest) :
    match denoteDirective dst d with
    | .ok dst' => ∃ st', StRel dst' st' ∧ runLoop st (renderLine lv eol d ++ tailE ++ rest) = runLoop st' rest
    | .error e => ¬ K1Line lv d e → ∃ e', runLoop st (renderLine lv eol d ++ tailE ++ rest) = .error e' := by
  cases d with
  | blank c => exact ⟨st, hrel, runLoop_congr (loopStep_blankLine st c hok lv eol heol tailE rest hle)⟩
  | «include» p o =>
    obtain ⟨e', he'⟩ := loopStep_includeLine st p o lv eol heol hc tailE rest hle
    exact fun _ => ⟨e', runLoop_stop he'⟩
  | origin n =>
    have hstep := loopStep_originLine hrel n hok lv eol heol hc tailE rest hle
    simp only [denoteDirective]
    cases hr : resolve dst.origin n with
    | error e =>
      rw [hr] at hstep
      exact fun _ => ⟨_, runLoop_stop hstep⟩
    | ok o' =>
      rw [hr] at hstep
      exact ⟨{ st with origin := some o' },
        ⟨rfl, fun on hon => by cases hon; exact resolve_textName dst.origin hrel.originOk n hok hr,
          hrel.prevOwner, hrel.prevTtl, hrel.soa, hrel.rrs, hrel.wrrs⟩, runLoop_cont hstep⟩
  | record r =>
    have h := record_line dst st hrel r hok lv eol heol hc tailE rest hle
    simp only [denoteDirective]
    cases hd : denoteRecord dst r with
    | ok dst' =>
      rw [hd] at h
      obtain ⟨st', hstep, hrel'⟩ := h
      exact ⟨st', hrel', runLoop_cont hstep⟩
    | error e =>
      rw [hd] at h
      intro hk
      obtain ⟨e', he'⟩ := h (fun hh => hk ⟨hh.1, r, rfl, hh.2⟩)
      exact ⟨e', runLoop_stop he'⟩

/-! ## the whole file: the entry loop -/

def VariantOk (v : FileVar) : Prop := ∀ lv ∈ v.lines, CommentOk lv

theorem cyc_commentOk (v : FileVar) (hv : VariantOk v) (i : Nat) : CommentOk (cyc v.lines i) := by
  unfold cyc
  split
  · intro c hc; cases hc
  · cases hg : v.lines[i % v.lines.length]? with
    | none => intro c hc; cases hc
    | some lv =>
      simp only [Option.getD_some]
      exact hv lv (List.mem_of_getElem? hg)

/-- the line end `ZTSpec.render` uses; `render ds v = renderFrom v (eolOf v) 0 ds` by `rfl`. -/
def eolOf (v : FileVar) : List Char := if v.crlf then ['\r', '\n'] else ['\n']

theorem eolOf_isEol (v : FileVar) : IsEol (eolOf v) := by
  unfold eolOf IsEol
  cases v.crlf <;> simp

theorem renderFrom_cons (v : FileVar) (eol : List Char) (i : Nat) (d : Directive) (ds : List Directive) :
    ∃ tailE, renderFrom v eol i (d :: ds) = renderLine (cyc v.lines i) eol d ++ tailE ++ renderFrom v eol (i + 1) ds
      ∧ LineEnd eol tailE (renderFrom v eol (i + 1) ds) := by
  cases ds with
  | nil =>
    cases hf : v.finalNewline with
    | true => exact ⟨eol, by simp [renderFrom, hf], Or.inl rfl⟩
    | false => exact ⟨[], by simp [renderFrom, hf], Or.inr ⟨rfl, rfl⟩⟩
  | cons d2 ds2 => exact ⟨eol, by simp [renderFrom], Or.inl rfl⟩

/-- the entry loop on the rendering of `ds` from line `i` on, against `denoteAll`: one induction for accepted and
    rejected files.  In the error case `j` is the position in `ds` of the first rejected directive. -/
theorem run_render (v : FileVar) (hv : VariantOk v) (ds : List Directive) :
    ∀ (i : Nat) (dst : DenoteState) (st : DState), StRel dst st → (∀ d ∈ ds, directiveOk false d = true) →
      match denoteAll dst ds with
      | .ok dst' => ∃ st', StRel dst' st' ∧ runLoop st (renderFrom v (eolOf v) i ds) = .ok st'
      | .error e =>
        (∃ j d, firstError dst i ds = some (i + j, e) ∧ ds[j]? = some d ∧ K1Line (cyc v.lines (i + j)) d e) ∨
          ∃ e', runLoop st (renderFrom v (eolOf v) i ds) = .error e' := by
  induction ds with
  | nil => exact fun i dst st hrel _ => ⟨st, hrel, by simp only [renderFrom, runLoop_nil]⟩
  | cons d ds ih =>
    intro i dst st hrel hok
    obtain ⟨tailE, hrf, hle⟩ := renderFrom_cons v (eolOf v) i d ds
    have hline := directive_line hrel d (hok d (by simp)) _ _ (eolOf_isEol v) (cyc_commentOk v hv i) tailE _ hle
    simp only [denoteAll, firstError]
    cases hdd : denoteDirective dst d with
    | error e =>
      rw [hdd] at hline
      by_cases hk : K1Line (cyc v.lines i) d e
      · exact .inl ⟨0, d, rfl, rfl, hk⟩
      · exact .inr (by rw [hrf]; exact hline hk)
    | ok dst1 =>
      rw [hdd] at hline
      obtain ⟨st1, hrel1, hrun1⟩ := hline
      have := ih (i + 1) dst1 st1 hrel1 (fun x hx => hok x (by simp [hx]))
      simp only [hrf, hrun1]
      cases hden : denoteAll dst1 ds with
      | ok dst' => rw [hden] at this; exact this
      | error e =>
        rw [hden] at this
        have hij : ∀ j, i + 1 + j = i + (j + 1) := fun j => by omega
        exact this.imp (fun ⟨j, d', h1, h2, h3⟩ => ⟨j + 1, d', hij j ▸ h1, h2, hij j ▸ h3⟩) id

/-- `isK1`: the situation of finding C11-K1 at the first rejected directive.  Of the side conditions only the one on
    the single directives is used. -/
theorem render_rejected_directive (ds : List Directive) (v : FileVar) (hok : ∀ d ∈ ds, directiveOk false d = true)
    (hv : VariantOk v) (e : SpecError) (hall : denoteAll {} ds = .error e) :
    isK1 ds v = true ∨ ∃ e', deserialise (render ds v) = .err e' := by
  have := run_render v hv ds 0 {} {} stRel_init hok
  rw [hall] at this
  refine this.imp (fun ⟨j, d, hfe, hd, hk⟩ => ?_) (fun ⟨e', he'⟩ => ⟨e', by rw [deserialise_eq_run]; exact he' ▸ rfl⟩)
  obtain ⟨rfl, r, rfl, ho, ht⟩ := hk
  rw [Nat.zero_add] at hfe ht
  simp only [isK1, hfe, hd, ho, Option.isNone_none, Bool.true_and, Bool.or_eq_true, Option.isNone_iff_eq_none]
  exact ht

end Resolved.ZoneText
