/-
  Encoder/decoder round trip (C04): the encoder states.  `TableInv` is kept by every encoder
  step unconditionally (`EncReach`), `NameInv` by every step on well-formed arguments (`EncReachWF`),
  and the states `Message::to_octets` goes through on a well-formed message are of the second kind.
-/
import Resolved.Proofs.WireEncodeMsg

namespace Resolved

open Gen

theorem TableInv.encodeField {b : WBuf} (h : TableInv b) (f : Field) (v : FieldVal) :
    TableInv (encodeField b f v) := by
  rcases encodeField_shape f v with e | ⟨x, e⟩ | ⟨n, c, e⟩ <;> rw [e]
  · exact h
  · exact h.writeOctets x
  · exact h.encodeName n c

theorem TableInv.encodeFields (fs : List Field) :
    ∀ (vs : List FieldVal) {b : WBuf}, TableInv b → TableInv (encodeFields b fs vs) := by
  intro vs b
  fun_induction Resolved.encodeFields b fs vs with
  | case1 b f fs v vs ih => exact fun h => ih (h.encodeField f v)
  | case2 => exact id

theorem TableInv.encodeQuestion {b : WBuf} (h : TableInv b) (q : Question) :
    TableInv (encodeQuestion b q) :=
  ((h.encodeName _ _).writeU16 _).writeU16 _

theorem TableInv.encodeRR {b b' : WBuf} (h : TableInv b) (rr : RR) (he : encodeRR b rr = .ok b') :
    TableInv b' := by
  obtain ⟨rdl, _, rfl, _⟩ := encodeRR_eq_encodeFields b rr b' he
  exact TableInv.encodeFields _ _ (h.rrPrefix rr rdl)

theorem TableInv.encodeRRs (rrs : List RR) :
    ∀ {b b' : WBuf}, TableInv b → encodeRRs b rrs = .ok b' → TableInv b' := by
  intro b b'
  fun_induction Resolved.encodeRRs b rrs with
  | case1 b => exact fun h he => Except.ok.inj he ▸ h
  | case2 => exact fun _ he => nomatch he
  | case3 b rr rrs b1 hb1 ih => exact fun h he => ih (h.encodeRR rr hb1) he

theorem TableInv.encodeHeader {b : WBuf} (h : TableInv b) (hd : Header) :
    TableInv (encodeHeader b hd) := by
  rw [encodeHeader_eq]; exact h.writeOctets _

theorem TableInv.foldl_encodeQuestion (qs : List Question) :
    ∀ {b : WBuf}, TableInv b → TableInv (qs.foldl Resolved.encodeQuestion b) :=
  fun h => List.foldlRecOn qs _ h fun _ h q _ => h.encodeQuestion q

/-- Encoder states reached from the empty buffer by any sequence of buffer operations and serialisation steps, on
    any arguments, `memoise_name` on its own included: the states of which `TableInv` is shown. -/
inductive EncReach : WBuf → Prop where
  | empty : EncReach WBuf.empty
  | writeU8 {b : WBuf} (o : Nat) : EncReach b → EncReach (b.writeU8 o)
  | writeU16 {b : WBuf} (v : Nat) : EncReach b → EncReach (b.writeU16 v)
  | writeU32 {b : WBuf} (v : Nat) : EncReach b → EncReach (b.writeU32 v)
  | writeOctets {b : WBuf} (x : List UInt8) : EncReach b → EncReach (b.writeOctets x)
  | memoiseName {b : WBuf} (n : Name) : EncReach b → EncReach (b.memoiseName n)
  | encodeName {b : WBuf} (n : Name) (c : Bool) : EncReach b → EncReach (encodeName b n c)
  | encodeField {b : WBuf} (f : Field) (v : FieldVal) : EncReach b → EncReach (encodeField b f v)
  | encodeFields {b : WBuf} (fs : List Field) (vs : List FieldVal) :
      EncReach b → EncReach (encodeFields b fs vs)
  | encodeHeader {b : WBuf} (h : Header) : EncReach b → EncReach (encodeHeader b h)
  | encodeQuestion {b : WBuf} (q : Question) : EncReach b → EncReach (encodeQuestion b q)
  | encodeRR {b b' : WBuf} (rr : RR) : EncReach b → encodeRR b rr = .ok b' → EncReach b'
  | encodeRRs {b b' : WBuf} (rrs : List RR) : EncReach b → encodeRRs b rrs = .ok b' → EncReach b'

theorem EncReach.tableInv {b : WBuf} (h : EncReach b) : TableInv b := by
  induction h with
  | empty => exact TableInv.empty
  | writeU8 o _ ih => exact ih.writeU8 o
  | writeU16 v _ ih => exact ih.writeU16 v
  | writeU32 v _ ih => exact ih.writeU32 v
  | writeOctets x _ ih => exact ih.writeOctets x
  | memoiseName n _ ih => exact ih.memoiseName n
  | encodeName n c _ ih => exact ih.encodeName n c
  | encodeField f v _ ih => exact ih.encodeField f v
  | encodeFields fs vs _ ih => exact TableInv.encodeFields fs vs ih
  | encodeHeader h _ ih => exact ih.encodeHeader h
  | encodeQuestion q _ ih => exact ih.encodeQuestion q
  | encodeRR rr _ he ih => exact ih.encodeRR rr he
  | encodeRRs rrs _ he ih => exact TableInv.encodeRRs rrs ih he

/-! ## The strong invariant along `Message::to_octets` -/

/-- Encoder states reached from the empty buffer by steps on well-formed arguments: all states in
    which `Message::to_octets` calls `DomainName::serialise` for a well-formed message, including
    those inside a record before the RDLENGTH back-patch.  `memoiseName` alone is no step here (it
    is one of `EncReach`): between recording the entry and writing the labels `NameInv` fails. -/
inductive EncReachWF : WBuf → Prop where
  | empty : EncReachWF WBuf.empty
  | writeU8 {b : WBuf} (o : Nat) : EncReachWF b → EncReachWF (b.writeU8 o)
  | writeU16 {b : WBuf} (v : Nat) : EncReachWF b → EncReachWF (b.writeU16 v)
  | writeU32 {b : WBuf} (v : Nat) : EncReachWF b → EncReachWF (b.writeU32 v)
  | writeOctets {b : WBuf} (x : List UInt8) : EncReachWF b → EncReachWF (b.writeOctets x)
  | encodeName {b : WBuf} (n : Name) (c : Bool) : NameWF n → EncReachWF b →
      EncReachWF (encodeName b n c)
  | encodeField {b : WBuf} (f : Field) (v : FieldVal) : FieldValWF f v → EncReachWF b →
      EncReachWF (encodeField b f v)
  | encodeFields {b : WBuf} (fs : List Field) (vs : List FieldVal) : FieldsWF fs vs →
      EncReachWF b → EncReachWF (encodeFields b fs vs)
  | encodeHeader {b : WBuf} (h : Header) : EncReachWF b → EncReachWF (encodeHeader b h)
  | encodeQuestion {b : WBuf} (q : Question) : QuestionWF q → EncReachWF b →
      EncReachWF (encodeQuestion b q)
  | encodeRR {b b' : WBuf} (rr : RR) : RRWF rr → EncReachWF b → encodeRR b rr = .ok b' →
      EncReachWF b'
  | encodeRRs {b b' : WBuf} (rrs : List RR) : (∀ r ∈ rrs, RRWF r) → EncReachWF b →
      encodeRRs b rrs = .ok b' → EncReachWF b'

theorem EncReachWF.nameInv {b : WBuf} (h : EncReachWF b) : NameInv b := by
  induction h with
  | empty => exact NameInv.empty
  | writeU8 o _ ih => exact ih.writeU8 o
  | writeU16 v _ ih => exact ih.writeU16 v
  | writeU32 v _ ih => exact ih.writeU32 v
  | writeOctets x _ ih => exact ih.writeOctets x
  | encodeName n c hwf _ ih => exact ih.encodeName hwf c
  | encodeField f v hwf _ ih => exact (encodeField_roundtrip _ f v ih hwf).1
  | encodeFields fs vs hwf _ ih => exact NameInv.encodeFields fs vs ih hwf
  | encodeHeader h _ ih => rw [encodeHeader_eq]; exact ih.writeOctets _
  | encodeQuestion q hwf _ ih => exact (encodeQuestion_roundtrip _ q ih hwf).1
  | encodeRR rr hwf _ he ih => exact (encodeRR_roundtrip _ rr _ ih hwf he).1
  | encodeRRs rrs hwf _ he ih => exact (encodeRRs_roundtrip rrs _ _ ih hwf he).1

theorem EncReachWF.reach {b : WBuf} (h : EncReachWF b) : EncReach b := by
  induction h with
  | empty => exact .empty
  | writeU8 o _ ih => exact .writeU8 o ih
  | writeU16 v _ ih => exact .writeU16 v ih
  | writeU32 v _ ih => exact .writeU32 v ih
  | writeOctets x _ ih => exact .writeOctets x ih
  | encodeName n c _ _ ih => exact .encodeName n c ih
  | encodeField f v _ _ ih => exact .encodeField f v ih
  | encodeFields fs vs _ _ ih => exact .encodeFields fs vs ih
  | encodeHeader h _ ih => exact .encodeHeader h ih
  | encodeQuestion q _ _ ih => exact .encodeQuestion q ih
  | encodeRR rr _ _ he ih => exact .encodeRR rr ih he
  | encodeRRs rrs _ _ he ih => exact .encodeRRs rrs ih he

theorem EncReachWF.foldl_encodeQuestion (qs : List Question) :
    ∀ {b : WBuf}, EncReachWF b → (∀ q ∈ qs, QuestionWF q) →
      EncReachWF (qs.foldl Resolved.encodeQuestion b) :=
  fun h hwf => List.foldlRecOn qs _ h fun _ h q hq => .encodeQuestion q (hwf q hq) h

/-! ## Splitting a section and a field list -/

theorem encodeRRs_append (r1 r2 : List RR) :
    ∀ (b b' : WBuf), Resolved.encodeRRs b (r1 ++ r2) = .ok b' →
      ∃ b1, Resolved.encodeRRs b r1 = .ok b1 ∧ Resolved.encodeRRs b1 r2 = .ok b' := by
  induction r1 with
  | nil => intro b b' h; exact ⟨b, rfl, h⟩
  | cons r r1 ih =>
    intro b b' h
    simp only [List.cons_append, Resolved.encodeRRs] at h ⊢
    split at h
    · cases h
    · rename_i bx hbx
      exact ih bx b' h

/-- the state `b1` in which a record `r` of a section is serialised; the split is an equation `hs` because that is
    the form `C04_to_octets_inner_states` states it in -/
theorem EncReachWF.rrs_prefix {b b' : WBuf} (h : EncReachWF b) {rrs r1 r2 : List RR} {r : RR}
    (hwf : ∀ r ∈ rrs, RRWF r) (hs : rrs = r1 ++ r :: r2) (he : Resolved.encodeRRs b rrs = .ok b') :
    ∃ b1 b2, Resolved.encodeRRs b r1 = .ok b1 ∧ EncReachWF b1 ∧ Resolved.encodeRR b1 r = .ok b2 ∧
      Resolved.encodeRRs b2 r2 = .ok b' := by
  subst hs
  obtain ⟨b1, h1, h2⟩ := encodeRRs_append r1 (r :: r2) b b' he
  simp only [Resolved.encodeRRs] at h2
  split at h2
  · cases h2
  · rename_i b2 hb2
    exact ⟨b1, b2, h1, .encodeRRs r1 (fun x hx => hwf x (by simp [hx])) h h1, hb2, h2⟩

theorem FieldsWF.take (fs : List Field) :
    ∀ (vs : List FieldVal) (k : Nat), FieldsWF fs vs → FieldsWF (fs.take k) (vs.take k) := by
  induction fs with
  | nil =>
    intro vs k h
    cases vs with
    | nil => simpa using h
    | cons _ _ => exact absurd h (by simp [FieldsWF])
  | cons f fs ih =>
    intro vs k h
    cases vs with
    | nil => exact absurd h (by simp [FieldsWF])
    | cons v vs =>
      cases k with
      | zero => simp [FieldsWF]
      | succ k => exact ⟨h.1, ih vs k h.2⟩

theorem encodeFields_take_drop (fs : List Field) :
    ∀ (vs : List FieldVal) (k : Nat) (b : WBuf),
      Resolved.encodeFields b fs vs
        = Resolved.encodeFields (Resolved.encodeFields b (fs.take k) (vs.take k))
            (fs.drop k) (vs.drop k) := by
  intro vs k b
  fun_induction Resolved.encodeFields b fs vs generalizing k with
  | case1 b f fs v vs ih =>
    cases k with
    | zero => rfl
    | succ k => exact ih k
  | case2 fs b vs hne =>
    cases fs with
    | nil => cases k <;> rfl
    | cons f fs =>
      cases vs with
      | nil =>
        cases k with
        | zero => rfl
        | succ k => exact (encodeFields.eq_2 _ (fs.drop k) [] (fun _ _ _ _ _ h => nomatch h)).symm
      | cons v vs => exact (hne f fs v vs rfl rfl).elim

/-- inside a record: the (pre-patch) state in which the `k`-th RDATA field is serialised -/
theorem EncReachWF.rdata_prefix {b : WBuf} (h : EncReachWF b) {rr : RR} (hwf : RRWF rr) (k : Nat) :
    EncReachWF (Resolved.encodeFields (rrPrefix b rr 0)
      ((encodeLayoutOf rr.rtype).take k) (rr.fields.take k)) :=
  .encodeFields _ _ (FieldsWF.take _ _ k hwf.2.2.2.2)
    (.writeU16 0 (.writeU32 _ (.writeU16 _ (.writeU16 _ (.encodeName _ _ hwf.1 h)))))

end Resolved
