/-
  C05, history level: along any history the cache stores, for every key (name, type, data), the
  expiry of the key's LAST insertion — unless a prune has dropped it since.
  The abstract state is the entry list of `Spec/CacheSpec.lean` (`CSpec.State.entries`); `absStep` is one operation on it,
  `runBoth` a history on both sides, `CacheSim` the relation between the two that every step keeps (`CacheSim.runBoth`).
  First, what `prune` does to the stored tuples (`Inv.tuplesAt_prune`, `Inv.storedExpiry_prune`): this is the first
  module that sees both `CacheStore` and `CachePruneSpec`.
-/
import Resolved.Spec.CacheSpec
import Resolved.Proofs.CacheStore
import Resolved.Proofs.CachePruneSpec

namespace Resolved

open PCache

/-! ## What `prune` does to the stored tuples -/

theorem get_liveRecs (rs : List (Nat × Tuples)) (now rk : Nat) :
    AL.get (liveRecs rs now) rk = (AL.get rs rk).map (fun ts => ts.filter (fun t => t.2 > now)) := by
  induction rs with
  | nil => rfl
  | cons r rs ih =>
    rw [liveRecs_cons, AL.get_cons, AL.get_cons]
    by_cases h : r.1 = rk <;> simp [h, ih]

theorem Inv.tuplesAt_prune {c c' : PCache} {now : Nat} {r : Bool × Nat × Nat × Nat} (h : Inv c)
    (hp : c.prune now = some (c', r)) (k : Name) (rk : Nat) :
    tuplesAt c' k rk =
      if k ∈ AL.keys c'.partitions then (tuplesAt c k rk).filter (fun t => t.2 > now) else [] := by
  cases hg : AL.get c'.partitions k with
  | none => rw [tuplesAt_of_none hg, if_neg (AL.get_eq_none_iff.mp hg)]
  | some p' =>
    rw [if_pos (AL.mem_keys_of_get hg)]
    obtain ⟨kp, hkp, hk, hrec, _⟩ := (h.prune_spec hp).survivors (k, p') (AL.mem_of_get hg)
    have hmem : (kp.1, kp.2) ∈ c.partitions := hkp
    rw [show kp.1 = k from hk] at hmem
    rw [tuplesAt_of_get hg, tuplesAt_of_get (AL.get_of_mem h.keysNodup hmem), hrec, get_liveRecs]
    cases AL.get kp.2.records rk <;> rfl

theorem Inv.storedExpiry_prune {c c' : PCache} {now : Nat} {r : Bool × Nat × Nat × Nat} (h : Inv c)
    (hp : c.prune now = some (c', r)) (k : Name) (rt : Nat) (fs : List FieldVal) :
    storedExpiry c' k rt fs =
      if k ∈ AL.keys c'.partitions then
        (storedExpiry c k rt fs).bind (fun e => if e > now then some e else none)
      else none := by
  rw [storedExpiry_eq, storedExpiry_eq, h.tuplesAt_prune hp]
  split
  · rw [AL.get_filter (h.tuplesAt_nodup k rt)]
    simp only [decide_eq_true_eq]
  · rfl

theorem Inv.storedExpiry_prune_sub {c c' : PCache} {now : Nat} {r : Bool × Nat × Nat × Nat} (h : Inv c)
    (hp : c.prune now = some (c', r)) {k : Name} {rt : Nat} {fs : List FieldVal} {e : Nat}
    (he : storedExpiry c' k rt fs = some e) : storedExpiry c k rt fs = some e := by
  rw [h.storedExpiry_prune hp] at he
  split at he
  · obtain ⟨a, ha, hae⟩ := Option.bind_eq_some_iff.mp he
    split at hae
    · cases hae; exact ha
    · cases hae
  · cases he

/-! ## The abstract map -/

open CSpec (Key)

def absFind (m : List (Key × Nat)) (k : Key) : Option Nat := (m.find? (·.1 == k)).map (·.2)

theorem absFind_eq_get (m : List (Key × Nat)) (k : Key) : absFind m k = AL.get m k :=
  AL.find?_eq_get m k

def absInsert (m : List (Key × Nat)) (rr : RR) (now : Nat) : List (Key × Nat) :=
  if rr.ttl > 0 then
    (m.filter (·.1 != (⟨rr.name, rr.rtype, rr.fields⟩ : Key))) ++ [(⟨rr.name, rr.rtype, rr.fields⟩, now + rr.ttl * NANOS)]
  else m

theorem CSpec.State.find_eq_absFind (st : CSpec.State) (k : Key) : st.find k = absFind st.entries k := rfl

theorem CSpec.State.insert_entries (st : CSpec.State) (rr : RR) :
    (st.insert rr).entries = absInsert st.entries rr st.now := by
  unfold CSpec.State.insert absInsert
  split
  · rfl
  · rfl

/-- a prune keeps the entries that the implementation (state `c'` after the operation) still stores -/
def absStep (c' : PCache) (m : List (Key × Nat)) : CacheOp → List (Key × Nat)
  | .insert rr now => absInsert m rr now
  | .insertAll rrs now => rrs.foldl (fun m rr => absInsert m rr now) m
  | .get _ _ _ => m
  | .getUnchecked _ _ _ => m
  | .prune _ => m.filter (fun ke => storedExpiry c' ke.1.name ke.1.rtype ke.1.fields == some ke.2)

/-- the history run on both sides, the abstract step seeing the concrete state after the operation -/
def runBoth (c : PCache) (m : List (Key × Nat)) : List CacheOp → PCache × List (Key × Nat)
  | [] => (c, m)
  | op :: ops => runBoth (op.apply c) (absStep (op.apply c) m op) ops

theorem runBoth_fst (c : PCache) (m : List (Key × Nat)) (ops : List CacheOp) :
    (runBoth c m ops).1 = runFrom c ops := by
  induction ops generalizing c m with
  | nil => rfl
  | cons op ops ih => simp only [runBoth, ih]; rfl

theorem absFind_insert (m : List (Key × Nat)) (rr : RR) (now : Nat) (k : Key) :
    absFind (absInsert m rr now) k =
      if rr.ttl > 0 ∧ k = ⟨rr.name, rr.rtype, rr.fields⟩ then some (now + rr.ttl * NANOS) else absFind m k := by
  unfold absInsert
  by_cases ht : rr.ttl > 0
  · rw [if_pos ht, absFind_eq_get, absFind_eq_get]
    show AL.get (AL.erase m _ ++ [_]) k = _
    rw [AL.get_append, AL.get_erase]
    by_cases hk : k = ⟨rr.name, rr.rtype, rr.fields⟩
    · rw [if_pos hk, if_pos ⟨ht, hk⟩, hk, AL.get_cons, if_pos rfl]; rfl
    · rw [if_neg hk, if_neg (fun h => hk h.2), AL.get_cons, if_neg (fun e => hk e.symm), AL.get_nil, Option.or_none]
  · rw [if_neg ht, if_neg (fun h => ht h.1)]

def CacheSim (c : PCache) (m : List (Key × Nat)) : Prop :=
  ∀ k : Key, storedExpiry c k.name k.rtype k.fields = absFind m k

theorem CacheSim.insert {c : PCache} {m : List (Key × Nat)} (hs : CacheSim c m) (h : Inv c) (rr : RR) (now : Nat) :
    CacheSim (sharedInsert c rr now) (absInsert m rr now) := by
  intro k
  rw [absFind_insert, ← hs k]
  by_cases ht : rr.ttl > 0
  · rw [sharedInsert_pos c now ht, ← Resolved.cacheInsert, storedExpiry_cacheInsert h]
    obtain ⟨a, b, d⟩ := k
    simp [ht]
  · rw [sharedInsert_zero c now (Nat.eq_zero_of_not_pos ht), if_neg fun h => ht h.1]

theorem CacheSim.insertAll {c : PCache} {m : List (Key × Nat)} (hs : CacheSim c m) (h : Inv c) (rrs : List RR) (now : Nat) :
    CacheSim (sharedInsertAll c rrs now) (rrs.foldl (fun m rr => absInsert m rr now) m) :=
  (List.foldl_rel (r := fun c m => CacheSim c m ∧ Inv c) ⟨hs, h⟩
    fun rr _ _ _ ⟨hs, h⟩ => ⟨hs.insert h rr now, h.sharedInsert rr now⟩).1

theorem CacheSim.step {c : PCache} {m : List (Key × Nat)} (hs : CacheSim c m) (h : Inv c) (op : CacheOp) :
    CacheSim (op.apply c) (absStep (op.apply c) m op) := by
  cases op with
  | insert rr now => exact hs.insert h rr now
  | insertAll rrs now => exact hs.insertAll h rrs now
  | get name qtype now | getUnchecked name qtype now =>
    intro k
    exact ((cacheGetUnchecked_touches c name qtype now).storedExpiry _ _ _).trans (hs k)
  | prune now =>
    intro k
    simp only [absStep]
    generalize hc' : CacheOp.apply c (.prune now) = c'
    have hsub : ∀ e, storedExpiry c' k.name k.rtype k.fields = some e →
        storedExpiry c k.name k.rtype k.fields = some e := by
      simp only [CacheOp.apply] at hc'
      split at hc'
      · rename_i c2 r hp
        subst hc'
        exact fun e he => h.storedExpiry_prune_sub hp he
      · subst hc'; exact fun e he => he
    -- an entry passes the filter iff it is what `c'` stores for its key
    rw [absFind_eq_get]
    cases hst : storedExpiry c' k.name k.rtype k.fields with
    | none => exact (AL.get_filter_none fun v _ => by simp [hst]).symm
    | some e =>
      have hm : AL.get m k = some e := by rw [← absFind_eq_get, ← hs k]; exact hsub e hst
      exact (AL.get_filter_of_get hm (by simp [hst])).symm

theorem CacheSim.new (d : Nat) : CacheSim (PCache.new d) [] := by
  intro k; rfl

theorem CacheSim.runBoth {c : PCache} {m : List (Key × Nat)} (hs : CacheSim c m) (h : Inv c) (ops : List CacheOp) :
    CacheSim (runBoth c m ops).1 (runBoth c m ops).2 := by
  induction ops generalizing c m with
  | nil => exact hs
  | cons op ops ih => exact ih (hs.step h op) (h.apply op)

end Resolved
