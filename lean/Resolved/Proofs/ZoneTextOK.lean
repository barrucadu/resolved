/-
  The vocabulary of the zone-text files: what `Zone::serialise` writes back faithfully and `Zone::deserialise`
  produces — text names (`TextName`, `NoStar`), RDATA that fits its type (`FieldOK`, `RdataOK`, `SoaOK`), zones
  (`ZoneTextOK`, with the origin their text is read under, `emittedOrigin`), and what holds of the parser's local
  variables (`zp_OriginOK`, `zp_MwOK`, `zp_PdOK`, `zp_PtOK`).
-/
import Resolved.Model.ZoneText
import Resolved.Proofs.NameLemmas

namespace Resolved.ZoneText

open Resolved Resolved.IpText Gen

/-- an octet that may stand in a label of a zone file: ASCII, not `.`, not an upper-case letter
    (labels are stored lower-cased). -/
def TextOctet (b : UInt8) : Prop := b.toNat < 128 ∧ b ≠ 46 ∧ ¬ isUpper b

def TextLabel (l : Label) : Prop := l.length ≤ LABEL_MAX_LEN ∧ ∀ b ∈ l, TextOctet b

def TextName (n : Name) : Prop := Name.fromLabels n.labels = some n ∧ ∀ l ∈ n.labels, TextLabel l

theorem TextName.shape {n : Name} (h : TextName n) :
    LabelsShape n.labels ∧ n.labels.length + sumLen n.labels ≤ DOMAINNAME_MAX_LEN
      ∧ n = ⟨n.labels, n.labels.length + sumLen n.labels⟩ :=
  Name.fromLabels_eq_some.mp h.1

theorem root_textName : TextName Name.root := by
  refine ⟨Name.fromLabels_root, ?_⟩
  intro l hl
  simp [Name.root] at hl
  subst hl
  exact ⟨by simp, by simp⟩

/-- first label of a name does not start with `*`. -/
def NoStar (n : Name) : Prop := ∀ l ls, n.labels = l :: ls → l.head? ≠ some 42

/-- what is required of a field for its text to be read back. -/
def FieldOK : FieldVal → Prop
  | .name n => TextName n
  | .u16 n => n < 65536
  | .u32 n => n < 4294967296
  | .a addr => addr < 4294967296
  | .aaaa gs => gs.length = 8 ∧ ∀ g ∈ gs, g < 65536
  | .opaque _ => True

/-- RDATA laid out as `try_parse_rtype_with_data` reads its type, every field readable.  `TYPE<n>` with `n` none of these
    codes is left out because the parser has no arm for it, SOA because it is carried by `SoaOK` and the header line. -/
inductive RdataOK : Nat → List FieldVal → Prop where
  | a (addr : Nat) (h : addr < 4294967296) : RdataOK 1 [.a addr]
  | oneName (c : Nat) (hc : c = 2 ∨ c = 3 ∨ c = 4 ∨ c = 5 ∨ c = 7 ∨ c = 8 ∨ c = 9 ∨ c = 12) (n : Name)
      (hn : TextName n) : RdataOK c [.name n]
  | octets (c : Nat) (hc : c = 10 ∨ c = 11 ∨ c = 13 ∨ c = 16) (bs : List UInt8) : RdataOK c [.opaque bs]
  | minfo (r e : Name) (hr : TextName r) (he : TextName e) : RdataOK 14 [.name r, .name e]
  | mx (p : Nat) (e : Name) (hp : p < 65536) (he : TextName e) : RdataOK 15 [.u16 p, .name e]
  | aaaa (gs : List Nat) (h : FieldOK (.aaaa gs)) : RdataOK 28 [.aaaa gs]
  | srv (p w port : Nat) (t : Name) (hp : p < 65536) (hw : w < 65536) (hport : port < 65536)
      (ht : TextName t) : RdataOK 33 [.u16 p, .u16 w, .u16 port, .name t]

theorem RdataOK.fields {c : Nat} {fs : List FieldVal} (h : RdataOK c fs) : ∀ f ∈ fs, FieldOK f := by
  cases h with
  | a addr h => exact List.forall_mem_singleton.mpr h
  | oneName c hc n hn => exact List.forall_mem_singleton.mpr hn
  | octets c hc bs => exact List.forall_mem_singleton.mpr trivial
  | minfo r e hr he => exact List.forall_mem_cons.mpr ⟨hr, List.forall_mem_singleton.mpr he⟩
  | mx p e hp he => exact List.forall_mem_cons.mpr ⟨hp, List.forall_mem_singleton.mpr he⟩
  | aaaa gs h => exact List.forall_mem_singleton.mpr h
  | srv p w port t hp hw hport ht =>
    exact List.forall_mem_cons.mpr ⟨hp, List.forall_mem_cons.mpr ⟨hw, List.forall_mem_cons.mpr
      ⟨hport, List.forall_mem_singleton.mpr ht⟩⟩⟩

theorem RdataOK.not_soa {c : Nat} {fs : List FieldVal} (h : RdataOK c fs) : c ≠ 6 := by
  cases h with
  | oneName c hc n hn => omega
  | octets c hc bs => omega
  | a | minfo | mx | aaaa | srv => decide

def SoaOK (soa : SOA) : Prop :=
  TextName soa.mname ∧ TextName soa.rname ∧ soa.serial < 4294967296 ∧ soa.refresh < 4294967296 ∧
  soa.retry < 4294967296 ∧ soa.expire < 4294967296 ∧ soa.minimum < 4294967296

/-- the origin in force when the records written by `Zone::serialise` are read back: the
    `$ORIGIN <apex>` it writes for an authoritative zone whose apex is not the root. -/
def emittedOrigin (z : Zone) : Option Name :=
  if z.isAuthoritative && !z.apex.isRoot then some z.apex else none

/-- what the text side needs of a zone (an assumption of `C13_roundtrip`, Props/C13.lean, beside `OnlyOwnSoa` of
    Proofs/ZoneTextInsert.lean).  `nonauth_root`: without a SOA line `Zone::deserialise` starts from `Zone::default()`, whose
    apex is the root.  `records` exempts SOA-typed records because `Zone::serialise` skips them (the SOA is written in the
    header, from `z.soa`).  Parsed zones satisfy all of it but `NoStar` (Props/C13.lean); the copy without that clause is
    `zp_ZoneTextOK` (Proofs/ZoneTextParsedZone.lean). -/
structure ZoneTextOK (z : Zone) : Prop where
  apex : TextName z.apex
  nonauth_root : z.soa = none → z.apex = Name.root
  soa : ∀ s, z.soa = some s → SoaOK s
  records : ∀ p ∈ z.allRecords, TextName p.1 ∧ NoStar p.1 ∧
    ∀ zr ∈ p.2, zr.rtype ≠ RT_SOA → RdataOK zr.rtype zr.fields ∧ zr.ttl < 4294967296
  wildcards : ∀ p ∈ z.allWildcardRecords, TextName p.1 ∧
    ∀ zr ∈ p.2, RdataOK zr.rtype zr.fields ∧ zr.ttl < 4294967296

/-! Names beginning with `zp_` ("zone parser") are about what `Zone::deserialise` holds in its local variables or returns. -/

def zp_OriginOK (o : Option Name) : Prop := ∀ on, o = some on → TextName on

def zp_MwOK : MaybeWildcard → Prop
  | .normal n => TextName n
  | .wildcard n => TextName n

def zp_PdOK (pd : Option MaybeWildcard) : Prop := ∀ w, pd = some w → zp_MwOK w
def zp_PtOK (pt : Option Nat) : Prop := ∀ t, pt = some t → t < 4294967296

end Resolved.ZoneText
