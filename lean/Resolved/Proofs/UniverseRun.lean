/-
  C07 over consistent universes: how the machine runs over a universe, as two predicates with a cost — `WalkRuns`
  (the candidate loop once the reply of a server is in) and `RecRuns` (a call of `resolveRec`): from any state `UniAt`,
  with enough fuel and time, exactly this result after exactly these exchanges, leaving `UniDone` — and the rules that
  build them (`last`, `glued`, `glueless`, `alias`, `enter`; `recursive` for the 60 s wrapper) with the two steps they
  share: `ask` (one iteration of the loop with an address at hand) and `loopAfterReply_referral` (a referral is
  cached; under `glued` and `glueless`).  Callers read the state after through `UniDone.cache_with/.cons/.append`.
  Before them `planLog` / `planDelay` of lists of exchanges.  The rules also cover resolutions that `UniWalk` (no alias
  step) and `UniPlan` (no leg without glue) of `Spec/UniverseSpec` cannot describe.
-/
import Resolved.Proofs.UniverseDescent

namespace Resolved

open Gen

set_option autoImplicit false

/-! ## `planLog` and `planDelay` of lists of exchanges -/

theorem planDelay_append (a b : List (UEntry × Question)) : planDelay (a ++ b) = planDelay a + planDelay b := by
  simp [planDelay, totalDelay]

theorem planDelay_cons (E : UEntry) (q : Question) (ex : List (UEntry × Question)) :
    planDelay ((E, q) :: ex) = E.delayMs + planDelay ex := by
  simp [planDelay, totalDelay]

theorem planLog_cons (port : Nat) (E : UEntry) (q : Question) (ex : List (UEntry × Question)) :
    planLog port ((E, q) :: ex) = E.exchange port q :: planLog port ex := by
  simp [planLog]

theorem planLog_append (port : Nat) (a b : List (UEntry × Question)) :
    planLog port (a ++ b) = planLog port a ++ planLog port b := by
  simp [planLog]

theorem planDelay_leg (q : Question) (es : List UEntry) : planDelay (legExchanges q es) = totalDelay es := by
  simp [planDelay, legExchanges, List.map_map, Function.comp_def]

theorem planLog_leg (port : Nat) (q : Question) (es : List UEntry) :
    planLog port (legExchanges q es) = es.map (·.exchange port q) := by
  simp [planLog, legExchanges, List.map_map, Function.comp_def]

/-! ## `UniDone`: what a run leaves behind -/

/-- The machine has got to `st'` by exactly the exchanges `ex`, in their time, from a run with log `log` and `t` ms on
    the clock; zones, stack and cache clock as before; the last thing written to the cache being the records `A`.
    The cache is given as one that satisfies the invariant with `A` inserted, not by an invariant of its own: whether
    the answer's key belongs to `K` (a later question asks about it), to `G` (it is a name server's address) or
    nowhere is the caller's to say. -/
structure UniDone (cfg : RecCfg) (U : Universe) (zs : Zones) (S : List Question) (log : List Exchange) (t clock : Nat)
    (ex : List (UEntry × Question)) (V' G' : List UEntry) (K' : List (Name × Nat)) (T : Nat) (A : List RR)
    (st' : St) : Prop where
  run : st'.run = ⟨log ++ planLog cfg.port ex, t + planDelay ex, false⟩
  stack : st'.ctx.stack = S
  zones : st'.ctx.zones = zs
  now : st'.ctx.now = clock
  memV : ∀ C ∈ V', C ∈ U
  memG : ∀ C ∈ G', C ∈ U
  cache : ∃ c1, st'.ctx.cache = sharedInsertAll c1 A clock ∧ uni2_Cache V' G' K' c1 T

theorem UniDone.cache_with {cfg : RecCfg} {U : Universe} {zs : Zones} {S : List Question} {log : List Exchange}
    {t clock : Nat} {ex : List (UEntry × Question)} {V' G' G'' : List UEntry} {K' K'' : List (Name × Nat)} {T : Nat}
    {A : List RR} {st' : St} (hd : UniDone cfg U zs S log t clock ex V' G' K' T A st') (hG : ∀ C ∈ G', C ∈ G'')
    (hK : ∀ k ∈ K', k ∈ K'')
    (hA : ∀ rr ∈ A, 0 < rr.ttl → uni2_TupleOK V' G'' K'' T rr.name rr.rtype (storedTuple clock rr))
    (hnew : ∀ C ∈ G'', C ∈ G' ∨ ∃ rr ∈ A, rr.ttl > 0 ∧ C.host = rr.name ∧ RT_A = rr.rtype) :
    uni2_Cache V' G'' K'' st'.ctx.cache T := by
  obtain ⟨c1, e, h⟩ := hd.cache
  rw [e]
  exact h.insertAll (fun _ hC => hC) hG hK A hA (fun C hC => Or.inl hC) hnew

theorem UniDone.cons {cfg : RecCfg} {U : Universe} {zs : Zones} {S : List Question} {log : List Exchange} {t now : Nat}
    {E : UEntry} {q : Question} {ex : List (UEntry × Question)} {V' G' : List UEntry} {K' : List (Name × Nat)} {T : Nat}
    {A : List RR} {st' : St}
    (h : UniDone cfg U zs S (log ++ [E.exchange cfg.port q]) (t + E.delayMs) now ex V' G' K' T A st') :
    UniDone cfg U zs S log t now ((E, q) :: ex) V' G' K' T A st' :=
  ⟨by rw [h.run, planLog_cons, planDelay_cons, List.append_assoc, List.singleton_append, Nat.add_assoc],
    h.stack, h.zones, h.now, h.memV, h.memG, h.cache⟩

theorem UniDone.append {cfg : RecCfg} {U : Universe} {zs : Zones} {S : List Question} {log : List Exchange} {t now : Nat}
    {ex1 ex : List (UEntry × Question)} {V' G' : List UEntry} {K' : List (Name × Nat)} {T : Nat}
    {A : List RR} {st' : St}
    (h : UniDone cfg U zs S (log ++ planLog cfg.port ex1) (t + planDelay ex1) now ex V' G' K' T A st') :
    UniDone cfg U zs S log t now (ex1 ++ ex) V' G' K' T A st' :=
  ⟨by rw [h.run, planLog_append, planDelay_append, List.append_assoc, Nat.add_assoc],
    h.stack, h.zones, h.now, h.memV, h.memG, h.cache⟩

section Runs

variable (cfg : RecCfg) (gp : List RR → List RR) (U : Universe) (zs : Zones) (m : Nat)

/-- The server `Y` has a reply for `q`, and from any state `UniAt … S V G K`, once that reply is in, with more than
    `f` units of fuel and the time for the exchanges `ex` left, the candidate loop returns exactly `out` after exactly
    `ex`, leaving `UniDone … V' G' K'` (`A`: the records cached last).  More than `f` here, at least `f` in `RecRuns`:
    the costs of the rules then add up without side conditions.  The reply stands outside the quantifiers over
    the state: the rule for the step before (`ask`) needs it to state the exchange with `Y` before it applies the rest. -/
def WalkRuns (K : List (Name × Nat)) (S : List Question) (q : Question) (V G : List UEntry) (Y : UEntry)
    (ex : List (UEntry × Question)) (f : Nat) (K' : List (Name × Nat)) (V' G' : List UEntry) (out : ResolvedRecord)
    (A : List RR) : Prop :=
  ∃ mY, authReplyG gp Y q false = some mY ∧
  ∀ (F : Nat) (stQ : St) (T clock : Nat), f < F →
    UniAt U zs S V G K T m clock stQ → stQ.run.elapsedMs + planDelay ex < RESOLVE_TIMEOUT_MS →
    ∃ st', loopAfterReply cfg F stQ q [] (validateNameserverResponse q mY Y.apex.labels.length) = (st', .ok out) ∧
      UniDone cfg U zs S stQ.run.log stQ.run.elapsedMs clock ex V' G' K' T A st'

/-- … and for a call of `resolveRec` with at least `f` units of fuel. -/
def RecRuns (K : List (Name × Nat)) (S : List Question) (q : Question) (V G : List UEntry)
    (ex : List (UEntry × Question)) (f : Nat) (K' : List (Name × Nat)) (V' G' : List UEntry) (out : ResolvedRecord)
    (A : List RR) : Prop :=
  ∀ (F : Nat) (st : St) (T clock : Nat), f ≤ F → UniAt U zs S V G K T m clock st →
    st.run.elapsedMs + planDelay ex < RESOLVE_TIMEOUT_MS →
    ∃ st', resolveRec cfg F st q = (st', .ok out) ∧
      UniDone cfg U zs S st.run.log st.run.elapsedMs clock ex V' G' K' T A st'

end Runs

section Rules

variable {cfg : RecCfg} {gp : List RR → List RR} {U : Universe} {zs : Zones} {m : Nat}

theorem exists_fuel_add {f k F : Nat} (h : f + k ≤ F) : ∃ F', F = F' + k ∧ f ≤ F' :=
  ⟨F - k, (Nat.sub_add_cancel (Nat.le_trans (Nat.le_add_left k f) h)).symm, Nat.le_sub_of_add_le h⟩

theorem WalkRuns.mono {K : List (Name × Nat)} {S : List Question} {q : Question} {V G : List UEntry} {Y : UEntry}
    {ex : List (UEntry × Question)} {f f' : Nat} {K' : List (Name × Nat)} {V' G' : List UEntry} {out : ResolvedRecord}
    {A : List RR} (h : WalkRuns cfg gp U zs m K S q V G Y ex f K' V' G' out A) (hf : f ≤ f') :
    WalkRuns cfg gp U zs m K S q V G Y ex f' K' V' G' out A :=
  let ⟨mY, hm, h2⟩ := h
  ⟨mY, hm, fun F stQ T clock hF => h2 F stQ T clock (Nat.lt_of_le_of_lt hf hF)⟩

theorem RecRuns.mono {K : List (Name × Nat)} {S : List Question} {q : Question} {V G : List UEntry}
    {ex : List (UEntry × Question)} {f f' : Nat} {K' : List (Name × Nat)} {V' G' : List UEntry} {out : ResolvedRecord}
    {A : List RR} (h : RecRuns cfg U zs m K S q V G ex f K' V' G' out A) (hf : f ≤ f') :
    RecRuns cfg U zs m K S q V G ex f' K' V' G' out A :=
  fun F st T clock hF => h F st T clock (Nat.le_trans hf hF)

/-- `Y` answers: data, NODATA or NXDOMAIN. -/
theorem WalkRuns.last {K : List (Name × Nat)} {S : List Question} {q : Question} {V G : List UEntry} {Z : UEntry}
    {res : ResolvedRecord} (hq : lookupNat queryTypeFromU16 q.qtype = none) (hexp : expectedAt Z q = some res)
    (hsays : ZoneSaysWF Z.zone q) : WalkRuns cfg gp U zs m K S q V G Z [] 0 K V G res res.rrs := by
  obtain ⟨m0, rrs, soa, hm, rfl, hv⟩ := authReplyG_terminal gp Z q res hq hexp hsays
  refine ⟨m0, hm, ?_⟩
  intro F stQ T clock _ hat _
  rw [hv _ (Nat.le_refl _)]
  refine ⟨⟨stQ.ctx.cacheInsertAll rrs, stQ.run⟩, by rw [loopAfterReply_answer, prioritisingMerge_nil], ?_, hat.stack,
    hat.zones, hat.now, hat.memV, hat.memG, stQ.ctx.cache, by rw [← hat.now]; rfl, hat.cache⟩
  simp [planLog, planDelay, totalDelay, ← hat.live]

/-- The reply of `Y` — a referral to the zone served by the servers `sibs` (NS set `nsRrs`, glue for `Gs` of them): its
    records are cached, and the loop goes on with the hosts named, in the order `cfg.hostOrder` gives them.
    (`hGs1`: a server whose host owns a glue record is in `Gs`; `hGs2`: the servers of `Gs` are among those named and
    their `A` glue is there.) -/
theorem loopAfterReply_referral (h : UniNet gp U cfg) {q : Question} {Y C : UEntry} {sibs Gs : List UEntry}
    {nsRrs : List RR} (r : Refers U q Y C sibs nsRrs) (hsub : q.name.isSubdomainOf C.apex = true)
    (hGs1 : ∀ D ∈ sibs, (∃ g ∈ gp nsRrs, g.name = D.host) → D ∈ Gs)
    (hGs2 : ∀ D ∈ Gs, D ∈ sibs ∧ D.glueRR ∈ gp nsRrs) (hqa : isAddrQ q → ∀ D ∈ sibs, q.name ≠ D.host)
    (hmU : ∀ E ∈ U, m ≤ E.glueTtl) (hm : ∀ rr ∈ nsRrs, m ≤ rr.ttl) :
    ∃ mY, authReplyG gp Y q false = some mY ∧
    ∀ (F : Nat) {stQ : St} {T : Nat} {S : List Question} {V G : List UEntry} {K : List (Name × Nat)} {clock : Nat},
      UniAt U zs S V G K T m clock stQ →
      loopAfterReply cfg F stQ q [] (validateNameserverResponse q mY Y.apex.labels.length) =
        candidateLoop cfg F ⟨stQ.ctx.cacheInsertAll (nsRrs ++ gp nsRrs), stQ.run⟩ q [] C.apex.labels.length
          (cfg.hostOrder (nsHosts nsRrs)) [] true ∧
      UniAt U zs S (V ++ sibs) (G ++ Gs) K T m clock ⟨stQ.ctx.cacheInsertAll (nsRrs ++ gp nsRrs), stQ.run⟩ := by
  obtain ⟨m0, hm0, hv, hg, hmemg⟩ := authReplyG_referral h.sub r hsub hqa
  refine ⟨m0, hm0, fun F stQ T S V G K clock hat => ?_⟩
  rw [hv]
  refine ⟨loopAfterReply_follow _ _ _ _ _ _ hg, hat.cached ?_ ?_ ?_⟩
  · exact referral_cache h.hosts h.glueTtl stQ.ctx.cache sibs (fun D hD => (r.srv D hD).1) nsRrs r.ns r.all _ hmemg
      (fun E hE => within_of_ttl_le hat.within (hmU E hE)) (fun rr hr => within_of_ttl_le hat.within (hm rr hr)) V G (G ++ Gs) K
      hat.cache (fun D hD => List.mem_append_left _ hD) (fun D hD hg => List.mem_append_right _ (hGs1 D hD hg))
      (fun D hD => (List.mem_append.mp hD).imp_right fun hD => hGs2 D hD)
  · exact fun E hE => (List.mem_append.mp hE).elim (hat.memV E) fun hE => (r.srv E hE).1
  · exact fun E hE => (List.mem_append.mp hE).elim (hat.memG E) fun hE => (r.srv E (hGs2 E hE).1).1

/-- The loop asks `X`, whose address the lookup of this iteration has found (`htry`: in the local pass, or by a call
    of `resolveRec` in the recursive pass), and goes on as `next` says.  Two units of fuel: this frame of
    `candidateLoop` and the `tryTypes` frame inside it.  Stated on `candidateLoop`, not as a `WalkRuns`: its three
    users — `glued`, `glueless`, `enter` — hold the loop in three different states; log and clock of `UniDone` count
    from `st1`, the state after `tryTypes`. -/
theorem WalkRuns.ask (h : UniNet gp U cfg) {K : List (Name × Nat)} {S : List Question} {q : Question}
    {V G : List UEntry} {X : UEntry} {ex : List (UEntry × Question)} {f : Nat} {K' : List (Name × Nat)}
    {V' G' : List UEntry} {out : ResolvedRecord} {A : List RR} (hq : QuestionOK q) (hX : X ∈ U)
    (next : WalkRuns cfg gp U zs m K S q V G X ex f K' V' G' out A) {F : Nat} (hF : f ≤ F) {st st1 : St}
    {cands : List Name} {locally : Bool} {T clock : Nat} (hlive : st.run.timedOut = false)
    (hlast : cands.getLast? = some X.host)
    (htry : tryTypes cfg (F + 1) st locally X.host (rtypesFor cfg.mode) = (st1, some (.a X.addr)))
    (hat : UniAt U zs S V G K T m clock st1)
    (htime : st1.run.elapsedMs + planDelay ((X, q) :: ex) < RESOLVE_TIMEOUT_MS) :
    ∃ st', candidateLoop cfg (F + 2) st q [] X.apex.labels.length cands [] locally = (st', .ok out) ∧
      UniDone cfg U zs S st1.run.log st1.run.elapsedMs clock ((X, q) :: ex) V' G' K' T A st' := by
  obtain ⟨mX, hmX, hnext⟩ := next
  have ho := h.faithful X hX q false false
  rw [hmX] at ho
  rw [planDelay_cons, ← Nat.add_assoc] at htime
  rw [candidateLoop_found hlive hlast htry hat.live, loopQuery_reply (queryNameserver_udp_answered cfg.oracle st1.run
    (.a X.addr) cfg.port q false X.delayMs mX ho hq.fits hat.live (h.delay X hX)
    (Nat.lt_of_le_of_lt (Nat.le_add_right _ _) htime)
    (authReplyG_matches hmX)) rfl]
  obtain ⟨st', e, hd⟩ := hnext (F + 1)
    ⟨st1.ctx, ⟨st1.run.log ++ [X.exchange cfg.port q], st1.run.elapsedMs + X.delayMs, false⟩⟩ T clock
    (Nat.lt_succ_of_le hF) (hat.looked (.refl _) rfl) htime
  exact ⟨st', e, hd.cons⟩

/-- `Y` refers to the zone served by the servers `sibs`; of the hosts named the loop contacts the last in the order
    `cfg.hostOrder` gives them, `C`, whose glue came with the referral (`hCG`).  `hm` keeps the premise `0 < rr.ttl`,
    which `r.ns` provides, so that at `m = 1` callers pass the identity. -/
theorem WalkRuns.glued (h : UniNet gp U cfg) (hmU : ∀ E ∈ U, m ≤ E.glueTtl) {K : List (Name × Nat)}
    {S : List Question} {q : Question} {V G : List UEntry} {Y C : UEntry} {sibs Gs : List UEntry} {nsRrs : List RR}
    {ex : List (UEntry × Question)} {f : Nat} {K' : List (Name × Nat)} {V' G' : List UEntry} {out : ResolvedRecord}
    {A : List RR} (hq : QuestionOK q) (r : Refers U q Y C sibs nsRrs) (hm : ∀ rr ∈ nsRrs, 0 < rr.ttl → m ≤ rr.ttl)
    (hlast : (cfg.hostOrder (nsHosts nsRrs)).getLast? = some C.host) (hsub : q.name.isSubdomainOf C.apex = true)
    (hGs1 : ∀ D ∈ sibs, (∃ g ∈ gp nsRrs, g.name = D.host) → D ∈ Gs)
    (hGs2 : ∀ D ∈ Gs, D ∈ sibs ∧ D.glueRR ∈ gp nsRrs) (hCG : C ∈ Gs)
    (hqa : isAddrQ q → ∀ D ∈ sibs, q.name ≠ D.host) (hok : GluedOK zs K S q C)
    (next : WalkRuns cfg gp U zs m K S q (V ++ sibs) (G ++ Gs) C ex f K' V' G' out A) :
    WalkRuns cfg gp U zs m K S q V G Y ((C, q) :: ex) (f + 1) K' V' G' out A := by
  obtain ⟨mY, hmY, href⟩ := loopAfterReply_referral (cfg := cfg) (zs := zs) h r hsub hGs1 hGs2 hqa hmU
    (fun rr hr => hm rr hr (r.ns rr hr).1)
  refine ⟨mY, hmY, ?_⟩
  intro F stQ T clock hF hat htime
  obtain ⟨F', rfl, hF'⟩ := exists_fuel_add (k := 2) hF
  have hC : C ∈ U := (r.srv C r.mem).1
  obtain ⟨e0, hat1⟩ := href (F' + 2) hat
  rw [e0]
  have hk : UniAddrKnown (stQ.ctx.cacheInsertAll (nsRrs ++ gp nsRrs)) C.host C.addr :=
    addrKnown_of_cached (ctx := stQ.ctx.cacheInsertAll (nsRrs ++ gp nsRrs)) h.hosts hat1.memG C hC hat1.cache.sound
      (by rw [hat1.now]; exact hat.alive) hok.key (hat1.cache.addr_ne_nil C (List.mem_append_right _ hCG)) (by rw [← hat.zones] at hok; exact hok.miss)
      (by rw [← hat.stack] at hok; exact hok.depth) (by rw [← hat.stack] at hok; exact hok.stack)
  have := WalkRuns.ask h hq hC next hF' (st := ⟨stQ.ctx.cacheInsertAll (nsRrs ++ gp nsRrs), stQ.run⟩) hat.live hlast
    (tryTypes_known cfg F' ⟨stQ.ctx.cacheInsertAll (nsRrs ++ gp nsRrs), stQ.run⟩ C.host C.addr h.mode hat.live hk)
    (hat1.looked (resolveLocal_looked (RECURSION_LIMIT + 1) (stQ.ctx.cacheInsertAll (nsRrs ++ gp nsRrs))
      (uniHostQ C.host)) hat.live) htime
  exact this

/-- `Y` refers to the zone of `C` WITHOUT glue: the NS record is cached, `C`'s host is set aside (nothing is known
    about it locally), its address resolved by a call of `resolveRec` of its own (`nested`: its answer, cached, is that
    address), and `C` contacted there.  With `F` units the nested call gets `F - 3` (the frames of the two iterations
    of `candidateLoop`, local pass and recursive pass, and of `tryTypes`), the loop after `C`'s reply `F - 2`. -/
theorem WalkRuns.glueless (h : UniNet gp U cfg) (hord : ∀ x, cfg.hostOrder [x] = [x]) (hmU : ∀ E ∈ U, m ≤ E.glueTtl)
    {K : List (Name × Nat)} {S : List Question} {q : Question} {V G : List UEntry} {Y C : UEntry} {ttl : Nat}
    {exN : List (UEntry × Question)} {g : Nat} {K1 : List (Name × Nat)} {V1 G1 : List UEntry} {resH : ResolvedRecord}
    {ex : List (UEntry × Question)} {f : Nat} {K' : List (Name × Nat)} {V' G' : List UEntry} {out : ResolvedRecord}
    {A : List RR} (hq : QuestionOK q) (hC : C ∈ U)
    (hres : Y.zone.resolve q.name q.qtype = some (.delegation [C.nsRR ttl])) (httl : 0 < ttl ∧ m ≤ ttl)
    (hdepth : Y.apex.labels.length < C.apex.labels.length) (hsub : q.name.isSubdomainOf C.apex = true)
    (hglue : gp [C.nsRR ttl] = []) (hunk : HostUnknown zs K G S q C)
    (nested : RecRuns cfg U zs m K S (uniHostQ C.host) (V ++ [C]) G exN g K1 V1 G1 resH resH.rrs)
    (haddr : resH.rrs ≠ [] ∧
      ∀ rr ∈ resH.rrs, rr.name = C.host ∧ rr.rtype = RT_A ∧ rr.fields = [.a C.addr] ∧ m ≤ rr.ttl)
    (next : WalkRuns cfg gp U zs m K1 S q V1 (G1 ++ [C]) C ex f K' V' G' out A) :
    WalkRuns cfg gp U zs m K S q V G Y (exN ++ (C, q) :: ex) (g + f + 2) K' V' G' out A := by
  obtain ⟨mY, hmY, href⟩ := loopAfterReply_referral (cfg := cfg) (zs := zs) h (Gs := []) (.single hC hres httl.1 hdepth) hsub (fun D _ hg => by obtain ⟨g, hg, _⟩ := hg; rw [hglue] at hg; cases hg) (fun D hD => nomatch hD)
    (fun h1 D hD => by rw [List.mem_singleton.mp hD]; exact hunk.notHost h1) hmU
    (fun rr hr => by rw [List.mem_singleton.mp hr]; exact httl.2)
  refine ⟨mY, hmY, ?_⟩
  intro F stQ T clock hF hat htime
  obtain ⟨F', rfl, hF'⟩ := exists_fuel_add (k := 3) hF
  have t1 : stQ.run.elapsedMs + planDelay exN + planDelay ((C, q) :: ex) < RESOLVE_TIMEOUT_MS := by
    simpa only [planDelay_append, Nat.add_assoc] using htime
  have t3 := Nat.lt_of_le_of_lt (Nat.le_add_right _ _) t1
  have hm1 : 1 ≤ m := one_le_of_alive hat.alive hat.within
  -- the NS record is cached; nothing is known about `C`'s host: it is set aside
  obtain ⟨e0, hat1⟩ := href (F' + 3) hat
  rw [uni_nsHosts_single, hord] at e0
  rw [List.append_nil] at hat1
  obtain ⟨st1, hst1⟩ : ∃ s : St, s = ⟨stQ.ctx.cacheInsertAll ([C.nsRR ttl] ++ gp [C.nsRR ttl]), stQ.run⟩ := ⟨_, rfl⟩
  rw [← hst1] at e0 hat1
  have hemp : ∀ t, t = RT_A ∨ t = RT_AAAA ∨ t = RT_CNAME → tuplesAt st1.ctx.cache C.host t = [] := by
    intro t ht
    refine uni2_Sound.nil_of_fresh hat1.cache.sound C.host t (fun _ E hE => hunk.notG E hE) ?_ ?_
    · intro hns; rcases ht with rfl | rfl | rfl <;> cases hns
    · rcases ht with rfl | rfl | rfl
      · exact hunk.keys.1
      · exact hunk.keys.2.1
      · exact hunk.keys.2.2
  obtain ⟨ctx', e, a⟩ := tryTypes_unknown cfg h.mode F' st1 C.host hat1.live
    (by rw [hat1.stack]; exact Nat.ne_of_lt (Nat.lt_of_succ_lt hunk.depth)) (by rw [hat1.stack]; exact hunk.stack)
    (by rw [hat1.zones]; exact ⟨hunk.missA, hunk.missAAAA⟩) (hemp _ (Or.inl rfl)) (hemp _ (Or.inr (Or.inl rfl)))
    (hemp _ (Or.inr (Or.inr rfl)))
  rw [e0, candidateLoop_noAddr hat1.live List.getLast?_singleton e hat1.live, loopNoAddr_switchSlow rfl]
  have hrun : st1.run = stQ.run := by rw [hst1]
  -- the nested resolution of `C`'s address
  obtain ⟨st6, hrec, hd6⟩ := nested F' ⟨ctx', st1.run⟩ T clock (Nat.le_trans (Nat.le_add_right g f) hF')
    (hat1.looked a hat1.live) (by rw [hrun]; exact t3)
  rw [hrun] at hd6
  obtain ⟨more, hmo⟩ := rtypesFor_v4 h.mode
  have htry : tryTypes cfg (F' + 1) ⟨ctx', st1.run⟩ false C.host (rtypesFor cfg.mode) = (st6, some (.a C.addr)) := by
    rw [hmo]
    exact tryTypes_found hat1.live ((lookupStep_rec_ok hrec).trans (by
      rw [uni_getIp resH.rrs C.host C.addr haddr.1 fun rr hr => ⟨(haddr.2 rr hr).1, (haddr.2 rr hr).2.1, (haddr.2 rr hr).2.2.1⟩]))
  -- after the nested call the cache also holds `C`'s address
  have hcache2 : uni2_Cache V1 (G1 ++ [C]) K1 st6.ctx.cache T := by
    refine hd6.cache_with (fun D hD => List.mem_append_left _ hD) (fun _ hk => hk) ?_ ?_
    · intro rr hrr _
      exact .addr (haddr.2 rr hrr).2.1 (List.mem_append_right _ List.mem_cons_self) (haddr.2 rr hrr).1.symm
        (haddr.2 rr hrr).2.2.1 (within_of_ttl_le hat.within (haddr.2 rr hrr).2.2.2)
    · intro D hD
      refine (List.mem_append.mp hD).imp_right fun hD => ?_
      rw [List.mem_singleton.mp hD]
      obtain ⟨rr, hrr⟩ := List.exists_mem_of_ne_nil _ haddr.1
      exact ⟨rr, hrr, Nat.lt_of_lt_of_le hm1 (haddr.2 rr hrr).2.2.2, (haddr.2 rr hrr).1.symm, (haddr.2 rr hrr).2.1.symm⟩
  obtain ⟨st', e1, hd⟩ := WalkRuns.ask h hq hC next (Nat.le_trans (Nat.le_add_left f g) hF')
    (st := ⟨ctx', st1.run⟩) hat1.live List.getLast?_singleton htry
    ⟨hd6.zones, hd6.stack, hd6.now, hcache2, hd6.memV,
      (fun E hE => (List.mem_append.mp hE).elim (hd6.memG E) fun hE => List.mem_singleton.mp hE ▸ hC), hat.alive, hat.within,
      by rw [hd6.run]⟩
    (by rw [hd6.run]; exact t1)
  refine ⟨st', e1, ?_⟩
  rw [hd6.run] at hd
  exact hd.append

/-- `Z` holds an alias for `q`'s name: the alias record is cached (a new key) and its target resolved by a call of
    `resolveRec` of its own, on the same stack; the result is the alias record followed by that call's result. -/
theorem WalkRuns.alias {K : List (Name × Nat)} {S : List Question} {q : Question} {V G : List UEntry} {Z : UEntry}
    {tn : Name} {rr : RR} {ex : List (UEntry × Question)} {f : Nat} {K' : List (Name × Nat)} {V' G' : List UEntry}
    {out : ResolvedRecord} {A : List RR} (hq : lookupNat queryTypeFromU16 q.qtype = none) (hcn : q.qtype ≠ RT_CNAME)
    (hcres : Z.zone.resolve q.name q.qtype = some (.cname tn rr))
    (hrr : rr.name = q.name ∧ rr.rtype = RT_CNAME ∧ rr.fields = [.name tn] ∧ rrIsUnknown rr = false) (htn : tn ≠ q.name)
    (next : RecRuns cfg U zs m ((q.name, RT_CNAME) :: K) S (aliasQ q tn) V G ex f K' V' G' out A) :
    WalkRuns cfg gp U zs m K S q V G Z ex f K' V' G' (.nonAuthoritative ([rr] ++ out.rrs) out.soaRR) A := by
  refine ⟨⟨replyHeader false true RCODE_NOERROR, [q], [rr], [], []⟩,
    by unfold authReplyG; rw [hcres]; unfold authReply; rw [hcres], ?_⟩
  intro F stQ T clock hF hat htime
  obtain ⟨F1, rfl, hF1⟩ := exists_fuel_add (k := 1) hF
  rw [uni_validate_cname q _ Z.apex.labels.length rr tn hq hcn rfl hrr.1 hrr.2.1 hrr.2.2.1 hrr.2.2.2 htn]
  rw [loopAfterReply_alias, prioritisingMerge_nil]
  obtain ⟨st7, e, hd⟩ := next F1 ⟨stQ.ctx.cacheInsertAll [rr], stQ.run⟩ T clock hF1
    (hat.cached (hat.cache.insertAll (fun _ hD => hD) (fun _ hD => hD) (fun _ hk => List.mem_cons_of_mem _ hk) [rr]
        (fun r hr _ => by
          rw [List.mem_singleton.mp hr]
          exact .key (by rw [hrr.1, hrr.2.1]; exact List.mem_cons_self))
        (fun _ hD => Or.inl hD) (fun _ hD => Or.inl hD)) hat.memV hat.memG) htime
  exact ⟨st7, resolveCombined_ok e, hd⟩

/-- Entering the loop: `resolveRec` misses `q` locally, walks up to `Y`, asks it, and returns what the loop makes of
    the reply, the question popped off the stack again (three frames: `resolveRec`, `candidateLoop`, `tryTypes`). -/
theorem RecRuns.enter (h : UniNet gp U cfg) {K : List (Name × Nat)} {S : List Question} {q : Question}
    {V G : List UEntry} {Y : UEntry} {ex : List (UEntry × Question)} {f : Nat} {K' : List (Name × Nat)}
    {V' G' : List UEntry} {out : ResolvedRecord} {A : List RR} (he : EnterOK U zs K V G S q Y)
    (hw : WalkRuns cfg gp U zs m K (S ++ [q]) q V G Y ex f K' V' G' out A) :
    RecRuns cfg U zs m K S q V G ((Y, q) :: ex) (f + 3) K' V' G' out A := by
  intro F st T clock hF hat htime
  obtain ⟨F', rfl, hF'⟩ := exists_fuel_add (k := 3) hF
  obtain ⟨st5, hrec, hr5, hat5, hk5⟩ := resolveRec_enter h he hat (F' + 2)
  obtain ⟨st6, hloop, hd⟩ := WalkRuns.ask h he.ok he.mem hw hF' (st := st5) hat5.live List.getLast?_singleton
    (tryTypes_known cfg F' st5 Y.host Y.addr h.mode hat5.live hk5)
    (hat5.looked (resolveLocal_looked (RECURSION_LIMIT + 1) st5.ctx (uniHostQ Y.host)) hat5.live)
    (by show st5.run.elapsedMs + _ < _; rw [hr5]; exact htime)
  rw [show (⟨_, st5.run⟩ : St).run = st5.run from rfl, hr5] at hd
  refine ⟨⟨st6.ctx.pop, st6.run⟩, by rw [show F' + 3 = (F' + 2) + 1 from rfl, hrec, hloop], ?_⟩
  exact ⟨hd.run, by show st6.ctx.stack.dropLast = S; rw [hd.stack]; simp, hd.zones, hd.now, hd.memV, hd.memG,
    hd.cache⟩

theorem RecRuns.recursive {K : List (Name × Nat)} {q : Question} {V G : List UEntry} {ex : List (UEntry × Question)}
    {f : Nat} {K' : List (Name × Nat)} {V' G' : List UEntry} {out : ResolvedRecord} {A : List RR}
    (hr : RecRuns cfg U zs m K [] q V G ex f K' V' G' out A) (hf : f ≤ REC_FUEL)
    (ht : planDelay ex < RESOLVE_TIMEOUT_MS) {ctx : Ctx} {T clock : Nat}
    (hat : UniAt U zs [] V G K T m clock ⟨ctx, Run.empty⟩) :
    ∃ st', resolveRecursive cfg ctx q = (st', .ok out) ∧ UniDone cfg U zs [] [] 0 clock ex V' G' K' T A st' := by
  obtain ⟨st', h1, hd⟩ := hr REC_FUEL ⟨ctx, Run.empty⟩ T clock hf hat (by simpa [Run.empty] using ht)
  refine ⟨st', ?_, hd⟩
  rw [resolveRecursive_eq_wrap, h1, deadlineWrap_live (by rw [hd.run])]

end Rules

end Resolved
