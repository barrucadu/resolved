/-
  What the machine proofs need of upstream: the address family a mode allows, and that the records
  of a (validated) reply occur in a logged reply.  What they need of `resolveLocal` is in
  `ResolverLocalLemmas`.  First `CtxSame` with `cacheInsertAll_same`, which nothing below reads.
-/
import Resolved.Proofs.ResolverLocalLemmas
import Resolved.Proofs.UpstreamLemmas
import Resolved.Proofs.ResolverAttempt

namespace Resolved

open Gen

/-! ## What a cache insertion leaves alone -/

/-- `Ctx.SameFrame` with the arguments swapped. -/
def CtxSame (c c' : Ctx) : Prop := c'.stack = c.stack ∧ c'.zones = c.zones ∧ c'.now = c.now

theorem cacheInsertAll_same (c : Ctx) (rrs : List RR) : CtxSame c (c.cacheInsertAll rrs) :=
  ⟨rfl, rfl, rfl⟩

/-! ## Upstream -/

/-- the address is of a family the protocol mode allows (the prefer modes allow both). -/
def FamOK (mode : ProtocolMode) (addr : FieldVal) : Prop :=
  (mode = .onlyV4 → ∃ x, addr = .a x) ∧ (mode = .onlyV6 → ∃ x, addr = .aaaa x)

def Message.allRrs (m : Message) : List RR := m.answers ++ m.authority ++ m.additional

theorem Message.mem_allRrs {m : Message} {r : RR} :
    r ∈ m.allRrs ↔ r ∈ m.answers ∨ r ∈ m.authority ∨ r ∈ m.additional := by
  rw [Message.allRrs, List.mem_append, List.mem_append, or_assoc]

def FromLog (oracle : Oracle) (log : List Exchange) (r : RR) : Prop :=
  ∃ ex ∈ log, ∃ m, (oracle ex).reply = some m ∧ r ∈ m.allRrs

theorem FromLog.mono {oracle : Oracle} {l1 l2 : List Exchange} {r : RR} (h : l1 <+: l2)
    (hr : FromLog oracle l1 r) : FromLog oracle l2 r := by
  obtain ⟨ex, hex, m, hm, hin⟩ := hr
  exact ⟨ex, h.subset hex, m, hm, hin⟩

theorem getIp_family (rrs : List RR) (target : Name) (rtype : Nat) (addr : FieldVal)
    (h : getIp rrs target rtype = some addr) :
    (rtype = RT_A → ∃ x, addr = .a x) ∧ (rtype = RT_AAAA → ∃ x, addr = .aaaa x) := by
  unfold getIp at h
  split at h
  · split at h
    · rename_i rr hrec
      -- the record found has the type asked for, and its own type decides the family returned
      rw [(getRecord_some hrec).2.2] at h
      split at h
      · split at h
        · rename_i hA
          cases h
          exact ⟨fun _ => ⟨_, rfl⟩, fun h2 => absurd (h2 ▸ hA) (by decide)⟩
        · cases h
      · split at h
        · rename_i hA
          cases h
          exact ⟨fun h2 => absurd (h2 ▸ hA) (by decide), fun _ => ⟨_, rfl⟩⟩
        · cases h
      · cases h
    · cases h
  · cases h

/-! ## Validated replies -/

def NameserverResponse.rrs : NameserverResponse → List RR
  | .answer rrs _ => rrs
  | .cname rrs _ => rrs
  | .delegation rrs _ _ => rrs

/-- `rrs` and the SOA of a negative answer. -/
def NameserverResponse.allRrs : NameserverResponse → List RR
  | .answer rrs soa => rrs ++ soa.toList
  | .cname rrs _ => rrs
  | .delegation rrs _ _ => rrs

theorem NameserverResponse.rrs_subset_allRrs (resp : NameserverResponse) : ∀ r ∈ resp.rrs, r ∈ resp.allRrs := by
  intro r hr
  cases resp with
  | answer rrs soa => exact List.mem_append_left _ hr
  | cname rrs c => exact hr
  | delegation rrs hs z => exact hr

theorem validate_allRrs_from_reply {q : Question} {m : Message} {mc : Nat} {resp : NameserverResponse}
    (h : validateNameserverResponse q m mc = some resp) : ∀ r ∈ resp.allRrs, r ∈ m.allRrs := by
  intro r hr
  have kept : ∀ {fin cm}, r ∈ keptRrs q m fin cm → r ∈ m.allRrs :=
    fun hk => Message.mem_allRrs.mpr (.inl (mem_keptRrs.mp hk).1)
  cases validate_validated h with
  | answer => exact kept ((List.append_nil _).subst (motive := (r ∈ ·)) hr)
  | cname => exact kept hr
  | delegation =>
    rcases delegRrs_allowed hr with ⟨_, _, _, _, h1⟩ | ⟨_, _, h1⟩
    · exact Message.mem_allRrs.mpr (or_assoc.mp (.inl (List.mem_append.mp h1)))
    · exact Message.mem_allRrs.mpr ((List.mem_append.mp h1).imp_right .inr)
  | nodata _ _ hs =>
    cases List.mem_singleton.mp hr
    exact Message.mem_allRrs.mpr (.inr (.inl (getNxdomainNodataSoa_mem hs).1))

theorem query_reply_fromLog {oracle : Oracle} {run : Run} {addr : FieldVal} {port : Nat} {q : Question}
    {rd : Bool} {m : Message} (h : (queryNameserver oracle run addr port q rd).2 = some m) :
    ∀ r ∈ m.allRrs, FromLog oracle (queryNameserver oracle run addr port q rd).1.log r :=
  fun _ hr => have ⟨⟨ex, _, hex, ho⟩, _⟩ := queryNameserver_reply h; ⟨ex, hex, m, ho, hr⟩

theorem query_validated_referral {oracle : Oracle} {run : Run} {addr : FieldVal} {port : Nat} {q : Question}
    {rd : Bool} {mc : Nat} {rrs : List RR} {hosts : List Name} {zone : Name}
    (h : (queryNameserver oracle run addr port q rd).2.bind (fun res => validateNameserverResponse q res mc)
      = some (.delegation rrs hosts zone)) :
    zone.labels.length > mc ∧ q.name.isSubdomainOf zone = true ∧ hosts ≠ [] :=
  have ⟨_, _, hv⟩ := Option.bind_eq_some_iff.mp h
  have sp := validate_delegation_spec hv
  ⟨sp.closer, sp.sub, sp.ne⟩

theorem query_validated_allRrs_fromLog {oracle : Oracle} {run : Run} {addr : FieldVal} {port : Nat}
    {q : Question} {rd : Bool} {mc : Nat} {resp : NameserverResponse}
    (h : (queryNameserver oracle run addr port q rd).2.bind (fun res => validateNameserverResponse q res mc)
      = some resp) :
    ∀ r ∈ resp.allRrs, FromLog oracle (queryNameserver oracle run addr port q rd).1.log r :=
  have ⟨_, hm, hv⟩ := Option.bind_eq_some_iff.mp h
  fun r hr => query_reply_fromLog hm r (validate_allRrs_from_reply hv r hr)

end Resolved
