/-
  C13, the converse side, the parser: whatever `Zone::deserialise` reads is of the kind the serialiser writes back
  faithfully — every name a text name, every number in range, every RDATA laid out as its type says — as an
  invariant of the local state of the entry loop (`zp_StOK`, `zp_StOK.of_runLoop`).
-/
import Resolved.Proofs.ZoneTextNames
import Resolved.Proofs.ZoneTextShapes
import Resolved.Proofs.ZoneTextNumbers

namespace Resolved.ZoneText

open Resolved Resolved.IpText Gen

/-! ## names: every name the parser produces is a text name -/

/-- the labels are the chunks between the dots (so they hold no `.`: an escaped dot `\.` in the source splits the
    label like a bare one, `C11_K2_escaped_dot_splits_label`), lower-cased, at most 63 octets each. -/
theorem TextName.of_fromDotted {s : List UInt8} {n : Name} (hs : ∀ b ∈ s, b.toNat < 128)
    (h : Name.fromDotted s = some n) : TextName n := by
  rcases Name.fromDotted_inv h with rfl | ⟨hf, h63⟩
  · exact root_textName
  · have hlab := Name.fromLabels_labels hf
    refine ⟨hlab ▸ hf, fun l hl => ?_⟩
    rw [hlab] at hl
    obtain ⟨c, hc, rfl⟩ := List.mem_map.mp hl
    refine ⟨by rw [List.length_map]; exact h63 c hc, fun b hb => ?_⟩
    obtain ⟨a, ha, rfl⟩ := List.mem_map.mp hb
    obtain ⟨hmem, hdot⟩ := Name.mem_splitDot s c hc a ha
    have := lowerByte_ascii_ne_dot a (hs a hmem) hdot
    exact ⟨this.1, this.2, lowerByte_not_upper a⟩

theorem TextName.of_fromRelativeDotted {o : Name} {s : List UInt8} {n : Name} (ho : TextName o)
    (hs : ∀ b ∈ s, b.toNat < 128) (h : Name.fromRelativeDotted o s = some n) : TextName n := by
  rcases Name.fromRelativeDotted_inv h with rfl | ⟨t, ht, h⟩
  · exact ho
  · exact TextName.of_fromDotted (fun b hb => (ht b hb).elim (hs b) (·.elim (· ▸ by decide) (ho.toDotted_ascii b))) h

theorem map_charAsU8_ascii {s : List Char} (h : s.all isAscii = true) :
    ∀ b ∈ s.map charAsU8, b.toNat < 128 := by
  intro b hb
  obtain ⟨c, hc, rfl⟩ := List.mem_map.mp hb
  have hasc : c.toNat < 128 := of_decide_eq_true (List.all_eq_true.mp h c hc)
  rw [charAsU8_toNat (by omega)]
  exact hasc

theorem zp_parseDomain_text {o : Option Name} (ho : zp_OriginOK o) {s : List Char} {n : Name}
    (h : parseDomain o s = .ok n) : TextName n := by
  obtain ⟨hne, hasc⟩ := parseDomain_ok_ascii h
  have hbytes := map_charAsU8_ascii hasc
  rw [parseDomain_eq o hne hasc] at h
  refine of_ite_eq h (fun _ h => ?_) (fun _ h => of_ite_eq h (fun _ h => ?_) (fun _ h => ?_))
  · -- `@`: the origin
    cases o with
    | none => cases h
    | some on => cases h; exact ho _ rfl
  · -- absolute
    split at h
    · rename_i d hd
      cases h
      exact TextName.of_fromDotted hbytes hd
    · cases h
  · -- relative to the origin
    cases o with
    | none => cases h
    | some on =>
      simp only at h
      split at h
      · rename_i d hd
        cases h
        exact TextName.of_fromRelativeDotted (ho _ rfl) hbytes hd
      · cases h

theorem zp_parseDomainOrWildcard_text {o : Option Name} (ho : zp_OriginOK o) {s : List Char}
    {w : MaybeWildcard} (h : parseDomainOrWildcard o s = .ok w) : zp_MwOK w := by
  by_cases hstar : s = ['*']
  · -- `*`: the wildcard beneath the origin
    subst hstar
    cases o with
    | none => cases h
    | some on => cases h; exact ho _ rfl
  by_cases hwild : ∃ rest, s = '*' :: '.' :: rest
  · -- `*.` followed by nothing (the root) or by a name
    obtain ⟨rest, rfl⟩ := hwild
    cases rest with
    | nil => cases h; exact root_textName
    | cons c cs =>
      rw [parseDomainOrWildcard_wild o (List.cons_ne_nil c cs)] at h
      split at h
      · rename_i name hn
        cases h
        exact zp_parseDomain_text ho hn
      · cases h
  · cases s with
    | nil => cases h
    | cons c cs =>
      rw [parseDomainOrWildcard_normal o _ (List.cons_ne_nil c cs) hstar (fun rest he => hwild ⟨rest, he⟩)] at h
      split at h
      · rename_i name hn
        cases h
        exact zp_parseDomain_text ho hn
      · cases h

/-! ## RDATA: what `try_parse_rtype_with_data` returns fits its type -/

/-- RDATA the parser builds: of a type other than SOA and laid out as the serialiser expects (`RdataOK`), or a SOA
    with text names and `u32` numbers.  An `RR` has no `RData` component, so `zp_RROK rr` below repeats the
    disjunction for `rr.rtype` and `rr.fields` as its third conjunct. -/
def zp_RdOK (rd : RData) : Prop :=
  RdataOK rd.rtype rd.fields ∨ (rd.rtype = 6 ∧ ∃ s : SOA, rd.fields = s.toFields ∧ SoaOK s)

theorem zp_optName_text {o : Option Name} (ho : zp_OriginOK o) {s : List Char} {n : Name}
    (h : optName o s = some n) : TextName n := by
  unfold optName at h
  split at h
  · rename_i n' hn
    cases h
    exact zp_parseDomain_text ho hn
  · cases h

/-- a type without an arm below (`TYPE<n>` for any other `n`) is not accepted at all. -/
theorem zp_tryParse_ok {o : Option Name} (ho : zp_OriginOK o) {tokens : List Token} {rd : RData}
    (h : tryParseRtypeWithData o tokens = some rd) : zp_RdOK rd := by
  unfold tryParseRtypeWithData at h
  split at h
  · cases h
  · split at h
    · cases h
    · -- the two shapes shared by several types, then the `if code = …` chain, one `of_ite_eq` per type in its order
      extract_lets oneName oneOctets at h
      have hName : ∀ c, OneNameType c → oneName c = some rd → zp_RdOK rd := by
        intro c hc h
        simp only [oneName] at h
        split at h
        · obtain ⟨n, hn, rfl⟩ := Option.map_eq_some_iff.mp h
          exact Or.inl (.oneName c hc n (zp_optName_text ho hn))
        · cases h
      have hOctets : ∀ c, OctetsType c → oneOctets c = some rd → zp_RdOK rd := by
        intro c hc h
        simp only [oneOctets] at h
        split at h
        · cases h
          exact Or.inl (.octets c hc _)
        · cases h
      refine of_ite_eq h (fun _ h => ?_) (fun _ h => ?_)  -- A
      · split at h
        · obtain ⟨a, ha, rfl⟩ := Option.map_eq_some_iff.mp h
          exact Or.inl (.a a (ipv4FromStr_lt ha))
        · cases h
      refine of_ite_eq h (fun _ h => hName _ (by decide) h) (fun _ h => ?_)  -- NS
      refine of_ite_eq h (fun _ h => hName _ (by decide) h) (fun _ h => ?_)  -- MD
      refine of_ite_eq h (fun _ h => hName _ (by decide) h) (fun _ h => ?_)  -- MF
      refine of_ite_eq h (fun _ h => hName _ (by decide) h) (fun _ h => ?_)  -- CNAME
      refine of_ite_eq h (fun _ h => ?_) (fun _ h => ?_)  -- SOA
      · split at h
        · split at h
          · rename_i mname rname serial refresh retry expire minimum h1 h2 h3 h4 h5 h6 h7
            cases h
            exact Or.inr ⟨rfl, ⟨mname, rname, serial, refresh, retry, expire, minimum⟩, rfl,
              zp_optName_text ho h1, zp_optName_text ho h2, parseU32_lt h3, parseU32_lt h4,
              parseU32_lt h5, parseU32_lt h6, parseU32_lt h7⟩
          · cases h
        · cases h
      refine of_ite_eq h (fun _ h => hName _ (by decide) h) (fun _ h => ?_)  -- MB
      refine of_ite_eq h (fun _ h => hName _ (by decide) h) (fun _ h => ?_)  -- MG
      refine of_ite_eq h (fun _ h => hName _ (by decide) h) (fun _ h => ?_)  -- MR
      refine of_ite_eq h (fun _ h => hOctets _ (by decide) h) (fun _ h => ?_)  -- NULL
      refine of_ite_eq h (fun _ h => hOctets _ (by decide) h) (fun _ h => ?_)  -- WKS
      refine of_ite_eq h (fun _ h => hName _ (by decide) h) (fun _ h => ?_)  -- PTR
      refine of_ite_eq h (fun _ h => hOctets _ (by decide) h) (fun _ h => ?_)  -- HINFO
      refine of_ite_eq h (fun _ h => ?_) (fun _ h => ?_)  -- MINFO
      · split at h
        · split at h
          · rename_i r e hr he
            cases h
            exact Or.inl (.minfo r e (zp_optName_text ho hr) (zp_optName_text ho he))
          · cases h
        · cases h
      refine of_ite_eq h (fun _ h => ?_) (fun _ h => ?_)  -- MX
      · split at h
        · split at h
          · rename_i p e hp he
            cases h
            exact Or.inl (.mx p e (parseU16_lt hp) (zp_optName_text ho he))
          · cases h
        · cases h
      refine of_ite_eq h (fun _ h => hOctets _ (by decide) h) (fun _ h => ?_)  -- TXT
      refine of_ite_eq h (fun _ h => ?_) (fun _ h => ?_)  -- AAAA
      · split at h
        · obtain ⟨gs, hgs, rfl⟩ := Option.map_eq_some_iff.mp h
          exact Or.inl (.aaaa gs (ipv6FromStr_wf hgs))
        · cases h
      refine of_ite_eq h (fun _ h => ?_) (fun _ h => by cases h)  -- SRV
      · split at h
        · split at h
          · rename_i p w port target hp hw hport ht
            cases h
            exact Or.inl (.srv p w port target (parseU16_lt hp) (parseU16_lt hw) (parseU16_lt hport)
              (zp_optName_text ho ht))
          · cases h
        · cases h

/-! ## entries: what `parse_entry` returns -/

def zp_RROK (rr : RR) : Prop :=
  TextName rr.name ∧ rr.ttl < 4294967296 ∧
  (RdataOK rr.rtype rr.fields ∨ (rr.rtype = 6 ∧ ∃ s : SOA, rr.fields = s.toFields ∧ SoaOK s))

def zp_EntryOK : Entry → Prop
  | .origin n => TextName n
  | .include _ _ => True
  | .rr rr => zp_RROK rr
  | .wildcardRR rr => zp_RROK rr

theorem parseU32E_lt {s : List Char} {v : Nat} (h : parseU32E s = .ok v) : v < 4294967296 := by
  unfold parseU32E at h
  split at h
  · rename_i v' hv
    cases h
    exact parseU32_lt hv
  · cases h

/-- not a SOA: the TTL of the line; a SOA: its MINIMUM. -/
theorem zp_EntryOK.of_toRr {w : MaybeWildcard} {rd : RData} {ttl : Nat} (hw : zp_MwOK w) (hrd : zp_RdOK rd)
    (ht : ttl < 4294967296) : zp_EntryOK (toRr w rd ttl) := by
  obtain ⟨c, fs⟩ := rd
  rcases hrd with hrd | ⟨h6, s, hs, hok⟩
  · rw [toRr_not_soa w fs ttl hrd.not_soa]
    cases w <;> exact ⟨hw, ht, .inl hrd⟩
  · obtain rfl : c = 6 := h6
    obtain rfl : fs = s.toFields := hs
    rw [toRr_soa]
    cases w <;> exact ⟨hw, hok.2.2.2.2.2.2, .inr ⟨rfl, s, rfl, hok⟩⟩

theorem zp_EntryOK.of_withInheritedTtl {w : MaybeWildcard} {rd : RData} {pt : Option Nat} (hw : zp_MwOK w)
    (hrd : zp_RdOK rd) (hpt : zp_PtOK pt) {e : Entry} (h : withInheritedTtl w rd pt = .ok e) :
    zp_EntryOK e := by
  unfold withInheritedTtl at h
  split at h
  · rename_i ttl
    cases h
    exact zp_EntryOK.of_toRr hw hrd (hpt _ rfl)
  · split at h
    · cases h
      exact zp_EntryOK.of_toRr hw hrd (by decide)
    · cases h

/-- owner and TTL are written, hence parsed, or inherited. -/
theorem zp_EntryOK.of_parseRr {o : Option Name} (ho : zp_OriginOK o) {pd : Option MaybeWildcard}
    (hpd : zp_PdOK pd) {pt : Option Nat} (hpt : zp_PtOK pt) {tokens : List Token} {e : Entry}
    (h : parseRr o pd pt tokens = .ok e) : zp_EntryOK e := by
  obtain ⟨ts, rd, mw, hty, hmw, httl⟩ := parseRr_ok_sources o pd pt h
  have hrd := zp_tryParse_ok ho hty
  have hmwOK : zp_MwOK mw := hmw.elim (fun ⟨_, hd⟩ => zp_parseDomainOrWildcard_text ho hd) (hpd mw)
  rcases httl with ⟨s, t, hd, rfl⟩ | h
  · exact zp_EntryOK.of_toRr hmwOK hrd (parseU32E_lt hd)
  · exact zp_EntryOK.of_withInheritedTtl hmwOK hrd hpt h

theorem zp_EntryOK.of_parseOrigin {o : Option Name} (ho : zp_OriginOK o) {tokens : List Token} {e : Entry}
    (h : parseOrigin o tokens = .ok e) : zp_EntryOK e := by
  unfold parseOrigin at h
  split at h
  · split at h
    · cases h
    · split at h
      · rename_i name hn
        cases h
        exact zp_parseDomain_text ho hn
      · cases h
  · cases h

theorem zp_EntryOK.of_parseInclude {o : Option Name} {tokens : List Token} {e : Entry}
    (h : parseInclude o tokens = .ok e) : zp_EntryOK e := by
  rcases parseInclude_shape o tokens with ⟨e', he⟩ | ⟨p, oo, he⟩
  · rw [he] at h; cases h
  · rw [he] at h; cases h; trivial

theorem zp_EntryOK.of_entryOfTokens {o : Option Name} (ho : zp_OriginOK o) {pd : Option MaybeWildcard}
    (hpd : zp_PdOK pd) {pt : Option Nat} (hpt : zp_PtOK pt) {t0 : Token} {ts : List Token} {e : Entry}
    (h : entryOfTokens o pd pt t0 ts = .ok e) : zp_EntryOK e :=
  of_ite_eq h (fun _ h => zp_EntryOK.of_parseOrigin ho h)
    (fun _ h => of_ite_eq h (fun _ h => zp_EntryOK.of_parseInclude h) (fun _ h => zp_EntryOK.of_parseRr ho hpd hpt h))

/-! ## the entry loop keeps its local state well formed -/

/-- invariant of the local variables of `Zone::deserialise`. -/
structure zp_StOK (st : DState) : Prop where
  origin : zp_OriginOK st.origin
  pd : zp_PdOK st.previousDomain
  pt : zp_PtOK st.previousTtl
  rrs : ∀ rr ∈ st.rrs, TextName rr.name ∧ rr.ttl < 4294967296 ∧ RdataOK rr.rtype rr.fields
  wild : ∀ rr ∈ st.wildcardRrs, TextName rr.name ∧ rr.ttl < 4294967296 ∧ RdataOK rr.rtype rr.fields
  soa : ∀ a s, st.apexAndSoa = some (a, s) → TextName a ∧ SoaOK s

theorem zp_stOK_init : zp_StOK {} :=
  ⟨fun _ h => (by cases h), fun _ h => (by cases h), fun _ h => (by cases h),
   fun _ h => (by simp at h), fun _ h => (by simp at h), fun _ _ h => (by cases h)⟩

theorem zp_RROK.soaOK_of_soaOfRR {rr : RR} (h : zp_RROK rr) {soa : SOA} (hs : soaOfRR rr = some soa) : SoaOK soa := by
  rcases h.2.2 with hrd | ⟨h6, s, hf, hok⟩
  · rw [soaOfRR_none_of_ne hrd.not_soa] at hs; cases hs
  · rw [soaOfRR_of_fields h6 hf] at hs
    cases hs; exact hok

theorem zp_RROK.rdataOK_of_soaOfRR_none {rr : RR} (h : zp_RROK rr) (hs : soaOfRR rr = none) : RdataOK rr.rtype rr.fields := by
  rcases h.2.2 with hrd | ⟨h6, s, hf, hok⟩
  · exact hrd
  · rw [soaOfRR_of_fields h6 hf] at hs; cases hs

theorem zp_RROK.rdataOK_of_not_soa {rr : RR} (h : zp_RROK rr) (hs : (rr.rtype == RT_SOA) = false) :
    RdataOK rr.rtype rr.fields := by
  rcases h.2.2 with hrd | ⟨h6, -⟩
  · exact hrd
  · rw [h6] at hs; cases hs

def zp_StepOK : Step → Prop
  | .stop (.error _) => True
  | .stop (.ok st) => zp_StOK st
  | .cont st _ => zp_StOK st

theorem zp_entryStep_ok {st : DState} {e : Entry} (rest : List Char) (hst : zp_StOK st) (he : zp_EntryOK e) :
    zp_StepOK (entryStep st e rest) := by
  cases e with
  | origin name => exact ⟨fun on h => by cases h; exact he, hst.pd, hst.pt, hst.rrs, hst.wild, hst.soa⟩
  | «include» p oo => trivial
  | rr rr =>
    have he' : zp_RROK rr := he
    have hpd : zp_PdOK (some (MaybeWildcard.normal rr.name)) := fun w hw => by cases hw; exact he'.1
    have hpt : zp_PtOK (some rr.ttl) := fun t ht => by cases ht; exact he'.2.1
    cases hsoa : soaOfRR rr with
    | none =>
      rw [entryStep_rr st rest hsoa]
      exact ⟨hst.origin, hpd, hpt,
        List.forall_mem_cons.mpr ⟨⟨he'.1, he'.2.1, zp_RROK.rdataOK_of_soaOfRR_none he' hsoa⟩, hst.rrs⟩, hst.wild, hst.soa⟩
    | some soa =>
      cases hh : st.apexAndSoa with
      | some p => rw [entryStep_second_soa st rest rr soa hsoa (by rw [hh]; rfl)]; trivial
      | none =>
        rw [entryStep_first_soa st rest hsoa hh]
        exact ⟨hst.origin, hpd, hpt, hst.rrs, hst.wild,
          fun a s hs => by cases hs; exact ⟨he'.1, zp_RROK.soaOK_of_soaOfRR he' hsoa⟩⟩
  | wildcardRR rr =>
    have he' : zp_RROK rr := he
    have hpd : zp_PdOK (some (MaybeWildcard.wildcard rr.name)) := fun w hw => by cases hw; exact he'.1
    have hpt : zp_PtOK (some rr.ttl) := fun t ht => by cases ht; exact he'.2.1
    by_cases h6 : rr.rtype = RT_SOA
    · rw [entryStep_wildcard_soa st rest rr h6]; trivial
    · rw [entryStep_wildcardRR st rest h6]
      exact ⟨hst.origin, hpd, hpt, hst.rrs,
        List.forall_mem_cons.mpr ⟨⟨he'.1, he'.2.1, he'.rdataOK_of_not_soa (by simpa using h6)⟩, hst.wild⟩, hst.soa⟩

theorem zp_loopStep_ok {st : DState} {s : List Char} (hst : zp_StOK st) {step : Step}
    (h : loopStep st s = some step) : zp_StepOK step := by
  rcases loopStep_inv h with rfl | ⟨e, rfl⟩ | ⟨t0, ts, e, rest, he, rfl⟩
  · exact hst
  · trivial
  · exact zp_entryStep_ok rest hst (.of_entryOfTokens hst.origin hst.pd hst.pt he)

theorem zp_StOK.of_runLoop {st st' : DState} {s : List Char} (hst : zp_StOK st) (h : runLoop st s = .ok st') :
    zp_StOK st' :=
  runLoop_induct (P := fun st _ => zp_StOK st) (Q := fun r => ∀ st', r = .ok st' → zp_StOK st')
    (fun _ _ _ hst hs st' hr => by
      have := zp_loopStep_ok hst hs
      rw [hr] at this
      exact this)
    (fun _ _ _ _ hst hs => zp_loopStep_ok hst hs) st s hst st' h

theorem Reach.stOK {data : List Char} {st : DState} {s : List Char} (h : Reach data st s) : zp_StOK st := by
  induction h with
  | start => exact zp_stOK_init
  | next _ hstep ih => exact zp_loopStep_ok ih hstep

end Resolved.ZoneText
