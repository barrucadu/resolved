/-
  What a run of the machines keeps.  `Reach`: the primitive guarded steps a machine makes on its state (local
  lookup, push, pop, cache insertion of logged records, query) and what they keep of the run and of the context;
  one walk over each machine (`machine_run`, `fwd_run`): the state returned is `Good` (reachable, stack restored)
  and every record of an `ok` result was handed in or has a source (`Yields`); what holds of a whole resolution of
  either machine (`WrappedRun`).
-/
import Resolved.Proofs.ResolverMachineSteps

namespace Resolved

open Gen

/-! ## Reachability -/

/-- how a machine talks to upstream. -/
structure Net where
  oracle : Oracle
  port : Nat
  rd : Bool
  addrOK : FieldVal → Prop

@[reducible] def RecCfg.net (cfg : RecCfg) : Net := ⟨cfg.oracle, cfg.port, false, FamOK cfg.mode⟩

@[reducible] def FwdCfg.net (cfg : FwdCfg) : Net := ⟨cfg.oracle, cfg.port, true, fun a => a = cfg.addr⟩

/-- The primitive steps of a resolver machine on its state (context + run), with the guards
    under which the machine takes them. -/
inductive Reach (n : Net) : St → St → Prop
  | refl (st : St) : Reach n st st
  | trans {a b c : St} : Reach n a b → Reach n b c → Reach n a c
  | loc (st : St) (fuel : Nat) (q : Question) : Reach n st ⟨(resolveLocal fuel st.ctx q).1, st.run⟩
  | push (st : St) (q : Question) : st.run.timedOut = false → st.ctx.atRecursionLimit = false →
      st.ctx.isDuplicate q = false → Reach n st ⟨st.ctx.push q, st.run⟩
  | pop (st : St) : Reach n st ⟨st.ctx.pop, st.run⟩
  | cache (st : St) (rrs : List RR) : (∀ r ∈ rrs, FromLog n.oracle st.run.log r) →
      Reach n st ⟨st.ctx.cacheInsertAll rrs, st.run⟩
  | query (st : St) (addr : FieldVal) (q : Question) : n.addrOK addr → st.run.timedOut = false →
      Reach n st ⟨st.ctx, (queryNameserver n.oracle st.run addr n.port q n.rd).1⟩

/-- how every function of the machine leaves the state it is given. -/
structure Good (n : Net) (st st' : St) : Prop where
  reach : Reach n st st'
  stack : st'.ctx.stack = st.ctx.stack

theorem Good.refl (n : Net) (st : St) : Good n st st := ⟨Reach.refl st, rfl⟩

theorem Good.trans {n : Net} {a b c : St} (h1 : Good n a b) (h2 : Good n b c) : Good n a c :=
  ⟨Reach.trans h1.reach h2.reach, h2.stack.trans h1.stack⟩

theorem Good.loc (n : Net) (st : St) (fuel : Nat) (q : Question) :
    Good n st ⟨(resolveLocal fuel st.ctx q).1, st.run⟩ :=
  ⟨Reach.loc st fuel q, resolveLocal_stack fuel st.ctx q⟩

theorem Good.cache (n : Net) (st : St) (rrs : List RR) (h : ∀ r ∈ rrs, FromLog n.oracle st.run.log r) :
    Good n st ⟨st.ctx.cacheInsertAll rrs, st.run⟩ :=
  ⟨Reach.cache st rrs h, rfl⟩

theorem Good.query (n : Net) (st : St) (addr : FieldVal) (q : Question) (hf : n.addrOK addr)
    (ht : st.run.timedOut = false) :
    Good n st ⟨st.ctx, (queryNameserver n.oracle st.run addr n.port q n.rd).1⟩ :=
  ⟨Reach.query st addr q hf ht, rfl⟩

theorem Good.bracket {n : Net} {st st2 : St} (q : Question) (ht : st.run.timedOut = false)
    (hl : st.ctx.stack.length ≠ RECURSION_LIMIT) (hd : q ∉ st.ctx.stack)
    (h : Good n ⟨st.ctx.push q, st.run⟩ st2) : Good n st ⟨st2.ctx.pop, st2.run⟩ := by
  refine ⟨Reach.trans (Reach.push st q ht (Ctx.atRecursionLimit_eq_false.mpr hl) (Ctx.isDuplicate_eq_false.mpr hd))
    (Reach.trans h.reach (Reach.pop st2)), ?_⟩
  simp [Ctx.pop, h.stack, Ctx.push]

theorem initialCandidates_good (n : Net) (st2 : St) (q : Question) (other : Except ResolutionError LocalResult) :
    Good n st2 (initialCandidates st2 q other).1 := by
  rcases initialCandidates_cases st2 q other with ⟨_, _, _, _, e⟩ | e <;> rw [e]
  · exact Good.refl _ _
  · exact (candidateNameservers_rel (Good.refl n) Good.trans (fun st q => Good.loc n st _ q) _ _).1

theorem lookupStep_good {cfg : RecCfg} {fuel : Nat} (hR : ∀ st q, Good cfg.net st (resolveRec cfg fuel st q).1)
    (st : St) (locally : Bool) (host : Name) (t : Nat) : Good cfg.net st (lookupStep cfg fuel st locally host t).1 := by
  unfold lookupStep
  split
  · exact Good.loc cfg.net st _ _
  · exact hR st _

theorem Good.reply {cfg : RecCfg} {st1 : St} {addr : FieldVal} {q : Question} {mc : Nat} {resp : NameserverResponse}
    (hfam : FamOK cfg.mode addr) (ht1 : st1.run.timedOut = false)
    (hresp : (queryNameserver cfg.oracle st1.run addr cfg.port q false).2.bind
      (fun res => validateNameserverResponse q res mc) = some resp) :
    Good cfg.net st1 ⟨st1.ctx.cacheInsertAll resp.rrs, (queryNameserver cfg.oracle st1.run addr cfg.port q false).1⟩ := by
  have hsrc : ∀ r ∈ resp.rrs, FromLog cfg.oracle (queryNameserver cfg.oracle st1.run addr cfg.port q false).1.log r :=
    fun r hr => query_validated_allRrs_fromLog hresp r (resp.rrs_subset_allRrs r hr)
  have hq : Good cfg.net st1 ⟨st1.ctx, (queryNameserver cfg.oracle st1.run addr cfg.port q false).1⟩ :=
    Good.query cfg.net st1 addr q hfam ht1
  -- with the run a variable, the unifier does not try to evaluate `queryNameserver`
  generalize (queryNameserver cfg.oracle st1.run addr cfg.port q false).1 = run2 at hsrc hq ⊢
  exact hq.trans (Good.cache cfg.net ⟨st1.ctx, run2⟩ resp.rrs hsrc)

/-! ## What the steps keep -/

/-- the exchange is one the machine may make: for the recursive resolver (`cfg.net`) configured port, RD clear,
    and under only-vX an address of family X; for the forwarding one the forwarder's address, its port, RD set. -/
def ExOK (n : Net) (e : Exchange) : Prop := e.port = n.port ∧ e.recursionDesired = n.rd ∧ n.addrOK e.addr

def LogOK (n : Net) (log : List Exchange) : Prop := ∀ e ∈ log, ExOK n e

def RunOK (run : Run) : Prop := run.elapsedMs ≤ RESOLVE_TIMEOUT_MS

theorem LogOK.nil (n : Net) : LogOK n [] := by intro e he; cases he

theorem RunOK.empty : RunOK Run.empty := by
  show 0 ≤ RESOLVE_TIMEOUT_MS; decide

/-- The only step that touches the run is `query`, at most two transport attempts on a live run
    at exchanges the `Net` allows: a reflexive, transitive relation on runs that such an attempt
    keeps holds between the runs of `Reach`-related states. -/
theorem Reach.run_rel {n : Net} {R : Run → Run → Prop} (refl : ∀ r, R r r)
    (trans : ∀ {a b c}, R a b → R b c → R a c)
    (att : ∀ r ex, r.timedOut = false → ExOK n ex → R r (attempt n.oracle r ex).1)
    {a b : St} (h : Reach n a b) : R a.run b.run := by
  induction h with
  | refl | loc | push | pop | cache => exact refl _
  | trans _ _ ih1 ih2 => exact trans ih1 ih2
  | query st addr q hf _ =>
    refine queryNameserver_rel n.oracle addr n.port q n.rd refl trans (fun r tcp => ?_) st.run
    cases ht : r.timedOut with
    | true => rw [attempt_timedOut _ _ _ ht]; exact refl r
    | false => exact att r _ ht ⟨rfl, rfl, hf⟩

theorem Reach.logOK {n : Net} {a b : St} (h : Reach n a b) : LogOK n a.run.log → LogOK n b.run.log := by
  refine h.run_rel (R := fun r r' => LogOK n r.log → LogOK n r'.log) (fun _ h => h) (fun h1 h2 h => h2 (h1 h)) ?_
  intro r ex _ hex hl e he
  rcases attempt_log n.oracle r ex with h | h <;> rw [h] at he
  · exact hl e he
  · rcases List.mem_append.mp he with he | he
    · exact hl e he
    · rw [List.mem_singleton.mp he]; exact hex

theorem Reach.log_prefix {n : Net} {a b : St} (h : Reach n a b) : a.run.log <+: b.run.log := by
  refine h.run_rel (R := fun r r' => r.log <+: r'.log) (fun _ => List.prefix_refl _) List.IsPrefix.trans ?_
  intro r ex _ _
  rcases attempt_log n.oracle r ex with h | h <;> rw [h]
  · exact List.prefix_refl _
  · exact List.prefix_append _ _

theorem Reach.runOK {n : Net} {a b : St} (h : Reach n a b) :
    RunOK a.run → RunOK b.run ∧ a.run.elapsedMs ≤ b.run.elapsedMs := by
  refine h.run_rel (R := fun r r' => RunOK r → RunOK r' ∧ r.elapsedMs ≤ r'.elapsedMs)
    (fun _ h => ⟨h, Nat.le_refl _⟩) (fun h1 h2 h => ⟨(h2 (h1 h).1).1, Nat.le_trans (h1 h).2 (h2 (h1 h).1).2⟩) ?_
  intro r ex _ _ hr
  exact ⟨(attempt_time n.oracle r ex hr).1, (attempt_time n.oracle r ex hr).2.2⟩

theorem Reach.timedOut_frozen {n : Net} {a b : St} (h : Reach n a b) :
    a.run.timedOut = true → b.run = a.run := by
  refine h.run_rel (R := fun r r' => r.timedOut = true → r' = r) (fun _ _ => rfl) ?_ ?_
  · intro a b c h1 h2 h
    have hb := h1 h
    rw [h2 (hb ▸ h), hb]
  · intro r ex ht _ h; rw [ht] at h; cases h

theorem Reach.deadline {n : Net} {a b : St} (h : Reach n a b) : Deadline a.run → Deadline b.run :=
  h.run_rel (R := fun r r' => Deadline r → Deadline r') (fun _ h => h) (fun h1 h2 h => h2 (h1 h))
    (fun r ex _ _ => attempt_deadline n.oracle r ex)

theorem Reach.cost {n : Net} {a b : St} (h : Reach n a b) : CostLe a.run b.run :=
  h.run_rel CostLe.refl CostLe.trans (fun r ex _ _ => attempt_cost n.oracle r ex)

theorem Reach.ctx_same {n : Net} {a b : St} (h : Reach n a b) :
    b.ctx.zones = a.ctx.zones ∧ b.ctx.now = a.ctx.now := by
  induction h with
  | refl => exact ⟨rfl, rfl⟩
  | trans _ _ ih1 ih2 => exact ⟨ih2.1.trans ih1.1, ih2.2.trans ih1.2⟩
  | loc st fuel q => exact ⟨resolveLocal_zones fuel st.ctx q, resolveLocal_now fuel st.ctx q⟩
  | push | pop | cache | query => exact ⟨rfl, rfl⟩

theorem Reach.stackOK {n : Net} {a b : St} (h : Reach n a b) :
    a.ctx.stack.length ≤ RECURSION_LIMIT ∧ a.ctx.stack.Nodup → b.ctx.stack.length ≤ RECURSION_LIMIT ∧ b.ctx.stack.Nodup := by
  induction h with
  | refl => exact id
  | trans _ _ ih1 ih2 => exact fun h => ih2 (ih1 h)
  | loc st fuel q =>
    intro h
    simp only [resolveLocal_stack]
    exact h
  | push st q ht hl hd =>
    intro ⟨h1, h2⟩
    refine ⟨?_, Ctx.push_nodup (Ctx.isDuplicate_eq_false.mp hd) h2⟩
    have := Ctx.atRecursionLimit_eq_false.mp hl
    simp only [Ctx.push, List.length_append, List.length_singleton]; omega
  | pop st =>
    intro ⟨h1, h2⟩
    refine ⟨?_, ?_⟩
    · simp only [Ctx.pop, List.length_dropLast]; omega
    · simp only [Ctx.pop]
      exact (List.dropLast_sublist _).nodup h2
  | cache | query => exact id

/-! ## Where the records of a result come from -/

theorem nonAuth_rrs (a : List RR) (b : Option RR) : (ResolvedRecord.nonAuthoritative a b).rrs = a := rfl
theorem nonAuth_soaRR (a : List RR) (b : Option RR) : (ResolvedRecord.nonAuthoritative a b).soaRR = b := rfl

/-- `r` was returned by a local lookup (zones + cache) made on a state the machine can reach from
    `st0` (same zones; the cache differs from the initial one only by the effects of local
    lookups and by insertions of records of logged replies — see `Reach`). -/
def LocalSrc (n : Net) (st0 : St) (log : List Exchange) (r : RR) : Prop :=
  ∃ (st : St) (fuel : Nat) (q : Question) (lr : LocalResult),
    Reach n st0 st ∧ st.run.log <+: log ∧ (resolveLocal fuel st.ctx q).2 = .ok lr ∧ r ∈ lr.allRrs

def Src (n : Net) (st0 : St) (log : List Exchange) (r : RR) : Prop :=
  FromLog n.oracle log r ∨ LocalSrc n st0 log r

theorem Src.mono {n : Net} {st0 : St} {l1 l2 : List Exchange} {r : RR} (hpre : l1 <+: l2)
    (h : Src n st0 l1 r) : Src n st0 l2 r := by
  rcases h with h | ⟨st, fuel, q, lr, h1, h2, h3, h4⟩
  · exact Or.inl (h.mono hpre)
  · exact Or.inr ⟨st, fuel, q, lr, h1, h2.trans hpre, h3, h4⟩

theorem Src.of_reach {n : Net} {a b : St} {log : List Exchange} {r : RR} (hab : Reach n a b)
    (h : Src n b log r) : Src n a log r := by
  rcases h with h | ⟨st, fuel, q, lr, h1, h2, h3, h4⟩
  · exact Or.inl h
  · exact Or.inr ⟨st, fuel, q, lr, hab.trans h1, h2, h3, h4⟩

theorem Src.loc {n : Net} {st : St} {fuel : Nat} {q : Question} {lr : LocalResult} {r : RR}
    (h : (resolveLocal fuel st.ctx q).2 = .ok lr) (hr : r ∈ lr.allRrs) : Src n st st.run.log r :=
  Or.inr ⟨st, fuel, q, lr, Reach.refl st, List.prefix_refl _, h, hr⟩

theorem mem_allRrs_merge {a b : List RR} {soa : Option RR} {r : RR}
    (h : r ∈ (ResolvedRecord.nonAuthoritative (prioritisingMerge a b) soa).allRrs) : r ∈ a ∨ r ∈ b ++ soa.toList := by
  rcases List.mem_append.mp h with h | h
  · exact (mem_prioritisingMerge h).imp id (List.mem_append_left _)
  · exact Or.inr (List.mem_append_right _ h)

theorem allRrs_alias (rrs : List RR) (res : ResolvedRecord) :
    (ResolvedRecord.nonAuthoritative (rrs ++ res.rrs) res.soaRR).allRrs = rrs ++ res.allRrs :=
  List.append_assoc _ _ _

theorem mem_of_initialCombined {loc : Except ResolutionError LocalResult} {r : RR} (h : r ∈ initialCombined loc) :
    ∃ lr, loc = .ok lr ∧ r ∈ lr.allRrs := by
  unfold initialCombined at h
  split at h
  · exact ⟨_, rfl, h⟩
  · cases h

/-! ## What a function of the machine yields -/

/-- `p` (state and result) comes out of a run from `st` that was handed the records `known`: the
    state is reachable with the stack restored, and every record of an `ok` result is one of
    `known` or has a source relative to `st` at the final log. -/
structure Yields (n : Net) (st : St) (known : List RR) (p : St × Except ResolutionError ResolvedRecord) : Prop where
  good : Good n st p.1
  accounted : ∀ res, p.2 = .ok res → ∀ r ∈ res.allRrs, r ∈ known ∨ Src n st p.1.run.log r

theorem Yields.error {n : Net} {st st' : St} {known : List RR} (e : ResolutionError) (h : Good n st st') :
    Yields n st known (st', .error e) :=
  ⟨h, fun _ hh => by cases hh⟩

theorem Yields.ok {n : Net} {st st' : St} {known : List RR} {res : ResolvedRecord} (h : Good n st st')
    (hr : ∀ r ∈ res.allRrs, r ∈ known ∨ Src n st st'.run.log r) : Yields n st known (st', .ok res) :=
  ⟨h, fun _ hh => by cases hh; exact hr⟩

theorem Yields.src {n : Net} {st : St} {p : St × Except ResolutionError ResolvedRecord} (h : Yields n st [] p)
    {res : ResolvedRecord} (hres : p.2 = .ok res) : ∀ r ∈ res.allRrs, Src n st p.1.run.log r :=
  fun r hr => (h.accounted res hres r hr).resolve_left List.not_mem_nil

theorem Yields.after {n : Net} {a b : St} {known known' : List RR} {p : St × Except ResolutionError ResolvedRecord}
    (hab : Good n a b) (hk : ∀ r ∈ known', r ∈ known ∨ Src n a b.run.log r) (h : Yields n b known' p) :
    Yields n a known p := by
  refine ⟨hab.trans h.good, fun res hres r hr => ?_⟩
  rcases h.accounted res hres r hr with h1 | h1
  · exact (hk r h1).imp id (Src.mono h.good.reach.log_prefix)
  · exact Or.inr (h1.of_reach hab.reach)

theorem Yields.after_same {n : Net} {a b : St} {known : List RR} {p : St × Except ResolutionError ResolvedRecord}
    (hab : Good n a b) (h : Yields n b known p) : Yields n a known p :=
  h.after hab (fun _ hr => Or.inl hr)

theorem Yields.bracket {n : Net} {st : St} {known : List RR} {p : St × Except ResolutionError ResolvedRecord}
    (q : Question) (ht : st.run.timedOut = false) (hl : st.ctx.stack.length ≠ RECURSION_LIMIT)
    (hd : q ∉ st.ctx.stack) (h : Yields n ⟨st.ctx.push q, st.run⟩ known p) :
    Yields n st known (⟨p.1.ctx.pop, p.1.run⟩, p.2) :=
  ⟨Good.bracket q ht hl hd h.good, fun res hres r hr => (h.accounted res hres r hr).imp id
    (Src.of_reach (Reach.push st q ht (Ctx.atRecursionLimit_eq_false.mpr hl) (Ctx.isDuplicate_eq_false.mpr hd)))⟩

theorem Yields.combined {n : Net} {st st1 : St} {known rrs : List RR} {r : Except ResolutionError ResolvedRecord}
    {q : Question} (h : Yields n st [] (st1, r)) (hk : ∀ x ∈ rrs, x ∈ known ∨ Src n st st1.run.log x) :
    Yields n st known (st1, combinedResult rrs q r) := by
  refine ⟨h.good, fun res hres x hx => ?_⟩
  obtain ⟨r0, h0, rfl⟩ := combinedResult_ok hres
  rw [allRrs_alias] at hx
  exact (List.mem_append.mp hx).elim (hk x) fun hx => Or.inr (h.src h0 x hx)

/-! ## The recursive machine -/

/-- what the walk over the mutual block proves of its four functions at one fuel (`tryTypes` returns no
    records: only its state matters). -/
def MachineRun (cfg : RecCfg) (fuel : Nat) : Prop :=
  (∀ st q, Yields cfg.net st [] (resolveRec cfg fuel st q)) ∧
  (∀ st q combined mc cands next locally,
    Yields cfg.net st combined (candidateLoop cfg fuel st q combined mc cands next locally)) ∧
  (∀ st rrs q, Yields cfg.net st rrs (resolveCombined cfg fuel st rrs q)) ∧
  (∀ st locally host types, Good cfg.net st (tryTypes cfg fuel st locally host types).1)

theorem machine_run (cfg : RecCfg) : ∀ fuel, MachineRun cfg fuel := by
  intro fuel
  induction fuel with
  | zero =>
    refine ⟨?_, ?_, ?_, ?_⟩
    · intro st q; rw [resolveRec_zero]; exact .error _ (Good.refl _ _)
    · intro st q combined mc cands next locally; rw [candidateLoop_zero]; exact .error _ (Good.refl _ _)
    · intro st rrs q; rw [resolveCombined_zero]; exact .error _ (Good.refl _ _)
    · intro st locally host types; rw [tryTypes_zero]; exact Good.refl _ _
  | succ fuel ih =>
    obtain ⟨ihR, ihL, ihC, ihT⟩ := ih
    refine ⟨?_, ?_, ?_, ?_⟩
    · intro st q
      rw [resolveRec_succ]
      have hloc := Good.loc cfg.net st (RECURSION_LIMIT + 1) q
      have hsrc : ∀ {lr}, (resolveLocal (RECURSION_LIMIT + 1) st.ctx q).2 = .ok lr →
          ∀ r ∈ lr.allRrs, r ∈ [] ∨ Src cfg.net st st.run.log r := fun h r hr => Or.inr (Src.loc h hr)
      apply machineEntry_cases
      case timedOut => exact fun _ => .error _ (Good.refl _ _)
      case atLimit => exact fun _ _ => .error _ (Good.refl _ _)
      case duplicate => exact fun _ _ _ => .error _ (Good.refl _ _)
      case done => exact fun _ _ hres => .ok hloc (hsrc hres)
      case goOn =>
        intro ht hl hd
        refine ⟨fun rrs cq hres => .after hloc (hsrc hres) (.bracket q ht hl hd (ihC _ rrs cq)), fun _ _ => ?_⟩
        have hcand := initialCandidates_good cfg.net ⟨(resolveLocal (RECURSION_LIMIT + 1) st.ctx q).1.push q, st.run⟩ q
          (resolveLocal (RECURSION_LIMIT + 1) st.ctx q).2
        rcases recUpstream_cases cfg fuel ⟨(resolveLocal (RECURSION_LIMIT + 1) st.ctx q).1.push q, st.run⟩ q
            (resolveLocal (RECURSION_LIMIT + 1) st.ctx q).2 with ⟨st3, hic, e⟩ | ⟨st3, c, hic, e⟩ <;>
          rw [e] <;> rw [hic] at hcand
        · exact .error _ (hloc.trans (Good.bracket (st := ⟨_, st.run⟩) q ht hl hd hcand))
        · refine .after hloc (fun r hr => ?_) (.bracket q ht hl hd (.after_same hcand (ihL _ _ _ _ _ _ _)))
          obtain ⟨lr, h1, h2⟩ := mem_of_initialCombined hr
          exact hsrc h1 r h2
    · intro st q combined mc cands next locally
      have htry : ∀ {c st1 ip}, tryTypes cfg fuel st locally c (rtypesFor cfg.mode) = (st1, ip) → Good cfg.net st st1 :=
        fun {c _ _} hT => by have := ihT st locally c (rtypesFor cfg.mode); rwa [hT] at this
      have hq : ∀ {c st1 addr}, tryTypes cfg fuel st locally c (rtypesFor cfg.mode) = (st1, some addr) →
          st1.run.timedOut = false →
          Good cfg.net st1 ⟨st1.ctx, (queryNameserver cfg.oracle st1.run addr cfg.port q false).1⟩ :=
        fun hT ht1 => Good.query cfg.net _ _ q (tryTypes_family cfg fuel st locally _ _ (by rw [hT])) ht1
      apply candidateLoop_cases
      case timedOut => exact fun _ => .error _ (Good.refl _ _)
      case noCandidate => exact fun _ _ => .error _ (Good.refl _ _)
      case lookupTimedOut => exact fun _ _ _ _ _ hT _ => .error _ (htry hT)
      case queryTimedOut => exact fun _ _ _ _ _ hT ht1 _ => .error _ ((htry hT).trans (hq hT ht1))
      case noAddr =>
        intro c st1 _ _ hT _
        obtain ⟨_, _, _, e⟩ := loopNoAddr_loop cfg fuel st1 q combined mc c cands.dropLast next locally
        rw [e]
        exact .after_same (htry hT) (ihL _ _ _ _ _ _ _)
      case reply =>
        intro c st1 addr _ _ hT ht1 _
        refine .after_same ((htry hT).trans (hq hT ht1)) ?_
        cases hresp : (queryNameserver cfg.oracle st1.run addr cfg.port q false).2.bind
            (fun res => validateNameserverResponse q res mc) with
        | none => exact .error _ (Good.refl _ _)
        | some resp =>
          -- the records of the validated reply occur in a logged reply: they may enter the cache
          -- and the result
          have hsrc := query_validated_allRrs_fromLog hresp
          generalize (queryNameserver cfg.oracle st1.run addr cfg.port q false).1 = run2 at hsrc ⊢
          have hcache := Good.cache cfg.net ⟨st1.ctx, run2⟩ resp.rrs
            (fun r hr => hsrc r (resp.rrs_subset_allRrs r hr))
          have hrep : ∀ r ∈ resp.allRrs, r ∈ combined ∨ Src cfg.net ⟨st1.ctx, run2⟩ run2.log r :=
            fun r hr => Or.inr (Or.inl (hsrc r hr))
          cases resp with
          | answer rrs soa => exact .ok hcache (fun r hr => (mem_allRrs_merge hr).elim Or.inl (hrep r))
          | cname rrs c =>
            exact .after hcache (fun r hr => (mem_prioritisingMerge hr).elim Or.inl (hrep r)) (ihC _ _ _)
          | delegation rrs hs name =>
            cases hglue : glueFor q rrs with
            | some rr =>
              rw [loopAfterReply_glue _ _ _ _ hs name hglue]
              refine .ok hcache (fun r hr => (mem_allRrs_merge hr).elim Or.inl (fun h => ?_))
              rcases List.mem_append.mp h with h | h
              · exact hrep r (List.mem_singleton.mp h ▸ (glueFor_some hglue).1)
              · cases h
            | none =>
              rw [loopAfterReply_follow _ _ _ _ hs name hglue]
              exact .after_same hcache (ihL _ _ _ _ _ _ _)
    · intro st rrs q
      rw [resolveCombined_succ]
      exact .combined (ihR st q) fun _ hx => Or.inl hx
    · intro st locally host types
      cases types with
      | nil => rw [tryTypes_nil]; exact Good.refl _ _
      | cons t more =>
        rw [tryTypes_cons]
        have hstep := lookupStep_good (fun st q => (ihR st q).good) st locally host t
        split
        · exact Good.refl _ _
        · split
          · exact hstep
          · exact hstep.trans (ihT _ _ _ _)

theorem machine_good_imp (cfg : RecCfg) (fuel : Nat) {P : St → St → Prop} (hP : ∀ {a b}, Good cfg.net a b → P a b) :
    (∀ st q, P st (resolveRec cfg fuel st q).1) ∧
    (∀ st q combined mc cands next locally, P st (candidateLoop cfg fuel st q combined mc cands next locally).1) ∧
    (∀ st rrs q, P st (resolveCombined cfg fuel st rrs q).1) ∧
    (∀ st locally host types, P st (tryTypes cfg fuel st locally host types).1) :=
  have ⟨h1, h2, h3, h4⟩ := machine_run cfg fuel
  ⟨fun st q => hP (h1 st q).good, fun st q c m cs n l => hP (h2 st q c m cs n l).good, fun st r q => hP (h3 st r q).good,
    fun st l ho t => hP (h4 st l ho t)⟩

theorem machine_good (cfg : RecCfg) (fuel : Nat) :
    (∀ st q, Good cfg.net st (resolveRec cfg fuel st q).1) ∧
    (∀ st q combined mc cands next locally,
      Good cfg.net st (candidateLoop cfg fuel st q combined mc cands next locally).1) ∧
    (∀ st rrs q, Good cfg.net st (resolveCombined cfg fuel st rrs q).1) ∧
    (∀ st locally host types, Good cfg.net st (tryTypes cfg fuel st locally host types).1) :=
  machine_good_imp cfg fuel id

/-! ## The forwarding machine -/

theorem fwd_run (cfg : FwdCfg) : ∀ (fuel : Nat) (st : St) (q : Question),
    Yields cfg.net st [] (resolveFwd cfg fuel st q) := by
  intro fuel
  induction fuel with
  | zero => intro st q; rw [resolveFwd_zero]; exact .error _ (Good.refl _ _)
  | succ fuel ih =>
    intro st q
    rw [resolveFwd_succ]
    have hloc := Good.loc cfg.net st (RECURSION_LIMIT + 1) q
    have hsrc : ∀ {lr}, (resolveLocal (RECURSION_LIMIT + 1) st.ctx q).2 = .ok lr →
        ∀ r ∈ lr.allRrs, r ∈ [] ∨ Src cfg.net st st.run.log r := fun h r hr => Or.inr (Src.loc h hr)
    apply machineEntry_cases
    case timedOut => exact fun _ => .error _ (Good.refl _ _)
    case atLimit => exact fun _ _ => .error _ (Good.refl _ _)
    case duplicate => exact fun _ _ _ => .error _ (Good.refl _ _)
    case done => exact fun _ _ hres => .ok hloc (hsrc hres)
    case goOn =>
      intro ht hl hd
      refine ⟨fun rrs cq hres => ?_, fun _ _ => ?_⟩
      · have hrec : Yields cfg.net st [] _ := .after_same hloc (.bracket q ht hl hd (ih _ cq))
        exact .combined hrec fun x hx => (hsrc hres x hx).imp id (Src.mono hrec.good.reach.log_prefix)
      have hq : Good cfg.net ⟨(resolveLocal (RECURSION_LIMIT + 1) st.ctx q).1, st.run⟩
          ⟨(resolveLocal (RECURSION_LIMIT + 1) st.ctx q).1,
            (queryNameserver cfg.oracle st.run cfg.addr cfg.port q true).1⟩ :=
        Good.query cfg.net ⟨_, st.run⟩ cfg.addr q rfl ht
      have hrep : ∀ {m}, (queryNameserver cfg.oracle st.run cfg.addr cfg.port q true).2 = some m → ∀ r ∈ m.allRrs,
          FromLog cfg.oracle (queryNameserver cfg.oracle st.run cfg.addr cfg.port q true).1.log r :=
        query_reply_fromLog
      cases ht2 : (queryNameserver cfg.oracle st.run cfg.addr cfg.port q true).1.timedOut with
      | true =>
        rw [fwdUpstream_timedOut (st1 := ⟨(resolveLocal (RECURSION_LIMIT + 1) st.ctx q).1, st.run⟩) ht2]
        exact .error _ (hloc.trans hq)
      | false =>
      cases hresp : (queryNameserver cfg.oracle st.run cfg.addr cfg.port q true).2 with
      | none =>
        rw [fwdUpstream_silent (st1 := ⟨(resolveLocal (RECURSION_LIMIT + 1) st.ctx q).1, st.run⟩) ht2 hresp]
        exact .error _ (hloc.trans hq)
      | some response =>
        rw [fwdUpstream_reply (st1 := ⟨(resolveLocal (RECURSION_LIMIT + 1) st.ctx q).1, st.run⟩) ht2 hresp]
        -- the answer section and the SOA passed on are records of the logged reply
        have hfrom := hrep hresp
        generalize (queryNameserver cfg.oracle st.run cfg.addr cfg.port q true).1 = run2 at hq hfrom ⊢
        have hcache := Good.cache cfg.net ⟨(resolveLocal (RECURSION_LIMIT + 1) st.ctx q).1, run2⟩ response.answers
          (fun r hr => hfrom r (Message.mem_allRrs.mpr (.inl hr)))
        refine .ok (hloc.trans (hq.trans hcache)) (fun r hr => ?_)
        rcases mem_allRrs_merge hr with h | h
        · obtain ⟨lr, h1, h2⟩ := mem_of_initialCombined h
          exact (hsrc h1 r h2).imp id (Src.mono hq.reach.log_prefix)
        · refine Or.inr (Or.inl (hfrom r ?_))
          rcases List.mem_append.mp h with h | h
          · exact Message.mem_allRrs.mpr (.inl h)
          · cases hs : getNxdomainNodataSoa q response 0 with
            | none => rw [hs] at h; cases h
            | some soa =>
              rw [hs, Option.toList_some, List.mem_singleton] at h
              exact Message.mem_allRrs.mpr (.inr (.inl (h ▸ (getNxdomainNodataSoa_mem hs).1)))

theorem resolveFwd_good (cfg : FwdCfg) : ∀ (fuel : Nat) (st : St) (q : Question),
    Good cfg.net st (resolveFwd cfg fuel st q).1 :=
  fun fuel st q => (fwd_run cfg fuel st q).good

/-! ## A whole resolution -/

/-- What holds of a whole resolution of either machine (`n` its `Net`, `ctx` the context it started from, `out` what
    the 60 s wrapper returned). -/
structure WrappedRun (n : Net) (ctx : Ctx) (out : St × Except ResolutionError ResolvedRecord) : Prop where
  reach : Reach n ⟨ctx, Run.empty⟩ out.1
  budget : out.1.run.elapsedMs ≤ RESOLVE_TIMEOUT_MS
  cost : out.1.run.elapsedMs ≤ EXCHANGE_TIMEOUT_MS * out.1.run.log.length
  logOK : LogOK n out.1.run.log
  timedOut : out.1.run.timedOut = true → out.2 = .error .timeout
  beforeDeadline : out.2 ≠ .error .timeout → out.1.run.elapsedMs < RESOLVE_TIMEOUT_MS
  ctx_same : out.1.ctx.zones = ctx.zones ∧ out.1.ctx.now = ctx.now
  src : ∀ res, out.2 = .ok res → ∀ r ∈ res.allRrs, Src n ⟨ctx, Run.empty⟩ out.1.run.log r

theorem wrapped_from_empty {n : Net} {ctx : Ctx} {p : St × Except ResolutionError ResolvedRecord}
    (h : Yields n ⟨ctx, Run.empty⟩ [] p) : WrappedRun n ctx (deadlineWrap p) where
  reach := by rw [deadlineWrap_fst]; exact h.good.reach
  budget := by rw [deadlineWrap_fst]; exact (h.good.reach.runOK RunOK.empty).1
  cost := by rw [deadlineWrap_fst]; exact h.good.reach.cost.of_empty
  logOK := by rw [deadlineWrap_fst]; exact h.good.reach.logOK (LogOK.nil _)
  timedOut := deadlineWrap_timedOut
  beforeDeadline := fun hne => by
    cases ht : (deadlineWrap p).1.run.timedOut with
    | true => exact absurd (deadlineWrap_timedOut ht) hne
    | false => rw [deadlineWrap_fst] at ht ⊢; exact (h.good.reach.deadline Deadline.empty).2 ht
  ctx_same := by rw [deadlineWrap_fst]; exact h.good.reach.ctx_same
  src := fun res hres => by have e := deadlineWrap_of_ok hres; rw [e] at hres ⊢; exact h.src hres

theorem resolveRecursive_wrapped (cfg : RecCfg) (ctx : Ctx) (q : Question) :
    WrappedRun cfg.net ctx (resolveRecursive cfg ctx q) :=
  wrapped_from_empty ((machine_run cfg REC_FUEL).1 _ q)

theorem resolveForwarding_wrapped (cfg : FwdCfg) (ctx : Ctx) (q : Question) :
    WrappedRun cfg.net ctx (resolveForwarding cfg ctx q) :=
  wrapped_from_empty (fwd_run cfg REC_FUEL _ q)

end Resolved
